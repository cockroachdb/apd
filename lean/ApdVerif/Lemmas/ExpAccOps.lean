import ApdVerif.Lemmas.RoundedOp
import ApdVerif.Lemmas.ExpAccUnits
/-!
# The decimal operations of `Exp`'s working context as perturbed real operations

The working context `nc` of `Exp` has the package's exponent range and rounds half-even, so an operation that returns
without an error delivers the exact result rounded once (`Lemmas/RoundedOp.lean`); read over `ℝ` that is the exact
result times `(1+δ)`, `|δ| ≤ uR p = 10^(1-p)/2`.  The working contexts of `Ln` and `Log10` are of the same kind and use
the same lemmas.  A step of an `ErrDecimal` that did not fail hands on the state `EDg` and that reading of its result.
-/
namespace Apd.ExpAcc

theorem _root_.Apd.Rounded.real {p : ℕ} {v : ℚ} {d : Dec} (h : Rounded p v d) {e : ℝ} (he : (v : ℝ) = e) :
    d.form = .finite ∧ ∃ δ : ℝ, |δ| ≤ uR p ∧ rv d = e * (1 + δ) := by
  obtain ⟨δ, h1, h2⟩ := h.rel
  refine ⟨h.fin, (δ : ℝ), ?_, by rw [rv, h2, ← he]; push_cast; rfl⟩
  rw [← uR_cast, ← Rat.cast_abs]; exact_mod_cast h1

theorem Wide.work {c : Ctx} (hw : Wide c) (hm : c.mode = .halfEven) : Work c c.prec := ⟨rfl, hw, Or.inr (Or.inr hm)⟩

theorem mul_rel (c : Ctx) (hw : Wide c) (hm : c.mode = .halfEven) (x y : Dec)
    (hx : x.form = .finite) (hy : y.form = .finite) (he : (mulOp c x y).err = .none) :
    (mulOp c x y).d.form = .finite ∧ ∃ δ : ℝ, |δ| ≤ uR c.prec ∧ rv (mulOp c x y).d = rv x * rv y * (1 + δ) :=
  (mulOp_rounded c (hw.work hm) x y hx hy he).real (by unfold rv; push_cast; rfl)

theorem quo_rel (c : Ctx) (hw : Wide c) (hm : c.mode = .halfEven) (x y : Dec)
    (hx : x.form = .finite) (hy : y.form = .finite) (hy0 : rv y ≠ 0) (he : (quoOp c x y).err = .none) :
    (quoOp c x y).d.form = .finite ∧ ∃ δ : ℝ, |δ| ≤ uR c.prec ∧ rv (quoOp c x y).d = rv x / rv y * (1 + δ) :=
  (quoOp_rounded c (hw.work hm) x y hx hy (fun h => hy0 ((rv_eq_zero_iff y).2 h)) he).real
    (by unfold rv; push_cast; rfl)

theorem add_rel (c : Ctx) (hw : Wide c) (hm : c.mode = .halfEven) (x y : Dec) (sub : Bool)
    (hx : x.form = .finite) (hy : y.form = .finite) (he : (addOp c x y sub).err = .none) :
    (addOp c x y sub).d.form = .finite ∧
      ∃ δ : ℝ, |δ| ≤ uR c.prec ∧
        rv (addOp c x y sub).d = (rv x + (if sub then - rv y else rv y)) * (1 + δ) :=
  (addOp_rounded c (hw.work hm) x y sub hx hy he).real (by unfold rv; cases sub <;> simp)

theorem round_rel (c : Ctx) (hw : Wide c) (hm : c.mode = .halfEven) (F : Dec) (hFf : F.form = .finite)
    (hns : NoSys (ctxRound c F).2) :
    (ctxRound c F).1.form = .finite ∧ ∃ δ : ℝ, |δ| ≤ uR c.prec ∧ rv (ctxRound c F).1 = rv F * (1 + δ) :=
  (ctxRound_rounded c (hw.work hm) F hFf hns).real rfl

section step
variable {cc : Ctx} {e : ED} {cur x y : Dec} {r : ED × Dec}

theorem _root_.Apd.EDg.mul_real (he : EDg cc e) (hw : Wide cc) (hm : cc.mode = .halfEven)
    (hr : e.step cur (fun c => mulOp c x y) = r) (h : r.1.failed = false) (hx : x.form = .finite)
    (hy : y.form = .finite) :
    EDg cc r.1 ∧ r.2.form = .finite ∧ ∃ δ : ℝ, |δ| ≤ uR cc.prec ∧ rv r.2 = rv x * rv y * (1 + δ) := by
  obtain ⟨a, v, E⟩ := he.step_back hr h
  exact ⟨E, v ▸ mul_rel cc hw hm x y hx hy a⟩

theorem _root_.Apd.EDg.quo_real (he : EDg cc e) (hw : Wide cc) (hm : cc.mode = .halfEven)
    (hr : e.step cur (fun c => quoOp c x y) = r) (h : r.1.failed = false) (hx : x.form = .finite)
    (hy : y.form = .finite) (hy0 : rv y ≠ 0) :
    EDg cc r.1 ∧ r.2.form = .finite ∧ ∃ δ : ℝ, |δ| ≤ uR cc.prec ∧ rv r.2 = rv x / rv y * (1 + δ) := by
  obtain ⟨a, v, E⟩ := he.step_back hr h
  exact ⟨E, v ▸ quo_rel cc hw hm x y hx hy hy0 a⟩

theorem _root_.Apd.EDg.add_real (he : EDg cc e) (hw : Wide cc) (hm : cc.mode = .halfEven) {sub : Bool}
    (hr : e.step cur (fun c => addOp c x y sub) = r) (h : r.1.failed = false) (hx : x.form = .finite)
    (hy : y.form = .finite) :
    EDg cc r.1 ∧ r.2.form = .finite ∧
      ∃ δ : ℝ, |δ| ≤ uR cc.prec ∧ rv r.2 = (rv x + (if sub then - rv y else rv y)) * (1 + δ) := by
  obtain ⟨a, v, E⟩ := he.step_back hr h
  exact ⟨E, v ▸ add_rel cc hw hm x y sub hx hy a⟩

end step

/-! ## division by one is exact (the last Horner round) -/

theorem quo_one_exact (c : Ctx) (hw : Wide c) (hm : c.mode = .halfEven) (x : Dec) (hx : x.form = .finite)
    (hx0 : rv x ≠ 0) (hnd : ndigits x.coeff ≤ c.prec) (he : (quoOp c x { coeff := 1 }).err = .none) :
    (quoOp c x { coeff := 1 }).d.form = .finite ∧ rv (quoOp c x { coeff := 1 }).d = rv x := by
  have R := quoOp_rounded c (hw.work hm) x { coeff := 1 } hx rfl (by decide) he
  rw [show ({ coeff := 1 } : Dec).toRat = 1 by simp [Dec.toRat], div_one] at R
  have ha := abs_toRat_isAdj x (Nat.pos_of_ne_zero fun h => hx0 ((rv_eq_zero_iff x).2 h))
  -- `x` has at most `prec` digits: it lies on the grid of its own rounding
  have := R.exact hw.prec1 (b := x.exp + (ndigits x.coeff : ℤ) - 1) ha.2 x.coeff
    (by rw [abs_toRat, Int.cast_natCast]) (by omega)
  exact ⟨R.fin, by unfold rv; rw [this]⟩

theorem cmp_le_toRat (d x : Dec) (hd : d.form = .finite) (hx : x.form = .finite) (h : d.cmp x ≤ 0) :
    d.toRat ≤ x.toRat := (cmp_toRat d x hd hx).1.1 h

theorem cmp_gt_toRat (d x : Dec) (hd : d.form = .finite) (hx : x.form = .finite) (h : ¬ d.cmp x ≤ 0) :
    x.toRat < d.toRat := (cmp_toRat_lt d x hd hx).2.1 (not_le.1 h)

theorem abs_rv_le_of_cmp (d b : Dec) (hd : d.form = .finite) (hb : b.form = .finite) (h : d.absD.cmp b ≤ 0) :
    |rv d| ≤ rv b := by
  have hle := cmp_le_toRat d.absD b hd hb h
  rw [absD_toRat] at hle
  unfold rv
  rw [← Rat.cast_abs]
  exact_mod_cast hle

end Apd.ExpAcc
