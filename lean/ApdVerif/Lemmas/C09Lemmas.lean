import ApdVerif.Lemmas.RoundOut
/-!
# Lemmas for C09 (Quantize / RoundToIntegral / Ceil / Floor)

`quantize` calls `Round` in a shifted frame: precision `nd - k`, which may be 0, exponent `-k`, `emin = MinExponent`,
`emax = frameEmax`.  `roundX_quant` follows that call (the long path `roundX_long_eq`) through `setExponent`;
`quantizeCore_spec` reads the result against the oracle's `roundAt` (outcome `QGood`), with the system-limit exits
(`quantizeCore_sys`) and the zero case (`quantizeCore_zero`) apart.  Core Lean only.
-/
namespace Apd.C09L
open Apd.Oracle Cond

@[simp] theorem Cond.or_sysOverflow (a b : Cond) : (a ||| b).sysOverflow = (a.sysOverflow || b.sysOverflow) := rfl
@[simp] theorem Cond.or_sysUnderflow (a b : Cond) : (a ||| b).sysUnderflow = (a.sysUnderflow || b.sysUnderflow) := rfl
@[simp] theorem Cond.or_overflow (a b : Cond) : (a ||| b).overflow = (a.overflow || b.overflow) := rfl
@[simp] theorem Cond.or_underflow (a b : Cond) : (a ||| b).underflow = (a.underflow || b.underflow) := rfl
@[simp] theorem Cond.or_inexact (a b : Cond) : (a ||| b).inexact = (a.inexact || b.inexact) := rfl
@[simp] theorem Cond.or_subnormal (a b : Cond) : (a ||| b).subnormal = (a.subnormal || b.subnormal) := rfl
@[simp] theorem Cond.or_rounded (a b : Cond) : (a ||| b).rounded = (a.rounded || b.rounded) := rfl
@[simp] theorem Cond.or_divUndefined (a b : Cond) : (a ||| b).divUndefined = (a.divUndefined || b.divUndefined) := rfl
@[simp] theorem Cond.or_divByZero (a b : Cond) : (a ||| b).divByZero = (a.divByZero || b.divByZero) := rfl
@[simp] theorem Cond.or_divImpossible (a b : Cond) : (a ||| b).divImpossible = (a.divImpossible || b.divImpossible) := rfl
@[simp] theorem Cond.or_invalidOp (a b : Cond) : (a ||| b).invalidOp = (a.invalidOp || b.invalidOp) := rfl
@[simp] theorem Cond.or_clamped (a b : Cond) : (a ||| b).clamped = (a.clamped || b.clamped) := rfl

/-- the oracle's `roundAt` on a decimal when `k` digits are discarded -/
abbrev rnd (mode : Mode) (neg : Bool) (n k : Nat) : Nat × Bool := roundQuot mode neg n (10 ^ k)

/-- coefficient and exponent summand that `roundX_long_eq` hands to `setExponent`, through the one number `S`: 1 after
a carry, else 0 -/
theorem kept_spec (mode : Mode) (neg : Bool) (n k : Nat) :
    ∃ S : Nat, S ≤ 1 ∧
      (if ndigits (n / 10 ^ k) < ndigits (rnd mode neg n k).1 then (k : Int) + 1 else k) = (k : Int) + S ∧
      (if ndigits (n / 10 ^ k) < ndigits (rnd mode neg n k).1 then (rnd mode neg n k).1 / 10
        else (rnd mode neg n k).1) * 10 ^ S = (rnd mode neg n k).1 ∧
      ndigits (if ndigits (n / 10 ^ k) < ndigits (rnd mode neg n k).1 then (rnd mode neg n k).1 / 10
        else (rnd mode neg n k).1) + S = ndigits (rnd mode neg n k).1 ∧
      (S = 1 → ndigits (rnd mode neg n k).1 > ndigits (n / 10 ^ k)) := by
  unfold rnd
  rcases (roundStep mode neg n (10 ^ k) 0).2 with ⟨n1, -⟩ | ⟨n1, -, v1, v2⟩
  · have hc : ¬ ndigits (n / 10 ^ k) < ndigits (roundQuot mode neg n (10 ^ k)).1 := by omega
    simp only [if_neg hc]
    exact ⟨0, by omega, by omega, by omega, by omega, by omega⟩
  · have hc : ndigits (n / 10 ^ k) < ndigits (roundQuot mode neg n (10 ^ k)).1 := by omega
    simp only [if_pos hc]
    exact ⟨1, by omega, by omega, by omega, by omega, fun _ => hc⟩

/-- the flags of the long path before `setExponent` -/
theorem rres_spec (b : Bool) :
    (if b = true then cRounded ||| cInexact else cRounded).inexact = b ∧
    (if b = true then cRounded ||| cInexact else cRounded).rounded = true ∧
    (if b = true then cRounded ||| cInexact else cRounded).overflow = false ∧
    (if b = true then cRounded ||| cInexact else cRounded).underflow = false ∧
    (if b = true then cRounded ||| cInexact else cRounded).invalidOp = false ∧
    (if b = true then cRounded ||| cInexact else cRounded).sysOverflow = false ∧
    (if b = true then cRounded ||| cInexact else cRounded).sysUnderflow = false ∧
    (if b = true then cRounded ||| cInexact else cRounded).subnormal = false := by
  cases b <;> exact ⟨rfl, rfl, rfl, rfl, rfl, rfl, rfl, rfl⟩

theorem Dec.eta_exp (d : Dec) : ({ d with exp := d.exp } : Dec) = d := by cases d; rfl

/-- the coefficient after `quantize`'s rollover fix-up -/
def qco (d : Dec) : Nat := if d.exp > 0 then d.coeff * 10 else d.coeff

/-- `Round` in `quantize`'s shifted frame (precision `p = nd - k`, exponent `-k`) -/
theorem roundX_quant (c : Ctx) (v : Dec) (hv : v.form = .finite) (k p : Nat) (hp : ndigits v.coeff = p + k)
    (hk0 : 0 < k) (hk1 : k ≤ 100000)
    (hcarry : k < 100000 ∨ ndigits (rnd c.mode v.neg v.coeff k).1 ≤ ndigits (v.coeff / 10 ^ k))
    (F : Int) (hF : -100000 ≤ F) :
    ∀ r, roundXFin { c with prec := p, emin := MinExponent, emax := F } { v with exp := -(k : Int) } false = r →
    (r.1.form = v.form ∧ r.1.neg = v.neg ∧ qco r.1 = (rnd c.mode v.neg v.coeff k).1 ∧
      r.2.inexact = (rnd c.mode v.neg v.coeff k).2 ∧ r.2.rounded = true ∧
      r.2.overflow = false ∧ r.2.underflow = false ∧ r.2.invalidOp = false ∧
      r.2.sysOverflow = false ∧ r.2.sysUnderflow = false ∧ r.2.subnormal = false) ∨
    (r.2.overflow = true ∧
      ((ndigits (rnd c.mode v.neg v.coeff k).1 : Int) - 1 > 100000 ∨
       ((rnd c.mode v.neg v.coeff k).1 ≠ 0 ∧ (ndigits (rnd c.mode v.neg v.coeff k).1 : Int) - 1 > F))) := by
  intro r hr
  have h1 : ¬ (-(k : Int) + (ndigits v.coeff : Int) - 1 < MinExponent) := by
    simp only [MinExponent]; omega
  rw [roundX_long_eq { c with prec := p, emin := MinExponent, emax := F } { v with exp := -(k : Int) } false hv rfl
        (fun h => h1 h.2) k (by simp only []; omega) hk0 hk1] at hr
  simp only [] at hr
  obtain ⟨S, hS, hE, hY, hN, hC⟩ := kept_spec c.mode v.neg v.coeff k
  obtain ⟨f1, f2, f3, f4, f5, f6, f7, f8⟩ := rres_spec (rnd c.mode v.neg v.coeff k).2
  generalize (if ndigits (v.coeff / 10 ^ k) < ndigits (rnd c.mode v.neg v.coeff k).1 then (rnd c.mode v.neg v.coeff k).1 / 10
    else (rnd c.mode v.neg v.coeff k).1) = Y at *
  generalize (if ndigits (v.coeff / 10 ^ k) < ndigits (rnd c.mode v.neg v.coeff k).1 then (k : Int) + 1 else k) = E at *
  subst hE
  generalize (if (rnd c.mode v.neg v.coeff k).2 = true then cRounded ||| cInexact else cRounded) = res at *
  generalize rnd c.mode v.neg v.coeff k = R at *
  have hS' : (k : Int) + S ≤ 100000 := by omega
  have hx : checkXs [-(k : Int), (k : Int) + S] = none := checkXs_pair _ _ (by omega) (by omega) (by omega) hS'
  have hsum : sumInts [-(k : Int), (k : Int) + S] = S := by rw [sumInts_pair]; omega
  have hco : (if (S : Int) > 0 then Y * 10 else Y) = R.1 := by
    rcases (by omega : S = 0 ∨ S = 1) with h | h <;> subst h <;> simp at hY ⊢ <;> exact hY
  have hpos := ndigits_pos Y
  have hmin : (-100000 : Int) ≤ MinExponent := Int.le_refl _
  by_cases hb1 : (S : Int) + (ndigits Y : Int) - 1 > 100000
  · rw [setExponent_adjOver _ _ _ _ hsum hx (by exact hb1)] at hr
    subst hr
    right
    refine ⟨by simp [cOverflow], Or.inl (by omega)⟩
  · by_cases hb2 : (S : Int) + (ndigits Y : Int) - 1 > F
    · by_cases hY0 : Y = 0
      · -- a zero is clamped to the frame's Emax, never turned into an infinity
        subst hY0
        have hn0 : ndigits 0 = 1 := by decide
        have hR0 : R.1 = 0 := by rw [← hY]; simp
        have hS0 : S = 0 := by rw [hR0] at hN; omega
        subst hS0
        rw [setExponent_clampZero _ _ _ _ hsum hx (by dsimp only; omega) (by exact hb2)
              (by simp only [MinExponent]; exact hF) hmin (by simp [Dec.isZero, hv])] at hr
        subst hr
        left
        have hF : ¬ (F > 0) := by rw [hn0] at hb2; omega
        simp [seFinish, qco, hF, hR0, f1, f2, f3, f4, f5, f6, f7, f8, cClamped]
      · have hR0 : R.1 ≠ 0 := by
          rw [← hY]
          exact Nat.mul_ne_zero hY0 (Nat.pos_iff_ne_zero.1 (Nat.pow_pos (by decide)))
        rw [setExponent_overflow _ _ _ _ hsum hx (by dsimp only; omega) (by exact hb2)
              (by simp only [MinExponent]; exact hF) hmin (by simp [Dec.isZero, hY0])] at hr
        subst hr
        right
        refine ⟨by simp [seFinish, cOverflow, cInexact, f8], Or.inr ⟨hR0, by omega⟩⟩
    · rw [setExponent_normal _ _ _ _ hsum hx (by dsimp only; omega) (by simp only [MinExponent]; omega)
            (by exact Int.not_lt.1 hb2) hmin, seFinish_plain _ _ _ f8] at hr
      subst hr
      left
      simp only [qco, hco, Apd.Cond.or_inexact, Apd.Cond.or_rounded, Apd.Cond.or_overflow,
        Apd.Cond.or_underflow, Apd.Cond.or_invalidOp, Apd.Cond.or_sysOverflow, Apd.Cond.or_sysUnderflow,
        Apd.Cond.or_subnormal, f1, f2, f3, f4, f5, f6, f7, f8, Bool.or_self, and_self]

/-- the "delivered" outcome of `quantizeCore`: `R` is the specification's `(coefficient, inexact)` -/
def QGood (x : Dec) (e : Int) (R : Nat × Bool) (q : Dec × Cond) : Prop :=
  q.1 = { x with coeff := R.1, exp := e } ∧ q.2.inexact = R.2 ∧ (R.2 = true → q.2.rounded = true) ∧
  q.2.overflow = false ∧ q.2.underflow = false ∧ q.2.invalidOp = false ∧
  q.2.sysOverflow = false ∧ q.2.sysUnderflow = false ∧ q.2.subnormal = false

theorem small_div (n k : Nat) (hn : 0 < n) (h : ndigits n < k) :
    n / 10 ^ k = 0 ∧ n % 10 ^ k = n ∧ 2 * n < 10 ^ k := by
  have h1 := (ndigits_spec n hn).2
  have h2 : 10 ^ ndigits n ≤ 10 ^ (k - 1) := Nat.pow_le_pow_right (by decide) (by omega)
  have h3 := pow_pred_mul k (by omega)
  have h4 : n < 10 ^ k := by omega
  exact ⟨Nat.div_eq_of_lt h4, Nat.mod_eq_of_lt h4, by omega⟩

theorem frameEmax_lt (emax e A : Int) (hA : 0 ≤ A) (h : A > frameEmax emax e) :
    A > 100000 ∨ e + A > emax := by
  unfold frameEmax at h
  simp only [] at h
  by_cases a : emax - e > MaxExponent
  · rw [if_pos a] at h; simp only [MaxExponent] at h a; omega
  · rw [if_neg a] at h
    by_cases b : emax - e < MinExponent
    · rw [if_pos b] at h; simp only [MinExponent] at h b; omega
    · rw [if_neg b] at h; simp only [MaxExponent, MinExponent] at a b; omega

theorem frameEmax_ge (emax e : Int) : -100000 ≤ frameEmax emax e := by
  unfold frameEmax
  simp only []
  by_cases a : emax - e > MaxExponent
  · rw [if_pos a]; decide
  · rw [if_neg a]
    by_cases b : emax - e < MinExponent
    · rw [if_pos b]; decide
    · rw [if_neg b]; simp only [MinExponent] at b; omega

theorem quantizeCore_spec (c : Ctx) (x : Dec) (hx : x.form = .finite) (e : Int)
    (hgap : x.coeff = 0 ∨ x.exp - e ≤ 100000)
    (hgap2 : (ndigits x.coeff : Int) < e - x.exp ∨ e - x.exp < 100000 ∨
      (e - x.exp = 100000 ∧
        ndigits (roundAt c.mode x.neg x.coeff 1 x.exp e).1 ≤ ndigits (x.coeff / 10 ^ 100000))) :
    QGood x e (roundAt c.mode x.neg x.coeff 1 x.exp e) (quantizeCore c x e) ∨
    ((quantizeCore c x e).2.overflow = true ∧
      ((ndigits (roundAt c.mode x.neg x.coeff 1 x.exp e).1 : Int) - 1 > 100000 ∨
       ((roundAt c.mode x.neg x.coeff 1 x.exp e).1 ≠ 0 ∧
         e + (ndigits (roundAt c.mode x.neg x.coeff 1 x.exp e).1 : Int) - 1 > c.emax))) := by
  unfold quantizeCore
  simp only []
  by_cases hd : e - x.exp < 0
  · left
    rw [if_pos hd, roundAt_scale _ _ _ _ _ (by omega)]
    by_cases hz : x.coeff = 0
    · -- a zero is not rescaled, whatever the distance (finding F6)
      have h1 : x.isZero = true := by simp [Dec.isZero, hx, hz]
      simp [h1, QGood, hz]
    · have h1 : x.isZero = false := by simp [Dec.isZero, hz]
      have hg : x.exp - e ≤ 100000 := by rcases hgap with h | h; exact absurd h hz; exact h
      simp only [h1, Bool.not_false, if_true]
      rw [if_neg (by simp only [MinExponent]; omega)]
      have : -(e - x.exp) = x.exp - e := by omega
      rw [this]
      simp [QGood]
  · rw [if_neg hd]
    by_cases hd0 : e - x.exp > 0
    · rw [if_pos hd0]
      obtain ⟨k, hk⟩ : ∃ k : Nat, e - x.exp = k := ⟨(e - x.exp).toNat, by omega⟩
      rw [show roundAt c.mode x.neg x.coeff 1 x.exp e = rnd c.mode x.neg x.coeff k from by
        rw [roundAt_dec _ _ _ _ _ (by omega), hk]; rfl] at hgap2 ⊢
      rw [hk] at hgap2 ⊢
      have hk0 : 0 < k := by omega
      by_cases hp : (ndigits x.coeff : Int) - (k : Int) < 0
      · left
        rw [if_pos hp]
        by_cases hz : x.coeff = 0
        · have h1 : x.isZero = true := by simp [Dec.isZero, hx, hz]
          simp [h1, QGood, rnd, roundQuot, hz]
        · have h1 : x.isZero = false := by simp [Dec.isZero, hz]
          obtain ⟨a1, a2, a3⟩ := small_div x.coeff k (by omega) (by omega)
          have a4 : compare (2 * x.coeff) (10 ^ k) = .lt := Nat.compare_eq_lt.2 a3
          have a5 := shouldAddOne_eq_spec c.mode 0 x.neg 0 1
          have a6 : cmpNat 0 1 = -1 := by decide
          have a7 : compare 0 1 = Ordering.lt := by decide
          rw [a6, a7] at a5
          simp only [h1, Bool.not_false, if_true, QGood, rnd, roundQuot, a1, a2, a4, a5]
          have hz' : (x.coeff == 0) = false := by simp [hz]
          simp only [hz']
          cases specAddOne c.mode 0 x.neg Ordering.lt <;> simp [cInexact, cRounded]
      · rw [if_neg hp]
        obtain ⟨p, hp'⟩ : ∃ p : Nat, ndigits x.coeff = p + k := ⟨ndigits x.coeff - k, by omega⟩
        have hpt : ((ndigits x.coeff : Int) - (k : Int)).toNat = p := by omega
        rw [hpt]
        have hc' : k < 100000 ∨ ndigits (rnd c.mode x.neg x.coeff k).1 ≤ ndigits (x.coeff / 10 ^ k) := by
          rcases hgap2 with h | h | h
          · omega
          · left; omega
          · right
            have : k = 100000 := by omega
            subst this
            exact h.2
        rw [roundX_finite _ _ _ (show ({ x with exp := -(k : Int) } : Dec).form = .finite from hx)]
        have key := roundX_quant c x hx k p hp' hk0 (by omega) hc' (frameEmax c.emax e) (frameEmax_ge _ _) _ rfl
        generalize roundXFin { c with prec := p, emin := MinExponent, emax := frameEmax c.emax e }
          { x with exp := -(k : Int) } false = r at key ⊢
        have hA : (if r.fst.exp > 0 then ({ r.fst with coeff := r.fst.coeff * 10 } : Dec) else r.fst).form
            = r.fst.form := by split <;> rfl
        have hB : (if r.fst.exp > 0 then ({ r.fst with coeff := r.fst.coeff * 10 } : Dec) else r.fst).neg
            = r.fst.neg := by split <;> rfl
        have hC : (if r.fst.exp > 0 then ({ r.fst with coeff := r.fst.coeff * 10 } : Dec) else r.fst).coeff
            = qco r.fst := by unfold qco; split <;> rfl
        simp only [hA, hB, hC]
        rcases key with ⟨k1, k2, k3, k4, k5, k6, k7, k8, k9, k10, k11⟩ | ⟨k1, k2⟩
        · left
          simp only [QGood, k1, k2, k3, k4, k5, k6, k7, k8, k9, k10, k11, hx, and_self, implies_true]
        · right
          refine ⟨k1, ?_⟩
          rcases k2 with k2 | ⟨k2, k3⟩
          · exact Or.inl k2
          · have hpos := ndigits_pos (rnd c.mode x.neg x.coeff k).1
            rcases frameEmax_lt c.emax e _ (by omega) k3 with h | h
            · exact Or.inl h
            · exact Or.inr ⟨k2, by omega⟩
    · left
      rw [if_neg hd0, roundAt_scale _ _ _ _ _ (by omega)]
      have : x.exp - e = 0 := by omega
      simp [this, QGood]

theorem ctxRound_fit (c : Ctx) (c1 : 1 ≤ c.prec) (c0 : 0 ≤ c.emax) (c3 : c.emax ≤ 100000)
    (c4 : -100000 ≤ c.emin) (c5 : c.emin ≤ 0) (d : Dec) (hf : d.form = .finite)
    (hnd : ndigits d.coeff ≤ c.prec) (he1 : c.emin - (c.prec : Int) + 1 ≤ d.exp)
    (he2 : d.exp ≤ c.emax) (he3 : -100000 ≤ d.exp) :
    if d.coeff ≠ 0 ∧ d.exp + (ndigits d.coeff : Int) - 1 > c.emax then (ctxRound c d).2.overflow = true
    else (ctxRound c d).1 = d ∧ (ctxRound c d).2.inexact = false ∧ (ctxRound c d).2.overflow = false ∧
      (ctxRound c d).2.underflow = false ∧ (ctxRound c d).2.invalidOp = false ∧
      (ctxRound c d).2.sysOverflow = false ∧ (ctxRound c d).2.sysUnderflow = false := by
  have hpos := ndigits_pos d.coeff
  split
  · rename_i hov
    rcases ctxRound_exits c c1 c4 (by omega) (by omega) d hf with ⟨-, e⟩ | ⟨-, fl, hfl, hex⟩ | ⟨hl, -⟩
    · have hq : c.quantumOf d = d.exp := c.quantumOf_keep d hnd he1
      rw [e]
      unfold roundOut
      simp only [hq, Int.sub_self, Int.toNat_zero, Nat.pow_zero, roundQuot_one]
      rw [if_neg (show ¬ c.prec < ndigits d.coeff by omega), if_neg (show ¬ c.prec < ndigits d.coeff by omega),
        if_pos ⟨hov.1, hov.2⟩]
    · -- only the upper limit can have been exceeded
      rcases hex with ⟨rfl, -⟩ | ⟨-, hlo⟩
      · rcases hfl with h | h <;> rw [h] <;> rfl
      · omega
    · omega
  · rename_i hov
    have hhi : d.exp + (ndigits d.coeff : Int) - 1 ≤ c.emax := by
      by_cases h0 : d.coeff = 0
      · rw [h0, ndigits_zero]; omega
      · exact Int.not_lt.1 fun h => hov ⟨h0, h⟩
    rw [ctxRound_keep c c1 c4 (by omega) c3 (by omega) d hf hnd he1 he3 hhi]
    split <;> exact ⟨rfl, rfl, rfl, rfl, rfl, rfl, rfl⟩

/-! ## the system-limit exits of `quantizeCore` (complement of `hgap2` in `quantizeCore_spec`) -/

theorem setExponent_sys (c : Ctx) (d : Dec) (res : Cond) (a b : Int)
    (ha1 : -100000 ≤ a) (ha2 : a ≤ 100000) (hb : b > 100000) :
    setExponent c d res [a, b] = (d, cSysOverflow ||| cOverflow) := by
  have h : checkXs [a, b] = some (cSysOverflow ||| cOverflow) := by
    have h1 : ¬ a > MaxExponent := by simp only [MaxExponent]; omega
    have h2 : ¬ a < MinExponent := by simp only [MinExponent]; omega
    have h3 : b > MaxExponent := hb
    simp only [checkXs, if_neg h1, if_neg h2, if_pos h3]
  unfold setExponent
  rw [h]

theorem quantizeCore_sys (c : Ctx) (x : Dec) (hx : x.form = .finite) (e : Int)
    (hk : e - x.exp ≥ 100000) (hnd : e - x.exp ≤ (ndigits x.coeff : Int))
    (hcarry : e - x.exp = 100000 →
      ndigits (roundAt c.mode x.neg x.coeff 1 x.exp e).1 > ndigits (x.coeff / 10 ^ 100000)) :
    (e - x.exp > 100000 ∧ (ndigits (quantizeCore c x e).1.coeff : Int) > 100000) ∨
      ((quantizeCore c x e).2.overflow = true ∧ (quantizeCore c x e).2.sysOverflow = true) := by
  unfold quantizeCore
  simp only []
  obtain ⟨k, hk'⟩ : ∃ k : Nat, e - x.exp = k := ⟨(e - x.exp).toNat, by omega⟩
  rw [hk'] at hk hnd hcarry ⊢
  rw [if_neg (by omega), if_pos (by omega), if_neg (by omega)]
  obtain ⟨p, hp'⟩ : ∃ p : Nat, ndigits x.coeff = p + k := ⟨ndigits x.coeff - k, by omega⟩
  have hpt : ((ndigits x.coeff : Int) - (k : Int)).toNat = p := by omega
  rw [hpt]
  rw [roundX_finite _ _ _ (show ({ x with exp := -(k : Int) } : Dec).form = .finite from hx)]
  have h1 : ¬ (-(k : Int) + (ndigits x.coeff : Int) - 1 < MinExponent) := by
    simp only [MinExponent]; omega
  by_cases hbig : k > 100000
  · left
    rw [roundX_toobig { c with prec := p, emin := MinExponent, emax := frameEmax c.emax e } { x with exp := -(k : Int) } false
          hx rfl (fun h => h1 h.2) (by simp only []; omega)]
    have hk'' : ¬ (-(k : Int) > 0) := by omega
    simp only [hk'', if_false]
    omega
  · right
    have hk1 : k = 100000 := by omega
    have hc1 := hcarry (by omega)
    rw [show roundAt c.mode x.neg x.coeff 1 x.exp e = rnd c.mode x.neg x.coeff k from by
      rw [roundAt_dec _ _ _ _ _ (by omega), hk']; rfl, ← hk1] at hc1
    rw [roundX_long_eq { c with prec := p, emin := MinExponent, emax := frameEmax c.emax e } { x with exp := -(k : Int) } false
          hx rfl (fun h => h1 h.2) k (by simp only []; omega) (by omega) (by omega)]
    simp only [if_pos hc1]
    rw [setExponent_sys _ _ _ _ _ (by omega) (by omega) (by omega)]
    simp [cOverflow, cSysOverflow]

theorem ctxRound_int (c : Ctx) (hc : c.WF) (d : Dec) (hf : d.form = .finite) (he : d.exp = 0)
    (hnd : ndigits d.coeff ≤ c.prec) : ctxRound c d = (d, {}) := by
  obtain ⟨c1, c2, c3, c4, c5⟩ := hc
  have hpos := ndigits_pos d.coeff
  rw [ctxRound_keep c c1 c4 (by omega) c3 (by omega) d hf hnd (by unfold Ctx.etiny; omega) (by omega) (by omega),
    if_neg (by omega)]

theorem addOp_one (c : Ctx) (hc : c.WF) (s : Bool) (a : Nat) (hfit : ndigits (a + 1) ≤ c.prec) :
    addOp c { form := .finite, neg := s, exp := 0, coeff := a } decOne s =
      { d := { form := .finite, neg := s, exp := 0, coeff := a + 1 }, fl := {}, err := .none } := by
  unfold addOp
  simp only [shouldSetAsNaN, Dec.isNaN, decOne, upscale]
  have := ctxRound_int c hc { form := .finite, neg := s, exp := 0, coeff := a + 1 } rfl rfl hfit
  cases s <;> simp [finish, this, goError_noFlags]

theorem modf_spec (x : Dec) (hx : x.form = .finite) (hexp : x.exp ≤ 0) :
    (modf x).1 = { form := .finite, neg := x.neg, exp := 0, coeff := x.coeff / 10 ^ (-x.exp).toNat } ∧
    (modf x).2.sign = (if x.coeff % 10 ^ (-x.exp).toNat = 0 then 0 else if x.neg then -1 else 1) := by
  unfold modf
  rw [if_neg (by omega)]
  simp only []
  by_cases h : -x.exp > (ndigits x.coeff : Int)
  · rw [if_pos h]
    by_cases hz : x.coeff = 0
    · simp [hz, Dec.sign, hx]
    · obtain ⟨a1, a2, a3⟩ := small_div x.coeff (-x.exp).toNat (by omega) (by omega)
      simp [a1, a2, hz, Dec.sign, hx]
  · rw [if_neg h]
    simp [Dec.sign]

/-! ## zeros (finding F6, /repo commit e47cc12: a zero coefficient is never rescaled) -/

theorem frameEmax_nonneg (emax e : Int) (h : e ≤ emax) : 0 ≤ frameEmax emax e := by
  unfold frameEmax
  simp only []
  by_cases a : emax - e > MaxExponent
  · rw [if_pos a]; simp only [MaxExponent]; omega
  · rw [if_neg a, if_neg (by simp only [MinExponent]; omega)]; omega

/-- `Round` with precision 0 on the one-digit coefficient `0` at exponent -1 (the frame of `quantize` when a zero
loses exactly one digit): the zero at exponent 0, with Rounded -/
theorem roundX_zero_prec0 (nc : Ctx) (hp : nc.prec = 0) (hm : nc.emin = MinExponent) (hM : 0 ≤ nc.emax)
    (s : Bool) :
    roundX nc { form := .finite, neg := s, exp := -1, coeff := 0 } false =
      ({ form := .finite, neg := s, exp := 0, coeff := 0 }, cRounded) := by
  rw [roundX_finite _ _ _ rfl, roundX_long_eq nc _ false rfl rfl (fun h => h.1 rfl) 1 (by simp [ndigits_zero, hp])
    (by decide) (by decide)]
  simp only [roundQuot_zero, Nat.zero_div, Nat.lt_irrefl, if_false]
  rw [setExponent_normal nc _ _ _ (sumInts_pair _ _) (by decide) (by dsimp only; decide)
    (by rw [hm]; dsimp only; decide) (by exact hM) (by rw [hm]; decide), seFinish_plain _ _ _ rfl]
  rfl

/-- `quantizeCore` on a zero: the zero at the requested exponent, whatever the distance between the two
exponents (finding F6).  The only condition ever raised is Rounded, when exactly one digit is dropped
(`Round` with precision 0 on the one-digit coefficient `0`). -/
theorem quantizeCore_zero (c : Ctx) (x : Dec) (hx : x.form = .finite) (hz : x.coeff = 0) (e : Int)
    (he : e ≤ c.emax) :
    quantizeCore c x e = ({ x with exp := e }, if e - x.exp = 1 then cRounded else {}) := by
  have hn0 : ndigits 0 = 1 := by decide
  have h1 : x.isZero = true := by simp [Dec.isZero, hx, hz]
  unfold quantizeCore
  simp only [h1, hz, hn0, Bool.not_true, Bool.false_eq_true, if_false]
  by_cases hd : e - x.exp < 0
  · rw [if_pos hd, if_neg (by omega)]
  · rw [if_neg hd]
    by_cases hd0 : e - x.exp > 0
    · rw [if_pos hd0]
      by_cases hp : ((1 : Nat) : Int) - (e - x.exp) < 0
      · rw [if_pos hp, if_neg (by omega)]
      · rw [if_neg hp]
        have hd1 : e - x.exp = 1 := by omega
        rw [if_pos hd1]
        simp only [hd1, hx]
        rw [roundX_zero_prec0 _ (by simp) rfl (frameEmax_nonneg _ _ he) x.neg]
        simp
    · rw [if_neg hd0, if_neg (by omega)]

theorem ctxRound_zero (c : Ctx) (c1 : 1 ≤ c.prec) (c0 : 0 ≤ c.emax) (c3 : c.emax ≤ 100000) (c4 : -100000 ≤ c.emin)
    (c5 : c.emin ≤ 0) (d : Dec) (hf : d.form = .finite) (hz : d.coeff = 0) (he1 : c.emin - (c.prec : Int) + 1 ≤ d.exp)
    (he2 : d.exp ≤ c.emax) (he3 : -100000 ≤ d.exp) :
    ctxRound c d = (d, {}) := by
  rw [ctxRound_keep c c1 c4 (by omega) c3 (by omega) d hf (by rw [hz, ndigits_zero]; exact c1) he1 he3
    (by rw [hz, ndigits_zero]; omega), if_neg (fun h => h.1 hz)]

end Apd.C09L
