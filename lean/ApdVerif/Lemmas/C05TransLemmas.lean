import ApdVerif.Lemmas.C05RunLemmas
import ApdVerif.Imp.TransOps
import ApdVerif.Lemmas.ErrExits
import ApdVerif.Lemmas.SqrtDefs
import ApdVerif.Model.TransObs
/-!
# Run lemmas for the store-level programs of `Imp/TransOps.lean`

A program run with a cell turned into a Go local is the program run on the heap holding the local (`run_localize`).
The contract `TRes` is that of `OpRun`, with the destination compared unless the model's outcome is the placeholder
`Out.Aborted` of an aborted call.  `EDSim`: the store-level `ErrDecimal` equals the value-level one or both hold the
same undelivered error.  Each composite function is "pure block on the locals, then a tail", cut where the value-level
proofs cut it (`SqrtD.sqrtOp_eq` of `Lemmas/SqrtDefs`, `cbrtOp_eq`).  Under a context without traps no `ErrDecimal` of
`Sqrt` holds a trap (`EDNoTrap` along the Newton loop), so `sqrtOp` is then never aborted.  For Exp, Ln, Log10 and Pow:
the integer power (`intPowLoopP_sim`, `integerPowerP_run`), the contracts of a model that takes fuel or a decision tape
(`TOptRun`, `TTRes`), and Exp from the integer power on (`expTailV`, `run_expFinishP`).
-/
namespace Apd.Imp

theorem run_localize (L : Cell) (p : Prog α) (v : Dec) (h : Heap) :
    run (localize L p v) h =
      (((run p (h.set L v)).1, (run p (h.set L v)).2 L), ((run p (h.set L v)).2).set L (h L)) := by
  induction p generalizing v h with
  | ret a => simp [localize, run]
  | getForm c k ih | getNeg c k ih | getExp c k ih | getCoeff c k ih =>
    simp only [localize]
    by_cases hc : c = L
    · subst hc; simp only [if_true, run, Heap.set_same]; exact ih _ _ _
    · simp only [hc, if_false, run, Heap.set_other _ _ hc]; exact ih _ _ _
  | setForm c f p ih | setNeg c f p ih | setExp c f p ih | setCoeff c f p ih =>
    simp only [localize]
    by_cases hc : c = L
    · subst hc; simp only [if_true, run, upd_self_set]; exact ih _ _
    · simp only [hc, if_false, run]; rw [ih, upd_set_comm h hc, upd_other h hc]

@[simp, prog_run] theorem run_snapP (x : Src) (h : Heap) : run (snapP x) h = (x.val h, h) := by
  unfold snapP
  simp only [prog_run]

@[simp, prog_run] theorem run_retErr (fl : Cond) (e : ErrKind) (h : Heap) : run (retErr fl e) h = ((fl, e, 0), h) := rfl

theorem spRun_rootSpecialsP (c : Ctx) (d : Cell) (x : Src) (factor : Int) (h : Heap) :
    SpRun (run (rootSpecialsP c d x factor) h) d h (rootSpecials c (x.val h) factor) := by
  unfold SpRun rootSpecialsP rootSpecials
  simp only [prog_run, Option.map_none]
  by_cases hn : shouldSetAsNaN (x.val h) none = true
  · simp only [hn, if_true, run_setAsNaNP c d x none h hn, Option.map_none]
    exact Or.inr ⟨_, _, rfl, rfl, fun _ => rfl, by simp⟩
  bsimp [hn]
  cases hi : ((x.val h).form == Form.infinite) <;> bsimp [hi]
  · cases hs1 : ((x.val h).sign == -1) <;> bsimp [hs1]
    · cases hs0 : ((x.val h).sign == 0) <;>
        bsimp [prog_run, hs0]
      · exact Or.inl ⟨trivial, trivial⟩
      · exact Or.inr ⟨_, _, rfl, rfl, fun _ => rfl, rfl⟩
    · cases hf : (factor % 2 == 0) <;> bsimp [prog_run, hf]
      · exact Or.inl ⟨trivial, trivial⟩
      · exact Or.inr ⟨_, _, rfl, rfl, fun _ => rfl, rfl⟩
  · cases hnf : ((x.val h).neg && factor % 2 == 0) <;> bsimp [prog_run, hnf] <;>
      exact Or.inr ⟨_, _, rfl, rfl, fun _ => rfl, rfl⟩

end Apd.Imp

namespace Apd
/-- The value-level models describe a call on a FRESH destination.  When a composite function gives up because its
internal `ErrDecimal` holds an error (`return 0, err`), the model's outcome is `failOut err`: flags 0 and the
zero-valued destination.  If that error is a trapped condition the outcome counts as delivered, but the model's
destination is only the placeholder: what the cell holds is whatever it held when the function gave up. -/
def Out.Aborted (m : Out) : Prop := m.fl = {} ∧ m.err = .trap

instance (m : Out) : Decidable m.Aborted := by unfold Out.Aborted; exact inferInstance

theorem Out.not_aborted_of_goError {m : Out} {t : Cond} (hm : m.err = goError t m.fl) : ¬ m.Aborted := by
  intro ⟨h1, h2⟩
  rw [h1, goError_noFlags] at hm
  rw [hm] at h2; cases h2

theorem failOut_aborted_iff (e : ErrKind) : (failOut e).Aborted ↔ e = .trap := by
  unfold Out.Aborted failOut; simp
end Apd

namespace Apd.Imp
open Apd.Cond

def TRes (r : Res × Heap) (d : Cell) (h : Heap) (m : Out) : Prop :=
  ∃ fl aux v, r = ((fl, m.err, aux), h.set d v) ∧
    (Delivered m.err → fl = m.fl ∧ aux = m.aux ∧ (¬ m.Aborted → v = m.d))

def TOpRun (p : Prog Res) (d : Cell) (h : Heap) (m : Out) : Prop := TRes (run p h) d h m

theorem TRes.exact (d : Cell) (h : Heap) (m : Out) : TRes ((m.fl, m.err, m.aux), h.set d m.d) d h m :=
  ⟨_, _, _, rfl, fun _ => ⟨rfl, rfl, fun _ => rfl⟩⟩

theorem TRes.ofOp {r : Res × Heap} {d : Cell} {h : Heap} {m : Out}
    (hr : SRes r d h m) : TRes r d h m := by
  obtain ⟨fl, aux, v, hv, hd⟩ := hr
  exact ⟨fl, aux, v, hv, fun hdel => ⟨(hd hdel).1, (hd hdel).2.1, fun _ => (hd hdel).2.2⟩⟩

theorem OpRun.toT {p : Prog Res} {d : Cell} {h : Heap} {m : Out} (hr : OpRun p d h m) : TOpRun p d h m :=
  TRes.ofOp hr

/-- the statement of C05 for one run of a composite function -/
def TOpSpec (p : Prog Res) (d : Cell) (h : Heap) (m : Out) : Prop :=
  (run p h).1.2.1 = m.err ∧
  (Delivered (run p h).1.2.1 →
    (run p h).1.1 = m.fl ∧ (¬ m.Aborted → (run p h).2 d = m.d) ∧ (run p h).1.2.2 = m.aux) ∧
  ∀ cell, cell ≠ d → (run p h).2 cell = h cell

theorem TRes.spec {r : Res × Heap} {d : Cell} {h : Heap} {m : Out} (hr : TRes r d h m) :
    r.1.2.1 = m.err ∧
    (Delivered r.1.2.1 → r.1.1 = m.fl ∧ (¬ m.Aborted → r.2 d = m.d) ∧ r.1.2.2 = m.aux) ∧
    ∀ cell, cell ≠ d → r.2 cell = h cell := by
  obtain ⟨fl, aux, v, hv, hd⟩ := hr
  subst hv
  refine ⟨rfl, fun hdel => ?_, fun cell hc => Heap.set_other _ _ hc⟩
  obtain ⟨h1, h2, h3⟩ := hd hdel
  exact ⟨h1, fun hna => by simp [h3 hna], h2⟩

theorem TOpRun.spec {p : Prog Res} {d : Cell} {h : Heap} {m : Out} (hr : TOpRun p d h m) : TOpSpec p d h m :=
  TRes.spec hr

theorem TRes.abort_set (d : Cell) (h : Heap) (v : Dec) {e : ErrKind} (he : e ≠ .none) :
    TRes (({}, e, 0), h.set d v) d h (failOut e) := by
  refine ⟨{}, 0, v, by simp [failOut], fun hdel => ⟨rfl, rfl, fun hna => ?_⟩⟩
  have ht : e = .trap := by
    rcases hdel with h1 | h1
    · exact absurd h1 he
    · exact h1
  exact absurd ((failOut_aborted_iff e).2 ht) hna

theorem TRes.abort (d : Cell) (h : Heap) {e : ErrKind} (he : e ≠ .none) :
    TRes (({}, e, 0), h) d h (failOut e) := by
  simpa using TRes.abort_set d h (h d) he

/-- the block of `sqrtP` on its locals is the named parts of `sqrtOp` (`Lemmas/SqrtDefs`) -/
theorem sqrtNewton_eq (c : Ctx) (x : Dec) :
    sqrtNewton c (ndigits x.coeff) x (ndigits x.coeff) x.exp =
      ((SqrtD.iter c x).1, (SqrtD.iter c x).2, SqrtD.e x, SqrtD.f x) := rfl

/-- `f.Exponent += int32(e)` restores `x` -/
theorem sqrtD_fx (x : Dec) : ({ SqrtD.f x with exp := (SqrtD.f x).exp + SqrtD.e x } : Dec) = x := by
  unfold SqrtD.f SqrtD.e SqrtD.e0
  cases SqrtD.even x <;> cases x <;> simp <;> omega

theorem sqrtSettle_eq (nc : Ctx) (d approx x : Dec) :
    sqrtSettle nc d approx x =
      match sqrtSettleT nc approx x with
      | none => (d, {})
      | some t => if t.cmp d == 0 then (d, {}) else ctxRound nc t := by
  unfold sqrtSettle sqrtSettleT
  simp only []
  split
  · rfl
  · rfl

theorem run_sqrtSettleP (nc : Ctx) (d : Cell) (approx x : Dec) (h : Heap) :
    run (sqrtSettleP nc d approx x) h =
      ((sqrtSettle nc (h d) approx x).2, h.set d (sqrtSettle nc (h d) approx x).1) := by
  rw [sqrtSettle_eq]
  unfold sqrtSettleP
  cases sqrtSettleT nc approx x with
  | none => simp
  | some t =>
    simp only [prog_run, ctxRound]
    split_ifs <;> simp

@[simp, prog_run] theorem run_andFiniteP (b : Bool) (d : Cell) (h : Heap) :
    run (andFiniteP b d) h = (b && (h d).form == .finite, h) := by
  unfold andFiniteP
  cases b <;> simp

theorem run_sqrtSettleIfP (ncw : Ctx) (d : Cell) (approx fx : Dec) (res : Cond) (h : Heap) :
    run (sqrtSettleIfP ncw d approx fx res) h =
      ((if res.inexact && (h d).form == .finite then
          ((sqrtSettle ncw (h d) approx fx).1, res ||| (sqrtSettle ncw (h d) approx fx).2)
        else (h d, res)).2,
       h.set d (if res.inexact && (h d).form == .finite then
          ((sqrtSettle ncw (h d) approx fx).1, res ||| (sqrtSettle ncw (h d) approx fx).2)
        else (h d, res)).1) := by
  unfold sqrtSettleIfP
  simp only [prog_run, run_sqrtSettleP]
  cases hb : (res.inexact && (h d).form == Form.finite) <;> bsimp [hb]
  simp

theorem run_sqrtExactP (nc2 : Ctx) (d : Cell) (fx : Dec) (res : Cond) (h : Heap) :
    run (sqrtExactP nc2 d fx res) h =
      (((if !res.inexact && (h d).form == .finite then
          (if ({ coeff := (h d).coeff * (h d).coeff, exp := 2 * (h d).exp } : Dec).cmp fx != 0 then
            res ||| cInexact ||| cRounded else res)
         else res),
        goError nc2.traps (if !res.inexact && (h d).form == .finite then
          (if ({ coeff := (h d).coeff * (h d).coeff, exp := 2 * (h d).exp } : Dec).cmp fx != 0 then
            res ||| cInexact ||| cRounded else res)
         else res), 0), h) := by
  unfold sqrtExactP
  simp only [prog_run]
  cases hb : (!res.inexact && (h d).form == Form.finite) <;> bsimp [hb]
  split_ifs <;> rfl

theorem run_sqrtFinishP (c : Ctx) (d : Cell) (approx x : Dec) (h : Heap) :
    run (sqrtFinishP c d approx (SqrtD.e x) (SqrtD.f x)) h =
      (((SqrtD.tail c x approx).fl, (SqrtD.tail c x approx).err, 0), h.set d (SqrtD.tail c x approx).d) := by
  unfold sqrtFinishP SqrtD.tail
  simp only [prog_run, run_sqrtSettleIfP, run_sqrtExactP, sqrtD_fx, ctxRound, finish]
  rfl

theorem sqrtP_run (c : Ctx) (d : Cell) (x : Src) (h : Heap) :
    TOpRun (sqrtP c d x) d h (sqrtOp c (x.val h)) := by
  unfold TOpRun sqrtP
  rcases spRun_rootSpecialsP c d x 2 h with ⟨hs, hr⟩ | ⟨o, v, hs, hr, hd, ha⟩
  · rw [SqrtD.sqrtOp_eq c _ hs]
    simp only [prog_run, hr, sqrtNewton_eq]
    by_cases hf : (SqrtD.iter c (x.val h)).1.failed = true
    · simp only [hf, if_true]
      exact TRes.abort d h (ED.errOf_ne_none hf)
    · simp only [hf, if_false, Bool.false_eq_true, run_sqrtFinishP]
      exact TRes.exact d h _
  · simp only [run_bind, hr, run_pure, SqrtD.sqrtOp_special hs]
    exact TRes.ofOp (SRes.of_special ha hd)

theorem freshCell_ne1 (a b c : Nat) : freshCell a b c ≠ a := by
  show (a + b + c + 1 : Nat) ≠ a; omega
theorem freshCell_ne2 (a b c : Nat) : freshCell a b c ≠ b := by
  show (a + b + c + 1 : Nat) ≠ b; omega
theorem freshCell_ne3 (a b c : Nat) : freshCell a b c ≠ c := by
  show (a + b + c + 1 : Nat) ≠ c; omega

/-- the contract of a call whose destination is a Go local: `r` is the run of `localize L p v` from `h`, which returns
the local's last value beside the result and leaves the heap as it was (`OpRun.localize` concludes it, unfolded) -/
def LocRun (r : (Res × Dec) × Heap) (h : Heap) (m : Out) : Prop :=
  ∃ fl aux w, r = (((fl, m.err, aux), w), h) ∧ (Delivered m.err → fl = m.fl ∧ aux = m.aux ∧ w = m.d)

theorem OpRun.localize {p : Prog Res} {L : Cell} {h : Heap} {v : Dec} {m : Out} (hr : OpRun p L (h.set L v) m) :
    ∃ fl aux w, run (Imp.localize L p v) h = (((fl, m.err, aux), w), h) ∧
      (Delivered m.err → fl = m.fl ∧ aux = m.aux ∧ w = m.d) := by
  obtain ⟨fl, aux, w, hv, hd⟩ := hr
  refine ⟨fl, aux, w, ?_, hd⟩
  rw [run_localize, hv]
  simp

/-- the store-level `ErrDecimal` and local (`e'`, `z'`) against the value-level ones (`em`, `zm`): equal, or both hold
the same undelivered error (after which every call is skipped and only the error is ever looked at) -/
def EDSim (e' : ED) (z' : Dec) (em : ED) (zm : Dec) : Prop :=
  (e' = em ∧ z' = zm) ∨ (¬ Delivered em.err ∧ e'.err = em.err ∧ e'.c = em.c)

theorem EDSim.refl (e : ED) (z : Dec) : EDSim e z e z := Or.inl ⟨rfl, rfl⟩

theorem EDSim.failed {e' em : ED} {z' zm : Dec} (hs : EDSim e' z' em zm) : e'.failed = em.failed := by
  rcases hs with ⟨rfl, _⟩ | ⟨hnd, he, _⟩
  · rfl
  · rw [ED.failed_of_not_delivered hnd, ED.failed_of_not_delivered (by rw [he]; exact hnd)]

theorem EDSim.errOf {e' em : ED} {z' zm : Dec} (hs : EDSim e' z' em zm) : e'.errOf = em.errOf := by
  rcases hs with ⟨rfl, _⟩ | ⟨hnd, he, _⟩
  · rfl
  · have h1 : em.err ≠ .none := fun e0 => hnd (Or.inl e0)
    rw [ED.errOf_of_err_ne h1, ED.errOf_of_err_ne (by rw [he]; exact h1), he]

theorem EDSim.cases {e' em : ED} {z' zm : Dec} (hs : EDSim e' z' em zm) :
    em.failed = true ∨ (e' = em ∧ z' = zm) := by
  rcases hs with h | ⟨hnd, _, _⟩
  · exact Or.inr h
  · exact Or.inl (ED.failed_of_not_delivered hnd)

theorem EDSim.of_call (e : ED) (o : Out) (fl : Cond) (w : Dec) (hd : Delivered o.err → fl = o.fl ∧ w = o.d) :
    EDSim { e with fl := e.fl ||| fl, err := o.err } w { e with fl := e.fl ||| o.fl, err := o.err } o.d := by
  by_cases hdel : Delivered o.err
  · obtain ⟨rfl, rfl⟩ := hd hdel
    exact Or.inl ⟨rfl, rfl⟩
  · exact Or.inr ⟨hdel, rfl, rfl⟩

theorem edStepP_sim {e' em : ED} {z' zm : Dec} (hs : EDSim e' z' em zm) (p : Ctx → Prog (Res × Dec))
    (op : Ctx → Out) (h : Heap)
    (hp : e' = em → z' = zm → LocRun (run (p em.c) h) h (op em.c)) :
    ∃ e2 z2, run (edStepP e' z' p) h = ((e2, z2), h) ∧ EDSim e2 z2 (em.step zm op).1 (em.step zm op).2 := by
  unfold edStepP ED.step
  rw [hs.failed]
  by_cases hf : em.failed = true
  · simp only [hf, if_true, run_pure]
    exact ⟨_, _, rfl, hs⟩
  · simp only [hf, if_false, Bool.false_eq_true, run_bind, run_pure]
    obtain ⟨rfl, rfl⟩ := hs.cases.resolve_left hf
    obtain ⟨fl, aux, w, hv, hd⟩ := hp rfl rfl
    rw [hv]
    exact ⟨_, _, rfl, EDSim.of_call e' _ fl w fun hdel => ⟨(hd hdel).1, (hd hdel).2.2⟩⟩

/-- the two multiplications of the exactness check: `ed.Mul(&z, d, d); ed.Mul(&z, &z, d)` with `d = D` -/
def cbrtQ2 (c : Ctx) (D z : Dec) (fl : Cond) : ED × Dec :=
  let e : ED := { c := { baseCtx with prec := c.prec * 3 }, fl := fl, err := .none }
  let q1 := e.step z (fun cc => mulOp cc D D)
  q1.1.step q1.2 (fun cc => mulOp cc q1.2 D)

theorem cbrtTail_eq (c : Ctx) (x z : Dec) (fl : Cond) :
    cbrtTail c x fl z =
      if (cbrtQ2 c { (roundX { c with mode := .halfEven } z true).1 with neg := x.neg } z fl).1.failed then
        failOut (cbrtQ2 c { (roundX { c with mode := .halfEven } z true).1 with neg := x.neg } z fl).1.errOf
      else if x.cmp (cbrtQ2 c { (roundX { c with mode := .halfEven } z true).1 with neg := x.neg } z fl).2 == 0 then
        { d := { (roundX { c with mode := .halfEven } z true).1 with neg := x.neg } }
      else { d := { (roundX { c with mode := .halfEven } z true).1 with neg := x.neg },
             fl := (roundX { c with mode := .halfEven } z true).2,
             err := goError c.traps (roundX { c with mode := .halfEven } z true).2 } := rfl

theorem cbrtOp_eq (c : Ctx) (x : Dec) (hs : rootSpecials c x 3 = none) :
    cbrtOp c x =
      match cbrtNewton c x.absD with
      | none => none
      | some (.inl er) => some (failOut er)
      | some (.inr zf) => some (cbrtTail c x zf.2 zf.1) := by
  unfold cbrtOp cbrtNewton cbrtTail
  rw [hs]
  dsimp only
  generalize scaleLoop (fun z => decide (z.cmp decOneEighth < 0)) decEight 400000 _ x.absD 0 = s1
  rcases s1 with _ | er | ⟨ed, z, down⟩
  · rfl
  · rfl
  dsimp only
  generalize scaleLoop (fun z => decide (z.cmp decOne > 0)) decOneEighth 400000 ed z 0 = s2
  rcases s2 with _ | er | ⟨ed2, z2, up⟩
  · rfl
  · rfl
  dsimp only
  generalize cbrtIter _ _ _ _ _ _ _ _ = s3
  rcases s3 with _ | er | zz
  · rfl
  · rfl
  · simp only [apply_ite some]

/-- `ed.Mul(&z, x, y)` with the local `z` at the virtual address `L` -/
theorem run_mulLoc (cc : Ctx) (L : Cell) (x y : Src) (z : Dec) (h : Heap) :
    LocRun (run (localize L (mulP cc L x y) z) h) h (mulOp cc (x.val (h.set L z)) (y.val (h.set L z))) :=
  (mulP_run cc L x y (h.set L z)).localize

theorem run_cbrtCheckP (c : Ctx) (d : Cell) (z0 z : Dec) (fl res : Cond) (err : ErrKind) (h : Heap) :
    ∃ r, run (cbrtCheckP c d z0 z fl res err) h = (r, h) ∧
      r = if (cbrtQ2 c (h d) z fl).1.failed then ({}, (cbrtQ2 c (h d) z fl).1.errOf, 0)
          else if z0.cmp (cbrtQ2 c (h d) z fl).2 == 0 then ({}, .none, 0) else (res, err, 0) := by
  unfold cbrtQ2
  have hL : freshCell d d d ≠ d := freshCell_ne1 d d d
  have hdL : d ≠ freshCell d d d := Ne.symm hL
  unfold cbrtCheckP
  simp only [run_bind]
  -- `ed.Mul(&z, d, d)`: the local `z` stands at the fresh address, both operands are the cell `d`
  obtain ⟨e2, z2, hr1, hs1⟩ := edStepP_sim
    (EDSim.refl { c := { baseCtx with prec := c.prec * 3 }, fl := fl, err := .none } z)
    (fun cc => localize (freshCell d d d) (mulP cc (freshCell d d d) (.cell d) (.cell d)) z)
    (fun cc => mulOp cc (h d) (h d)) h
    (fun _ _ => by
      have := run_mulLoc { baseCtx with prec := c.prec * 3 } (freshCell d d d) (.cell d) (.cell d) z h
      simpa [Heap.set_other _ _ hdL] using this)
  rw [hr1]
  simp only []
  -- `ed.Mul(&z, &z, d)`: the first operand is the local itself, so its value is `z2`, equal to the model's by `hz`
  obtain ⟨e3, z3, hr2, hs2⟩ := edStepP_sim hs1
    (fun cc => localize (freshCell d d d) (mulP cc (freshCell d d d) (.cell (freshCell d d d)) (.cell d)) z2)
    (fun cc => mulOp cc
      (({ c := { baseCtx with prec := c.prec * 3 }, fl := fl, err := .none } : ED).step z
        (fun cc => mulOp cc (h d) (h d))).2 (h d)) h
    (fun he hz => by
      have := run_mulLoc (({ c := { baseCtx with prec := c.prec * 3 }, fl := fl, err := .none } : ED).step z
        (fun cc => mulOp cc (h d) (h d))).1.c (freshCell d d d) (.cell (freshCell d d d)) (.cell d) z2 h
      simpa [Heap.set_other _ _ hdL, hz] using this)
  rw [hr2]
  simp only [run_ite, run_retErr, hs2.failed, hs2.errOf, ite_pair_heap]
  refine ⟨_, rfl, ?_⟩
  rcases hs2 with ⟨_, hz3⟩ | ⟨hnd, _, _⟩
  · rw [hz3]
  · have := ED.failed_of_not_delivered hnd
    simp only [this, if_true]

theorem cbrtFinishP_run (c : Ctx) (d : Cell) (x : Src) (neg : Bool) (z : Dec) (fl : Cond) (h : Heap)
    (hneg : neg = (x.val h).neg) :
    TRes (run (cbrtFinishP c d x neg z fl) h) d h (cbrtTail c (x.val h) fl z) := by
  unfold cbrtFinishP
  simp only [prog_run]
  obtain ⟨r, hr, hrv⟩ := run_cbrtCheckP c d (x.val h) z fl
    (roundX { c with mode := .halfEven } z true).2 (goError c.traps (roundX { c with mode := .halfEven } z true).2)
    (h.set d { (roundX { c with mode := .halfEven } z true).1 with neg := neg })
  rw [hr, cbrtTail_eq]
  simp only [Heap.set_same] at hrv ⊢
  subst hrv
  subst hneg
  generalize cbrtQ2 c _ z fl = q2
  split_ifs with h1 h2
  · exact TRes.abort_set d h _ (ED.errOf_ne_none h1)
  · exact TRes.exact d h { d := _ }
  · exact TRes.exact d h { d := _, fl := _, err := _ }

theorem cbrtNewton_inl_ne {c : Ctx} {ax : Dec} {er : ErrKind} (hn : cbrtNewton c ax = some (.inl er)) :
    er ≠ .none := by
  unfold cbrtNewton at hn
  simp only [] at hn
  split at hn
  · cases hn
  · next h1 => cases hn; exact scaleLoop_inl_ne _ _ _ _ _ _ h1
  · split at hn
    · cases hn
    · next h2 => cases hn; exact scaleLoop_inl_ne _ _ _ _ _ _ h2
    · split at hn
      · cases hn
      · next hi => cases hn; exact cbrtIter_inl_ne _ _ _ _ _ _ _ _ hi
      · cases hn

/-- the contract of `Cbrt`, whose model takes fuel (`none`: out of fuel) -/
def TOptRun (p : Prog (Option Res)) (d : Cell) (h : Heap) (m : Option Out) : Prop :=
  match m with
  | none => run p h = (none, h)
  | some m => ∃ r, (run p h).1 = some r ∧ TRes (r, (run p h).2) d h m

theorem cbrtP_run (c : Ctx) (d : Cell) (x : Src) (h : Heap) :
    TOptRun (cbrtP c d x) d h (cbrtOp c (x.val h)) := by
  unfold cbrtP TOptRun
  rcases spRun_rootSpecialsP c d x 3 h with ⟨hs, hr⟩ | ⟨o, v, hs, hr, hd, ha⟩
  · rw [cbrtOp_eq c _ hs]
    simp only [prog_run, hr]
    have hax : ({ form := (x.val h).form, neg := false, exp := (x.val h).exp, coeff := (x.val h).coeff } : Dec) =
        (x.val h).absD := rfl
    simp only [hax]
    cases hn : cbrtNewton c (x.val h).absD with
    | none => simp
    | some r =>
      cases r with
      | inl er =>
        simp only [prog_run]
        exact ⟨_, rfl, TRes.abort d h (cbrtNewton_inl_ne hn)⟩
      | inr zf =>
        simp only [run_bind, run_pure]
        exact ⟨_, rfl, cbrtFinishP_run c d x _ _ _ h rfl⟩
  · have hm : cbrtOp c (x.val h) = some o := by unfold cbrtOp; simp only [hs]
    simp only [run_bind, hr, run_pure, hm]
    exact ⟨_, rfl, TRes.ofOp (SRes.of_special ha hd)⟩

theorem EDSim.pure_step {e' em : ED} {v zm : Dec} (hs : EDSim e' v em zm) (n : Dec) (op : Ctx → Out) :
    (e'.step n op).2 = (em.step n op).2 ∧ EDSim (e'.step n op).1 v (em.step n op).1 zm := by
  rcases hs with ⟨rfl, rfl⟩ | ⟨hnd, he, hc⟩
  · exact ⟨rfl, Or.inl ⟨rfl, rfl⟩⟩
  · have h1 : em.failed = true := ED.failed_of_not_delivered hnd
    have h2 : e'.failed = true := ED.failed_of_not_delivered (by rw [he]; exact hnd)
    rw [ED.step_of_failed h1, ED.step_of_failed h2]
    exact ⟨rfl, Or.inr ⟨hnd, he, hc⟩⟩

theorem edStepCellP_sim {e' em : ED} {zm : Dec} {d : Cell} {h' : Heap} (hs : EDSim e' (h' d) em zm)
    (p : Ctx → Prog Res) (op : Ctx → Out)
    (hp : e' = em → h' d = zm → OpRun (p em.c) d h' (op em.c)) :
    ∃ e2 v2, run (edStepCellP e' p) h' = (e2, h'.set d v2) ∧
      EDSim e2 v2 (em.step zm op).1 (em.step zm op).2 := by
  unfold edStepCellP ED.step
  rw [hs.failed]
  by_cases hf : em.failed = true
  · simp only [hf, if_true, run_pure]
    exact ⟨e', h' d, by simp, hs⟩
  · simp only [hf, if_false, Bool.false_eq_true, run_bind, run_pure]
    obtain ⟨rfl, hz⟩ := hs.cases.resolve_left hf
    obtain ⟨fl, aux, w, hv, hd⟩ := hp rfl hz
    rw [hv]
    exact ⟨_, w, rfl, EDSim.of_call e' _ fl w fun hdel => ⟨(hd hdel).1, (hd hdel).2.2⟩⟩

theorem edStepCellP_sim_if (t : Prop) [Decidable t] {e' em : ED} {zm : Dec} {d : Cell} {h' : Heap}
    (hs : EDSim e' (h' d) em zm) (p : Ctx → Prog Res) (op : Ctx → Out)
    (hp : e' = em → h' d = zm → OpRun (p em.c) d h' (op em.c)) :
    ∃ e2 v2, run (if t then edStepCellP e' p else pure e') h' = (e2, h'.set d v2) ∧
      EDSim e2 v2 (if t then em.step zm op else (em, zm)).1 (if t then em.step zm op else (em, zm)).2 := by
  by_cases ht : t
  · simp only [ht, if_true]
    exact edStepCellP_sim hs p op hp
  · simp only [ht, if_false, run_pure]
    exact ⟨e', h' d, by simp, hs⟩

theorem EDSim.pure_step_if (t : Prop) [Decidable t] {e' em : ED} {v zm : Dec} (hs : EDSim e' v em zm) (n : Dec)
    (op : Ctx → Out) :
    (if t then e'.step n op else (e', n)).2 = (if t then em.step n op else (em, n)).2 ∧
      EDSim (if t then e'.step n op else (e', n)).1 v (if t then em.step n op else (em, n)).1 zm := by
  by_cases ht : t
  · simp only [ht, if_true]; exact hs.pure_step n op
  · simp only [ht, if_false]; exact ⟨trivial, hs⟩

theorem intPowLoopP_sim (d : Cell) (fuel : Nat) :
    ∀ (e' em : ED) (b : Nat) (zm n : Dec) (h' : Heap), EDSim e' (h' d) em zm →
    ∃ e2 v2, run (intPowLoopP fuel e' b d n) h' = (e2, h'.set d v2) ∧
      EDSim e2 v2 (intPowLoop fuel em b zm n).1 (intPowLoop fuel em b zm n).2 := by
  induction fuel with
  | zero =>
    intro e' em b zm n h' hs
    exact ⟨e', h' d, by simp [intPowLoopP], by simpa [intPowLoop] using hs⟩
  | succ k ih =>
    intro e' em b zm n h' hs
    unfold intPowLoopP intPowLoop
    by_cases hb : (b == 0) = true
    · simp only [hb, if_true, run_pure]
      exact ⟨e', h' d, by simp, hs⟩
    · simp only [hb, if_false, Bool.false_eq_true, run_bind]
      -- `ed.Mul(z, z, &n)` when the low bit of `b` is set
      obtain ⟨e1, v1, hr1, hs1⟩ := edStepCellP_sim_if ((b % 2 == 1) = true) hs
        (fun cc => mulP cc d (.cell d) (.const n)) (fun c => mulOp c zm n) (fun _ hz => by
          have := mulP_run em.c d (.cell d) (.const n) h'
          simpa [hz] using this)
      rw [hr1]
      simp only []
      generalize (if (b % 2 == 1) = true then em.step zm (fun c => mulOp c zm n) else (em, zm)) = r1 at hs1 ⊢
      -- `ed.Mul(&n, &n, &n)` while bits remain
      obtain ⟨hn2, hs2⟩ := hs1.pure_step_if (b / 2 > 0) n (fun c => mulOp c n n)
      rw [hs2.failed, hn2]
      by_cases hf : (if b / 2 > 0 then r1.1.step n (fun c => mulOp c n n) else (r1.1, n)).1.failed = true
      · simp only [hf, if_true, run_pure]
        exact ⟨_, v1, rfl, hs2⟩
      · simp only [hf, if_false, Bool.false_eq_true]
        obtain ⟨e3, v3, hr3, hs3⟩ := ih _ _ (b / 2) r1.2
          (if b / 2 > 0 then r1.1.step n (fun c => mulOp c n n) else (r1.1, n)).2 (h'.set d v1)
          (by rw [Heap.set_same]; exact hs2)
        rw [hr3]
        exact ⟨e3, v3, by simp, hs3⟩

theorem EDSim.eq_of_delivered {e' em : ED} {v zm : Dec} (hs : EDSim e' v em zm) (hd : Delivered em.errOf) :
    e' = em ∧ v = zm := by
  rcases hs with h1 | ⟨hnd, _, _⟩
  · exact h1
  · have h1 : em.err ≠ .none := fun e0 => hnd (Or.inl e0)
    rw [ED.errOf_of_err_ne h1] at hd
    exact absurd hd hnd

theorem integerPowerP_run (c : Ctx) (d : Cell) (x : Src) (y : Int) (h : Heap) :
    ∃ fl v, run (integerPowerP c d x y) h = ((fl, (integerPower c (x.val h) y).2.2), h.set d v) ∧
      (Delivered (integerPower c (x.val h) y).2.2 →
        fl = (integerPower c (x.val h) y).2.1 ∧ v = (integerPower c (x.val h) y).1) := by
  unfold integerPowerP integerPower
  simp only [prog_run]
  obtain ⟨e2, v2, hr, hs⟩ := intPowLoopP_sim d (Nat.log2 y.natAbs + 2) { c := c } { c := c } y.natAbs decOne
    (x.val h) (h.set d decOne) (by rw [Heap.set_same]; exact EDSim.refl _ _)
  rw [hr]
  simp only [prog_run, hs.failed]
  generalize intPowLoop (Nat.log2 y.natAbs + 2) { c := c } y.natAbs decOne (x.val h) = r at hs ⊢
  by_cases hf : r.1.failed = true
  · simp only [hf, if_true]
    refine ⟨_, v2, by rw [hs.errOf], fun hd => ?_⟩
    obtain ⟨rfl, rfl⟩ := hs.eq_of_delivered hd
    exact ⟨rfl, rfl⟩
  · simp only [hf, if_false, Bool.false_eq_true]
    obtain ⟨rfl, rfl⟩ := hs.cases.resolve_left hf
    by_cases hneg : decide (y < 0) = true
    · simp only [hneg, if_true]
      obtain ⟨e3, v3, hr3, hs3⟩ := edStepCellP_sim (e' := r.1) (em := r.1) (zm := r.2) (d := d)
        (h' := h.set d r.2) (by rw [Heap.set_same]; exact EDSim.refl _ _)
        (fun cc => quoP cc d (.const decOne) (.cell d)) (fun cc => quoOp cc decOne r.2)
        (fun _ _ => by
          have := quoP_run r.1.c d (.const decOne) (.cell d) (h.set d r.2)
          simpa using this)
      rw [hr3]
      simp only [Heap.set_set]
      refine ⟨_, v3, by rw [hs3.errOf], fun hd => ?_⟩
      obtain ⟨rfl, rfl⟩ := hs3.eq_of_delivered hd
      exact ⟨rfl, rfl⟩
    · simp only [hneg, if_false, Bool.false_eq_true]
      exact ⟨_, _, rfl, fun _ => ⟨rfl, rfl⟩⟩

/-- the contract of a composite function whose model takes a decision tape (`none`: the tape is rejected) -/
def TTRes (r : Option (Res × Tape) × Heap) (d : Cell) (h : Heap) (m : Option (Out × Tape)) : Prop :=
  match m with
  | none => r.1 = none ∧ ∃ v, r.2 = h.set d v
  | some (m, t) => ∃ res, r.1 = some (res, t) ∧ TRes (res, r.2) d h m

theorem TTRes.mk {res : Res} {t : Tape} {hp : Heap} {d : Cell} {h : Heap} {m : Out}
    (hr : TRes (res, hp) d h m) : TTRes (Option.some (res, t), hp) d h (Option.some (m, t)) := ⟨res, rfl, hr⟩

/-- for a pair that is not syntactically one (`run p h`): unifying it with `(_, _)` would unfold the run -/
theorem TTRes.ofRun {r : Res × Heap} {t : Tape} {d : Cell} {h : Heap} {m : Out}
    (hr : TRes r d h m) : TTRes (Option.some (r.1, t), r.2) d h (Option.some (m, t)) := ⟨r.1, rfl, hr⟩

theorem TTRes.reject (d : Cell) (h : Heap) : TTRes (Option.none, h) d h Option.none := ⟨rfl, h d, by simp⟩

theorem TTRes.reject' (d : Cell) (h : Heap) (v : Dec) : TTRes (Option.none, h.set d v) d h Option.none :=
  ⟨rfl, v, rfl⟩

@[simp, prog_run] theorem run_retT (r : Res) (t : Tape) (h : Heap) : run (retT r t) h = (some (r, t), h) := rfl

theorem Src.ne_cell_fresh (x : Src) (a b : Cell) : x ≠ .cell (freshCell a x.addr b) := by
  cases x with
  | const v => intro e; cases e
  | cell c =>
    intro e
    have : c = freshCell a c b := by injection e
    exact freshCell_ne2 a c b this.symm

theorem Src.ne_cell_fresh3 (x : Src) (a b : Cell) : x ≠ .cell (freshCell a b x.addr) := by
  cases x with
  | const v => intro e; cases e
  | cell c =>
    intro e
    have : c = freshCell a b c := by injection e
    exact freshCell_ne3 a b c this.symm

/-- `Context.Exp` from the integer power on, at the value level (the text of `expT`) -/
def expTailV (c nc : Ctx) (sum : Dec) (t : Nat) : Out :=
  let ip := integerPower nc sum ((10 : Int) ^ t)
  if ip.2.2 != .none then failOut ip.2.2 else
  let res := (cInexact ||| cRounded) ||| ip.2.1
  let rr := ctxRound { c with mode := .halfEven } ip.1
  let res := res ||| rr.2
  { d := rr.1, fl := res, err := goError c.traps res }

theorem run_expFinishP (c nc : Ctx) (d : Cell) (sum : Dec) (t : Nat) (h : Heap) :
    TRes (run (expFinishP c nc d sum t) h) d h (expTailV c nc sum t) := by
  unfold expFinishP expTailV
  obtain ⟨fl, v, hr, hd⟩ := integerPowerP_run nc d (.const sum) ((10 : Int) ^ t) h
  simp only [Src.val_const] at hr hd
  simp only [run_bind, hr, run_ite]
  generalize integerPower nc sum ((10 : Int) ^ t) = ip at hr hd ⊢
  by_cases he : (ip.2.2 != ErrKind.none) = true
  · simp only [he, if_true, run_retErr]
    exact TRes.abort_set d h v (by simpa using he)
  · simp only [he, if_false, Bool.false_eq_true]
    have hnone : ip.2.2 = .none := by simpa using he
    obtain ⟨rfl, rfl⟩ := hd (Or.inl hnone)
    simp only [prog_run, ctxRound]
    exact TRes.exact d h { d := _, fl := _, err := _ }

theorem cInvalidOp_ne_empty : cInvalidOp ≠ ({} : Cond) := by decide

theorem setAsNaN_not_aborted (c : Ctx) (x : Dec) (y : Option Dec) : ¬ (setAsNaN c x y).Aborted := by
  apply Out.not_aborted_of_goError (t := c.traps)
  unfold setAsNaN
  simp only [apply_ite Out.err, apply_ite Out.fl, apply_ite (goError c.traps), goError_noFlags]

theorem finish_not_aborted (c : Ctx) (r : Dec × Cond) : ¬ (finish c r).Aborted :=
  Out.not_aborted_of_goError (t := c.traps) rfl

theorem invalidNaN_not_aborted (c : Ctx) : ¬ (invalidNaN c).Aborted := fun ha => cInvalidOp_ne_empty ha.1

theorem val_not_aborted (d : Dec) : ¬ ({ d := d } : Out).Aborted := fun ha => ErrKind.noConfusion ha.2

theorem rootSpecials_not_aborted {c : Ctx} {x : Dec} {f : Int} {o : Out} (hs : rootSpecials c x f = some o) :
    ¬ o.Aborted := by
  have key : (rootSpecials c x f).elim True (fun o => ¬ o.Aborted) := by
    unfold rootSpecials
    simp only [apply_ite (fun r : Option Out => r.elim True (fun o => ¬ o.Aborted)), Option.elim_some,
      Option.elim_none, setAsNaN_not_aborted, invalidNaN_not_aborted, finish_not_aborted, val_not_aborted,
      not_false_eq_true, ite_self]
  rw [hs] at key
  exact key

theorem sqrtP_abort_keeps (c : Ctx) (d : Cell) (x : Src) (h : Heap) (ha : (sqrtOp c (x.val h)).Aborted) :
    (run (sqrtP c d x) h).2 = h := by
  unfold sqrtP
  rcases spRun_rootSpecialsP c d x 2 h with ⟨hs, hr⟩ | ⟨o, _, hs, hr, _, _⟩
  · rw [SqrtD.sqrtOp_eq c _ hs] at ha
    simp only [prog_run, hr, sqrtNewton_eq]
    by_cases hf : (SqrtD.iter c (x.val h)).1.failed = true
    · simp only [hf, if_true]
    · simp only [hf, if_false, Bool.false_eq_true] at ha
      exact absurd ha (finish_not_aborted _ _)
  · rw [SqrtD.sqrtOp_special hs] at ha
    exact absurd ha (rootSpecials_not_aborted hs)

theorem goError_ne_trap {t : Cond} (ht : t = {}) (fl : Cond) : goError t fl ≠ .trap := by
  rw [ht, goError_noTraps]
  split <;> exact fun e => ErrKind.noConfusion e

theorem finish_ne_trap {c : Ctx} (ht : c.traps = {}) (r : Dec × Cond) : (finish c r).err ≠ .trap :=
  goError_ne_trap ht r.2

theorem setAsNaN_ne_trap {c : Ctx} (ht : c.traps = {}) (x : Dec) (y : Option Dec) : (setAsNaN c x y).err ≠ .trap := by
  unfold setAsNaN
  simp only [apply_ite Out.err]
  generalize (_ == Form.nanSignaling) = b
  cases b
  · exact fun e => ErrKind.noConfusion e
  · exact goError_ne_trap ht cInvalidOp

theorem invalidNaN_ne_trap {c : Ctx} (ht : c.traps = {}) : (invalidNaN c).err ≠ .trap :=
  goError_ne_trap ht cInvalidOp

/-- the property holds at every leaf of the model's text; `apply_ite` carries it there -/
theorem mulOp_ne_trap {c : Ctx} (ht : c.traps = {}) (x y : Dec) : (mulOp c x y).err ≠ .trap := by
  unfold mulOp
  simp only [apply_ite (fun o : Out => o.err ≠ ErrKind.trap), setAsNaN_ne_trap ht, invalidNaN_ne_trap ht,
    finish_ne_trap ht, ne_eq, reduceCtorEq, not_false_eq_true, ite_self]

theorem addOp_ne_trap {c : Ctx} (ht : c.traps = {}) (x y : Dec) (s : Bool) : (addOp c x y s).err ≠ .trap := by
  unfold addOp
  cases upscale x y <;>
    simp only [apply_ite (fun o : Out => o.err ≠ ErrKind.trap), setAsNaN_ne_trap ht, invalidNaN_ne_trap ht,
      finish_ne_trap ht, failWith, ne_eq, reduceCtorEq, not_false_eq_true, ite_self]

theorem quoSpecials_ne_trap {c : Ctx} (ht : c.traps = {}) {x y : Dec} {b : Bool} {o : Out}
    (hs : quoSpecials c x y b = some o) : o.err ≠ .trap := by
  have key : (quoSpecials c x y b).elim True (fun o => o.err ≠ .trap) := by
    unfold quoSpecials
    simp only [apply_ite (fun r : Option Out => r.elim True (fun o => o.err ≠ .trap)), Option.elim_some,
      Option.elim_none, setAsNaN_ne_trap ht, invalidNaN_ne_trap ht, goError_ne_trap ht, failWith, ne_eq,
      reduceCtorEq, not_false_eq_true, ite_self]
  rw [hs] at key
  exact key

theorem quoOp_ne_trap {c : Ctx} (ht : c.traps = {}) (x y : Dec) : (quoOp c x y).err ≠ .trap := by
  unfold quoOp
  split
  · next o hs => exact quoSpecials_ne_trap ht hs
  · extract_lets neg shift
    split <;> exact finish_ne_trap ht _

def EDNoTrap (e : ED) : Prop := e.c.traps = {} ∧ e.err ≠ .trap

theorem EDNoTrap.step {e : ED} (hn : EDNoTrap e) (cur : Dec) {op : Ctx → Out}
    (hop : ∀ c, c.traps = {} → (op c).err ≠ .trap) : EDNoTrap (e.step cur op).1 := by
  unfold ED.step
  split
  · exact hn
  · exact ⟨hn.1, hop _ hn.1⟩

theorem EDNoTrap.errOf {e : ED} (hn : EDNoTrap e) : e.errOf ≠ .trap := by
  unfold ED.errOf
  split
  · exact hn.2
  · exact goError_ne_trap hn.1 _

theorem EDNoTrap.withPrec {e : ED} (hn : EDNoTrap e) (p : Nat) :
    EDNoTrap { e with c := { e.c with prec := p } } := ⟨hn.1, hn.2⟩

theorem EDNoTrap.round1 {e : ED} (hn : EDNoTrap e) (f A : Dec) (P : Nat) : EDNoTrap (SqrtD.round1 e f A P).1 := by
  unfold SqrtD.round1
  exact (((hn.withPrec P).step _ fun _ hc => quoOp_ne_trap hc _ _).step _ fun _ hc => addOp_ne_trap hc _ _ _).step _
    fun _ hc => mulOp_ne_trap hc _ _

theorem sqrtLoop_noTrap (fuel : Nat) (e : ED) (f approx : Dec) (p maxp : Nat) (hn : EDNoTrap e) :
    EDNoTrap (sqrtLoop fuel e f approx p maxp).1 :=
  (SqrtD.sqrtLoop_rule (fun e _ _ => EDNoTrap e) f maxp (fun _ _ _ hn _ => hn.round1 f _ _) fuel e approx p hn).elim
    fun _ h => h.1

theorem sqrtIter_noTrap (c : Ctx) (ht : c.traps = {}) (x : Dec) : EDNoTrap (SqrtD.iter c x).1 := by
  unfold SqrtD.iter SqrtD.init
  apply sqrtLoop_noTrap
  apply EDNoTrap.step
  · apply EDNoTrap.step
    · exact ⟨ht, fun e => ErrKind.noConfusion e⟩
    · exact fun c hc => mulOp_ne_trap hc _ _
  · exact fun c hc => addOp_ne_trap hc _ _ _

theorem sqrtOp_not_aborted_of_no_traps (c : Ctx) (ht : c.traps = {}) (x : Dec) : ¬ (sqrtOp c x).Aborted := by
  cases hs : rootSpecials c x 2 with
  | some o =>
    rw [SqrtD.sqrtOp_special hs]
    exact rootSpecials_not_aborted hs
  | none =>
    rw [SqrtD.sqrtOp_eq c x hs]
    split
    · exact fun ha => (sqrtIter_noTrap c ht x).errOf ((failOut_aborted_iff _).1 ha)
    · exact finish_not_aborted _ _

end Apd.Imp
