import ApdVerif.Props.Rational
/-!
# Rounding to nearest at `p` digits as a relation on `ℚ`

`Rnd p v w`: `w` is the positive rational `v` rounded to `p` significant digits by a nearest mode:
a multiple of the quantum `10^(a-p+1)` (`a` the adjusted exponent of `v`), within half a quantum of `v`,
and equal to any multiple of the quantum that is strictly closer than half a quantum.`Rd p F A qh sh A'` is one Newton round in these terms: `qh` is `F / A` rounded, `sh` is `qh + A` rounded and
`A'` is `sh / 2` rounded.
-/
namespace Apd.SqrtX
open Apd.Oracle Apd.RatSpec Apd.C20L

def Rnd (p : ℕ) (v w : ℚ) : Prop :=
  ∃ a : ℤ, IsAdj v a ∧ (∃ n : ℤ, w = (n : ℚ) * (10 : ℚ) ^ (a - (p : ℤ) + 1)) ∧
    |w - v| ≤ (10 : ℚ) ^ (a - (p : ℤ) + 1) / 2 ∧
    ∀ k : ℤ, |v - (k : ℚ) * (10 : ℚ) ^ (a - (p : ℤ) + 1)| < (10 : ℚ) ^ (a - (p : ℤ) + 1) / 2 →
      w = (k : ℚ) * (10 : ℚ) ^ (a - (p : ℤ) + 1)

theorem roundInt_snap (mode : Mode) (hm : mode = .halfUp ∨ mode = .halfDown ∨ mode = .halfEven) (neg : Bool)
    (t : ℚ) (k : ℤ) (h : |t - (k : ℚ)| < 1 / 2) : roundInt mode neg t = k := by
  have h1 := Rat_roundInt_half_nearest mode hm neg t
  obtain ⟨a1, a2⟩ := abs_le.1 h1
  obtain ⟨b1, b2⟩ := abs_lt.1 h
  have c1 : ((roundInt mode neg t : ℤ) : ℚ) - (k : ℚ) < 1 := by linarith
  have c2 : (k : ℚ) - ((roundInt mode neg t : ℤ) : ℚ) < 1 := by linarith
  have d1 : roundInt mode neg t - k < 1 := by exact_mod_cast c1
  have d2 : k - roundInt mode neg t < 1 := by exact_mod_cast c2
  omega

theorem rnd_roundInt (p : ℕ) (mode : Mode) (hm : mode = .halfUp ∨ mode = .halfDown ∨ mode = .halfEven)
    (neg : Bool) {v : ℚ} {a : ℤ} (ha : IsAdj v a) :
    Rnd p v (((roundInt mode neg (v / (10 : ℚ) ^ (a - (p : ℤ) + 1)) : ℤ) : ℚ) * (10 : ℚ) ^ (a - (p : ℤ) + 1)) := by
  have hQ := tp (a - (p : ℤ) + 1)
  refine ⟨a, ha, ⟨_, rfl⟩, ?_, ?_⟩ <;> generalize (10 : ℚ) ^ (a - (p : ℤ) + 1) = Q at hQ ⊢
  · have hn := Rat_roundInt_half_nearest mode hm neg (v / Q)
    have e : ((roundInt mode neg (v / Q) : ℤ) : ℚ) * Q - v = (((roundInt mode neg (v / Q) : ℤ) : ℚ) - v / Q) * Q := by
      field_simp
    rw [e, abs_mul, abs_of_pos hQ]
    calc _ ≤ (1 / 2) * Q := mul_le_mul_of_nonneg_right hn hQ.le
      _ = _ := by ring
  · intro k hk
    congr 2
    apply roundInt_snap mode hm
    have e : v / Q - (k : ℚ) = (v - (k : ℚ) * Q) / Q := by field_simp
    rw [e, abs_div, abs_of_pos hQ, div_lt_iff₀ hQ]
    linarith

namespace Rnd
variable {p : ℕ} {v w : ℚ}

theorem rel (h : Rnd p v w) : |w - v| ≤ 5 * (10 : ℚ) ^ (-(p : ℤ)) * v := by
  obtain ⟨a, ha, -, he, -⟩ := h
  have e2 : (10 : ℚ) ^ (a - (p : ℤ) + 1) = 10 * (10 : ℚ) ^ (-(p : ℤ)) * (10 : ℚ) ^ a := by
    rw [show a - (p : ℤ) + 1 = 1 + (-(p : ℤ)) + a by ring, zpow_add₀ ten_ne, zpow_add₀ ten_ne, zpow_one]
  have := mul_le_mul_of_nonneg_left ha.1 (mul_nonneg (by norm_num : (0 : ℚ) ≤ 5) (tp (-(p : ℤ))).le)
  rw [e2] at he
  linarith

theorem err_le (h : Rnd p v w) {b : ℤ} (hv : v < (10 : ℚ) ^ (b + 1)) :
    |w - v| ≤ (10 : ℚ) ^ (b - (p : ℤ) + 1) / 2 := by
  obtain ⟨a, ha, -, he, -⟩ := h
  have hab := ha.lt_of_lt hv
  have : (10 : ℚ) ^ (a - (p : ℤ) + 1) ≤ (10 : ℚ) ^ (b - (p : ℤ) + 1) :=
    zpow_le_zpow_right₀ ten_ge (by omega)
  linarith

theorem exact (h : Rnd p v w) {b z : ℤ} (hv : v < (10 : ℚ) ^ (b + 1))
    (k : ℤ) (hk : v = (k : ℚ) * (10 : ℚ) ^ z) (hz : b - (p : ℤ) + 1 ≤ z) : w = v := by
  obtain ⟨a, ha, -, -, hs⟩ := h
  have hab := ha.lt_of_lt hv
  have hQ := tp (a - (p : ℤ) + 1)
  obtain ⟨m, hm⟩ : ∃ m : ℕ, z = (a - (p : ℤ) + 1) + (m : ℤ) := ⟨(z - (a - (p : ℤ) + 1)).toNat, by omega⟩
  have e : v = ((k * 10 ^ m : ℤ) : ℚ) * (10 : ℚ) ^ (a - (p : ℤ) + 1) := by
    rw [hk, hm, zpow_add₀ ten_ne, zpow_natCast]; push_cast; ring
  have := hs (k * 10 ^ m) (by rw [← e, sub_self, abs_zero]; linarith)
  rw [this, ← e]

theorem snap (h : Rnd p v w) {b z : ℤ} (hlo : (10 : ℚ) ^ b ≤ v)
    (hv : v < (10 : ℚ) ^ (b + 1)) (g : ℚ) (k : ℤ) (hk : g = (k : ℚ) * (10 : ℚ) ^ z)
    (hz : b - (p : ℤ) + 1 ≤ z) (hg : |v - g| < (10 : ℚ) ^ (b - (p : ℤ) + 1) / 2) : w = g := by
  obtain ⟨a, ha, -, -, hs⟩ := h
  have hab : a = b := IsAdj_unique ha ⟨hlo, hv⟩
  subst hab
  obtain ⟨m, hm⟩ : ∃ m : ℕ, z = (a - (p : ℤ) + 1) + (m : ℤ) := ⟨(z - (a - (p : ℤ) + 1)).toNat, by omega⟩
  have e : g = ((k * 10 ^ m : ℤ) : ℚ) * (10 : ℚ) ^ (a - (p : ℤ) + 1) := by
    rw [hk, hm, zpow_add₀ ten_ne, zpow_natCast]; push_cast; ring
  have := hs (k * 10 ^ m) (by rw [← e]; exact hg)
  rw [this, ← e]

theorem mult (h : Rnd p v w) {b : ℤ} (hlo : (10 : ℚ) ^ b ≤ v) :
    ∃ n : ℤ, w = (n : ℚ) * (10 : ℚ) ^ (b - (p : ℤ) + 1) := by
  obtain ⟨a, ha, ⟨n, hn⟩, -, -⟩ := h
  have hba := ha.le_of_le hlo
  obtain ⟨m, hm⟩ : ∃ m : ℕ, a - (p : ℤ) + 1 = (b - (p : ℤ) + 1) + (m : ℤ) := ⟨(a - b).toNat, by omega⟩
  refine ⟨n * 10 ^ m, ?_⟩
  rw [hn, hm, zpow_add₀ ten_ne, zpow_natCast]; push_cast; ring

end Rnd

/-! the quanta of the decades `[0.01, 0.1)`, `[0.1, 1)`, `[1, 10)` -/

theorem q1 (p : ℕ) : (10 : ℚ) ^ ((-1 : ℤ) - (p : ℤ) + 1) = (10 : ℚ) ^ (-(p : ℤ)) := by
  congr 1; ring
theorem q0 (p : ℕ) : (10 : ℚ) ^ ((0 : ℤ) - (p : ℤ) + 1) = 10 * (10 : ℚ) ^ (-(p : ℤ)) := by
  rw [show (0 : ℤ) - (p : ℤ) + 1 = 1 + (-(p : ℤ)) by ring, zpow_add₀ ten_ne]; norm_num
theorem q2 (p : ℕ) : (10 : ℚ) ^ ((-2 : ℤ) - (p : ℤ) + 1) = (10 : ℚ) ^ (-(p : ℤ)) / 10 := by
  rw [show (-2 : ℤ) - (p : ℤ) + 1 = -1 + (-(p : ℤ)) by ring, zpow_add₀ ten_ne]; norm_num; ring

theorem Rnd.err1 {p : ℕ} {v w : ℚ} (h : Rnd p v w) (hv : v < 1) : |w - v| ≤ (10 : ℚ) ^ (-(p : ℤ)) / 2 := by
  have := h.err_le (b := -1) (by norm_num; exact hv)
  rwa [q1] at this
theorem Rnd.err10 {p : ℕ} {v w : ℚ} (h : Rnd p v w) (hv : v < 10) : |w - v| ≤ 5 * (10 : ℚ) ^ (-(p : ℤ)) := by
  have := h.err_le (b := 0) (by norm_num; exact hv)
  rw [q0] at this; linarith
theorem Rnd.err01 {p : ℕ} {v w : ℚ} (h : Rnd p v w) (hv : v < 1 / 10) : |w - v| ≤ (10 : ℚ) ^ (-(p : ℤ)) / 20 := by
  have := h.err_le (b := -2) (by norm_num; linarith)
  rw [q2] at this; linarith

structure Rd (p : ℕ) (F A qh sh A' : ℚ) : Prop where
  rq : Rnd p (F / A) qh
  rs : Rnd p (qh + A) sh
  rh : Rnd p (sh * (1 / 2)) A'

end Apd.SqrtX
