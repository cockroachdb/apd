import ApdVerif.Lemmas.CbrtConvLoop
import ApdVerif.Lemmas.CbrtExact
/-!
# `Context.Cbrt` converges — the tail: final rounding and exactness re-check, forwards

`tail_fw`: the tail applied to an iterate close to the root (`CbrtT.Iter`) returns without error when the caller's traps
are `TrapsOK` and the cube of the result stays inside the package limits: the final rounding raises no system flag
(`CbrtT.final_agrees`), and the rounded result lies between the decade of the iterate and twice the iterate
(`CbrtT.Iter.rounded`), which puts its cube into the window of `recheck_iff`.
-/
namespace Apd.CbrtC
open Apd.Oracle Apd.RatSpec Apd.C20L Apd.SqrtL Apd.CbrtL Apd.CbrtT Apd.C11Q

theorem mul_inf (cc : Ctx) (x y : Dec) (hx : x.form = .infinite) (hy : y.form = .infinite) :
    (mulOp cc x y).err = .none ∧ (mulOp cc x y).fl = {} ∧ (mulOp cc x y).d.form = .infinite := by
  simp [mulOp, shouldSetAsNaN, Dec.isNaN, Dec.isZero, hx, hy, decInf]

theorem recheck_fw_inf (c : Ctx) (fl0 : Cond) (hfl0 : goError defaultTraps fl0 = .none) (z d : Dec)
    (hd : d.form = .infinite) : (recheck c fl0 z d).1.failed = false := by
  unfold recheck
  dsimp only
  have he0 : EDg (nc3 c) ({ c := nc3 c, fl := fl0, err := .none } : ED) :=
    ⟨(ED.failed_false_iff _).2 ⟨rfl, hfl0⟩, rfl⟩
  obtain ⟨m1, m2, m3⟩ := mul_inf (nc3 c) d d hd hd
  obtain ⟨g1, v1⟩ := he0.step_fw z (op := fun cc => mulOp cc d d) m1 (by rw [m2]; exact goError_noFlags _)
  generalize ({ c := nc3 c, fl := fl0, err := .none } : ED).step z
    (fun cc => mulOp cc d d) = q1 at g1 v1 ⊢
  obtain ⟨n1, n2, n3⟩ := mul_inf (nc3 c) q1.2 d (by rw [v1]; exact m3) hd
  exact (g1.step_fw q1.2 (op := fun cc => mulOp cc q1.2 d) n1 (by rw [n2]; exact goError_noFlags _)).1.nf

/-- the caller's traps do not include a condition the final rounding can raise -/
structure TrapsOK (t : Cond) : Prop where
  inexact : t.inexact = false
  rounded : t.rounded = false
  subnormal : t.subnormal = false
  underflow : t.underflow = false
  overflow : t.overflow = false
  clamped : t.clamped = false

theorem goError_untrapped (t fl : Cond) (ht : TrapsOK t) (h : NoSys fl) (f7 : fl.divUndefined = false)
    (f8 : fl.divByZero = false) (f9 : fl.divImpossible = false) (f10 : fl.invalidOp = false) :
    goError t fl = .none := by
  obtain ⟨s1, s2⟩ := h
  obtain ⟨t1, t2, t3, t4, t5, t6⟩ := ht
  simp [goError, HAnd.hAnd, AndOp.and, Cond.and, Cond.any, s1, s2, f7, f8, f9, f10, t1, t2, t3, t4, t5, t6]

/-- `a` is the adjusted exponent of the root -/
theorem tail_fw (c : Ctx) (hc : c.WF) (hP2 : c.prec ≤ 24999) (ht : TrapsOK c.traps) (x : Dec)
    (h0 : x.coeff ≠ 0) (hw : x.WF) (fl0 : Cond) (hfl0 : goError defaultTraps fl0 = .none) (zf : Dec)
    (hI : Iter c x zf) (a : ℤ) (hX : Rng (magQ x) (3 * a) (3 * a + 3)) (H2 : a ≤ 33331)
    (C5 : -100000 ≤ 3 * (a - (c.prec : ℤ))) : (tail c x fl0 zf).err = .none := by
  have hp : c.prec * 3 + 2 ≤ 100000 := by omega
  have hP1 := hc.1
  obtain ⟨hns, hA⟩ := final_agrees c hc hp x h0 hw zf hI
  rw [tail_eq]
  have hfailed : (recheck c fl0 zf (resD c x zf)).1.failed = false := by
    by_cases hf : (ctxRound (cH c) zf).1.form = .finite
    · obtain ⟨az, q, n, had, hqd, ha, hv, hnear, hneg, hDnd, hcase⟩ := hI.rounded hc hp h0 hw hf
      obtain ⟨t0, t1⟩ := tau_le c.prec hP1
      obtain ⟨k1, -, k3⟩ := close_ranges zf.toRat (magQ x) _ a hI.pos.toRat_pos hX.1 hX.2 t0 t1 hI.lo hI.hi
      have haz := ha.le_of_le k1
      refine (recheck_iff c hP1 (by omega) fl0 zf (resD c x zf) hf hDnd).1.2 ⟨hfl0, ?_⟩
      unfold CubeWin resD
      dsimp only
      generalize (ctxRound (cH c) zf).1 = D at hf hneg hDnd hcase ⊢
      rcases hcase with ⟨hD0, s1, s2⟩ | ⟨hD0, het, hge, hle⟩
      · rw [hD0]
        simp only [Nat.mul_zero, Apd.ndigits_zero]
        have := hc.2.2.2.2
        constructor <;> omega
      · have hDpos : Pos D := ⟨hf, hneg, hD0⟩
        have x1 := adj_gt hDpos hge
        have x2 := adj_le hDpos (k := a + 2) (by
          rw [show a + 2 = a + 1 + 1 by ring, zpow_add_one₀ ten_ne]
          linarith only [hle, k3, tp (a + 1)])
        have m2 := ndigits_mul_le D.coeff D.coeff hD0 hD0
        have m3 := ndigits_mul_le (D.coeff * D.coeff) D.coeff (Nat.mul_pos hD0 hD0) hD0
        constructor <;> omega
    · by_cases hi : (ctxRound (cH c) zf).1.form = .infinite
      · exact recheck_fw_inf c fl0 hfl0 zf _ hi
      · have := Rat_matches_nan (specRound (cH c) (exactRound zf)) _ hf hi
        rw [hA.1] at this; exact Bool.noConfusion this
  rw [if_neg (by rw [hfailed]; exact Bool.false_ne_true)]
  split_ifs
  · rfl
  · show goError c.traps (ctxRound (cH c) zf).2 = .none
    obtain ⟨-, -, -, -, -, -, f7, f8, f9, f10⟩ := hA.2.1
    exact goError_untrapped _ _ ht hns f7 f8 f9 f10

end Apd.CbrtC

#print axioms Apd.CbrtC.tail_fw
