import Mathlib.Analysis.Complex.Exponential
import Mathlib.Analysis.Complex.ExponentialBounds
import Mathlib.Tactic.Ring
import Mathlib.Tactic.Linarith
import Mathlib.Tactic.NormNum
import Mathlib.Tactic.Positivity
import Mathlib.Tactic.FieldSimp
/-!
# Pure real analysis behind the accuracy of `Context.Exp` (Hull & Abrham's algorithm)

S1 (Taylor remainder on `|r| ≤ 1`; S1…S5 are the proof stages listed in `Props/C12ExpAcc`) and the exact partial sums
`hornerT` of the Horner loop with their sign-dependent ranges.  No decimal model here.
-/
namespace Apd.ExpAcc
open Finset

theorem exp_series_trunc (r : ℝ) (hr : |r| ≤ 1) (n : ℕ) (hn : 1 ≤ n) :
    |Real.exp r - ∑ i ∈ range n, r ^ i / (i.factorial : ℝ)| ≤
      |r| ^ n / (n.factorial : ℝ) * (((n : ℝ) + 1) / (n : ℝ)) := by
  have h := Real.exp_bound hr (n := n) (by omega)
  have hn' : (0 : ℝ) < n := by exact_mod_cast (by omega : 0 < n)
  have hf : (0 : ℝ) < (n.factorial : ℝ) := by exact_mod_cast n.factorial_pos
  have e : |r| ^ n * ((n.succ : ℝ) / ((n.factorial : ℝ) * (n : ℝ))) =
      |r| ^ n / (n.factorial : ℝ) * (((n : ℝ) + 1) / (n : ℝ)) := by
    push_cast
    field_simp
  rw [← e]; exact h

/-- the exact value of the Horner loop after `m` rounds, the last one at index `i` -/
noncomputable def hornerT (r : ℝ) : ℕ → ℕ → ℝ
  | _, 0 => 1
  | i, m+1 => 1 + r / (i : ℝ) * hornerT r (i+1) m

@[simp] theorem hornerT_zero (r : ℝ) (i : ℕ) : hornerT r i 0 = 1 := by
  cases i <;> rfl

theorem hornerT_succ (r : ℝ) (i m : ℕ) : hornerT r i (m+1) = 1 + r / (i : ℝ) * hornerT r (i+1) m := by
  cases i <;> rfl

theorem hornerT_eq_sum (r : ℝ) : ∀ (m i : ℕ),
    hornerT r (i+1) m = ∑ j ∈ range (m+1), r ^ j * ((i.factorial : ℝ) / ((i+j).factorial : ℝ)) := by
  intro m
  induction m with
  | zero =>
    intro i
    have hf : ((i.factorial : ℕ) : ℝ) ≠ 0 := by exact_mod_cast i.factorial_ne_zero
    simp [hf]
  | succ m ih =>
    intro i
    rw [hornerT_succ, ih (i+1), Finset.sum_range_succ' _ (m+1)]
    have hf : ((i.factorial : ℕ) : ℝ) ≠ 0 := by exact_mod_cast i.factorial_ne_zero
    have h0 : r ^ 0 * ((i.factorial : ℝ) / ((i+0).factorial : ℝ)) = 1 := by simp [hf]
    rw [h0, add_comm, Finset.mul_sum]
    congr 1
    apply Finset.sum_congr rfl
    intro j _
    have e1 : i + 1 + j = i + (j + 1) := by omega
    rw [e1]
    have hf2 : (((i + (j+1)).factorial : ℕ) : ℝ) ≠ 0 := by exact_mod_cast (i + (j+1)).factorial_ne_zero
    have hi : ((i : ℝ) + 1) ≠ 0 := by positivity
    rw [Nat.factorial_succ]
    push_cast
    field_simp
    ring

theorem hornerT_one (r : ℝ) (m : ℕ) :
    hornerT r 1 m = ∑ j ∈ range (m+1), r ^ j / (j.factorial : ℝ) := by
  rw [hornerT_eq_sum r m 0]
  apply Finset.sum_congr rfl
  intro j _
  simp [div_eq_mul_inv]

theorem hornerT_bounds_pos (r : ℝ) (h0 : 0 ≤ r) (h1 : r ≤ 1) : ∀ (m i : ℕ), 1 ≤ i →
    1 ≤ hornerT r i m ∧ hornerT r i m ≤ 1 + 2 * (r / (i : ℝ)) := by
  intro m
  induction m with
  | zero =>
    intro i hi
    rw [hornerT_zero]
    exact ⟨le_rfl, by linarith only [div_nonneg h0 (Nat.cast_nonneg (α := ℝ) i)]⟩
  | succ m ih =>
    intro i hi
    have hi2 : (1 : ℝ) ≤ i := by exact_mod_cast hi
    obtain ⟨l, hu⟩ := ih (i+1) (by omega)
    rw [hornerT_succ]
    have hq : 0 ≤ r / (i : ℝ) := div_nonneg h0 (by linarith only [hi2])
    have hle : hornerT r (i+1) m ≤ 2 := by
      have : r / ((i + 1 : ℕ) : ℝ) ≤ 1 / 2 := by
        rw [div_le_iff₀ (by positivity)]; push_cast; linarith only [h1, hi2]
      linarith only [hu, this]
    have p0 := mul_nonneg hq (by linarith only [l] : 0 ≤ hornerT r (i+1) m)
    have p1 := mul_le_mul_of_nonneg_left hle hq
    exact ⟨by linarith only [p0], by linarith only [p1]⟩

theorem hornerT_bounds_neg (r : ℝ) (h0 : r ≤ 0) (h1 : -1 ≤ r) : ∀ (m i : ℕ), 1 ≤ i →
    1 + r / (i : ℝ) ≤ hornerT r i m ∧ hornerT r i m ≤ 1 := by
  intro m
  induction m with
  | zero =>
    intro i hi
    rw [hornerT_zero]
    exact ⟨by linarith only [div_nonpos_of_nonpos_of_nonneg h0 (Nat.cast_nonneg (α := ℝ) i)], le_rfl⟩
  | succ m ih =>
    intro i hi
    have hi2 : (1 : ℝ) ≤ i := by exact_mod_cast hi
    obtain ⟨l, hu⟩ := ih (i+1) (by omega)
    rw [hornerT_succ]
    have hq : r / (i : ℝ) ≤ 0 := div_nonpos_of_nonpos_of_nonneg h0 (by linarith only [hi2])
    have hge : 0 ≤ hornerT r (i+1) m := by
      have : -1 ≤ r / ((i + 1 : ℕ) : ℝ) := by
        rw [le_div_iff₀ (by positivity)]; push_cast; linarith only [h1, hi2]
      linarith only [l, this]
    have p0 := mul_le_mul_of_nonpos_left hu hq
    have p1 := mul_nonpos_of_nonpos_of_nonneg hq hge
    exact ⟨by linarith only [p0], by linarith only [p1]⟩

end Apd.ExpAcc
