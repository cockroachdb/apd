import ApdVerif.Lemmas.RoundedOp
import ApdVerif.Lemmas.ExpAccUnits
import ApdVerif.Oracle.TransOps
/-!
# The final rounding of `Exp`, `Ln` and `Log10` against `ulpOf`

A non-zero value rounded to the caller's context moves by at most `ρ` units `10^q`, `q` at most the ulp exponent read
off the result (`final_round_core`), for any bound `ρ` on the distance of `roundInt` from its argument; `LnAcc.rhoMode`
is that bound per rounding mode.  So a sum `F` within `a + κ|F|` of the target `R`, `κ·10^prec ≤ K`, rounded once in
any mode, is within `rhoMode + K` units in the last place, plus `a`, of `R` (`LnAcc.round_final`).
-/
namespace Apd.ExpAcc
open Apd.Oracle

/-- exponent of one unit in the last place of a `prec`-digit result with the magnitude of `d` (not below Etiny):
the exponent of `Oracle.ulpOf` -/
def ulpExp (c : Ctx) (d : Dec) : Int := (ulpOf c d).e

theorem ulpExp_eq (c : Ctx) (d : Dec) :
    ulpExp c d = max ((ndigits d.coeff : Int) - 1 + d.exp - (c.prec : Int) + 1) (c.emin - (c.prec : Int) + 1) := rfl

theorem roundedMag_ge (c : Ctx) (neg : Bool) (x : ℚ) (a : ℤ) (hP : 1 ≤ c.prec)
    (hq : quantum c a = a - (c.prec : ℤ) + 1) (hx : (10 : ℚ) ^ a ≤ x) :
    (10 : ℚ) ^ a ≤ roundedMag c neg x a := by
  have hqpos : (0 : ℚ) < (10 : ℚ) ^ quantum c a := zpow_pos (by norm_num) _
  have e1 : (10 : ℚ) ^ a = (((10 : ℤ) ^ (c.prec - 1) : ℤ) : ℚ) * (10 : ℚ) ^ quantum c a := by
    push_cast
    rw [← zpow_natCast (10 : ℚ) (c.prec - 1), ← zpow_add₀ (by norm_num : (10 : ℚ) ≠ 0), hq, Nat.cast_sub hP]
    congr 1; push_cast; ring
  have hfloor : ((10 : ℤ) ^ (c.prec - 1) : ℤ) ≤ ⌊x / (10 : ℚ) ^ quantum c a⌋ := by
    rw [Int.le_floor, le_div_iff₀ hqpos, ← e1]; exact hx
  have hri : ((10 : ℤ) ^ (c.prec - 1) : ℤ) ≤ roundInt c.mode neg (x / (10 : ℚ) ^ quantum c a) := by
    rcases RatSpec.roundInt_floor_or_succ c.mode neg (x / (10 : ℚ) ^ quantum c a) with h | h <;> rw [h] <;> omega
  rw [roundedMag, e1]
  exact mul_le_mul_of_nonneg_right (by exact_mod_cast hri) hqpos.le

theorem agrees_ge (c : Ctx) (ex : Exact) (d : Dec) (fl : Cond) (hP : 1 ≤ c.prec) (hn : 0 < ex.num) (hd : 0 < ex.den)
    (hA : Agrees c ex d fl) (hf : d.form = .finite)
    (hq : quantum c (adjRat ex.num ex.den + ex.e10) = adjRat ex.num ex.den + ex.e10 - (c.prec : ℤ) + 1) :
    (10 : ℚ) ^ (adjRat ex.num ex.den + ex.e10) ≤ |d.toRat| := by
  have ha := RatSpec.mag_isAdj ex hn hd
  obtain ⟨hval, -⟩ := RatSpec.Rat_agrees_finite c ex d fl hn hd ha hA hf
  rw [hval, abs_mul, abs_sign, one_mul]
  exact (roundedMag_ge c _ _ _ hP hq ha.1).trans (le_abs_self _)

/-- `q` is at most the ulp exponent read off the result, since rounding does not lower the adjusted exponent of a
value that keeps `prec` digits -/
theorem final_round_core (c : Ctx) (hc : c.WF) (ρ : ℚ)
    (hρ : ∀ neg t, |((roundInt c.mode neg t : ℤ) : ℚ) - t| ≤ ρ) (v : Dec) (hv : v.form = .finite)
    (hv0 : v.toRat ≠ 0) (hns : NoSys (ctxRound c v).2) (hf : (ctxRound c v).1.form = .finite) :
    ∃ q : ℤ, q ≤ ulpExp c (ctxRound c v).1 ∧ |(ctxRound c v).1.toRat - v.toRat| ≤ ρ * (10 : ℚ) ^ q ∧
      (ndigits v.coeff : ℤ) - 1 + v.exp - (c.prec : ℤ) + 1 ≤ q := by
  have hA := Props.C01_roundCore c hc v hv hns
  generalize ctxRound c v = rr at *
  have hcoeff : v.coeff ≠ 0 := fun h0 => hv0 (by unfold Dec.toRat; simp [h0])
  have hn : 0 < (exactRound v).num := Nat.pos_of_ne_zero hcoeff
  have hden : 0 < (exactRound v).den := Nat.one_pos
  have herr := agrees_err c (exactRound v) _ _ ρ hn hden hA hf (hρ _)
  have hge := agrees_ge c (exactRound v) _ _ hc.1 hn hden hA hf
  have ha1 : adjRat (exactRound v).num (exactRound v).den + (exactRound v).e10 =
      (ndigits v.coeff : ℤ) - 1 + v.exp := by
    show adjRat v.coeff 1 + v.exp = _
    rw [adjRat_one v.coeff (Nat.pos_of_ne_zero hcoeff)]
  rw [RatSpec.Rat_exactRound_toRat] at herr
  rw [ha1] at herr hge
  generalize (ndigits v.coeff : ℤ) - 1 + v.exp = a at *
  have hqa : a - (c.prec : ℤ) + 1 ≤ quantum c a := le_max_left _ _
  refine ⟨quantum c a, ?_, herr, hqa⟩
  rw [ulpExp_eq]
  by_cases hcase : a - (c.prec : ℤ) + 1 ≤ c.emin - (c.prec : ℤ) + 1
  · rw [quantum, max_eq_right hcase]; exact le_max_right _ _
  · have hq : quantum c a = a - (c.prec : ℤ) + 1 := max_eq_left (by omega)
    -- the rounded value is at least `10^a`, hence its adjusted exponent is at least `a`
    have hdge := hge hq
    have hlt := (abs_toRat_isAdj _ (coeff_pos_of_pow_le hdge)).le_of_le hdge
    rw [hq]
    exact le_trans (by omega) (le_max_left _ _)

end Apd.ExpAcc

namespace Apd.LnAcc
open Apd.Oracle Apd.Props Apd.RatSpec Apd.ExpAcc

noncomputable def rhoMode (m : Mode) : ℚ :=
  if m = .halfUp ∨ m = .halfDown ∨ m = .halfEven then 1 / 2 else 1

theorem rhoMode_halfEven : ((rhoMode .halfEven : ℚ) : ℝ) = 1 / 2 := by
  unfold rhoMode; rw [if_pos (Or.inr (Or.inr rfl))]; norm_num

theorem roundInt_err (mode : Mode) (neg : Bool) (t : ℚ) :
    |((roundInt mode neg t : ℤ) : ℚ) - t| ≤ rhoMode mode := by
  unfold rhoMode
  split_ifs with h
  · exact Rat_roundInt_half_nearest mode h neg t
  · have f1 := Int.floor_le t
    have f2 := Int.lt_floor_add_one t
    rcases roundInt_floor_or_succ mode neg t with h1 | h1 <;> rw [h1, abs_le] <;> push_cast <;>
      constructor <;> linarith

theorem rhoMode_nonneg (m : Mode) : (0 : ℝ) ≤ ((rhoMode m : ℚ) : ℝ) := by
  unfold rhoMode; split_ifs <;> norm_num

theorem round_final_units (c : Ctx) (hc : c.WF) (F : Dec) (hFf : F.form = .finite) (hF0 : rv F ≠ 0) (R a κ : ℝ)
    (hκ : 0 ≤ κ)
    (hB : |rv F - R| ≤ a + κ * (10 : ℝ) ^ ((ndigits F.coeff : ℤ) - 1 + F.exp - (c.prec : ℤ) + 1))
    (hns : NoSys (ctxRound c F).2) (hf : (ctxRound c F).1.form = .finite) :
    |rv (ctxRound c F).1 - R| ≤
      (((rhoMode c.mode : ℚ) : ℝ) + κ) * (10 : ℝ) ^ (ulpExp c (ctxRound c F).1) + a := by
  have hF0' : F.toRat ≠ 0 := fun h => hF0 (by unfold rv; rw [h]; simp)
  obtain ⟨q, hq1, hq2, hq4⟩ := final_round_core c hc _ (roundInt_err c.mode) F hFf hF0' hns hf
  have h2 : ((|(ctxRound c F).1.toRat - F.toRat| : ℚ) : ℝ) ≤ ((rhoMode c.mode * (10 : ℚ) ^ q : ℚ) : ℝ) := by
    exact_mod_cast hq2
  push_cast at h2
  change |rv (ctxRound c F).1 - rv F| ≤ _ at h2
  have h3 := mul_le_mul_of_nonneg_left (zpow_le_zpow_right₀ (by norm_num : (1 : ℝ) ≤ 10) hq4) hκ
  have h5 := mul_le_mul_of_nonneg_left (zpow_le_zpow_right₀ (by norm_num : (1 : ℝ) ≤ 10) hq1)
    (add_nonneg (rhoMode_nonneg c.mode) hκ)
  rw [add_mul] at h5
  linarith only [abs_sub_le (rv (ctxRound c F).1) (rv F) R, h2, hB, h3, h5]

theorem round_final (c : Ctx) (hc : c.WF) (F : Dec) (hFf : F.form = .finite) (R a κ K : ℝ) (hκ : 0 ≤ κ)
    (hK : κ * (10 : ℝ) ^ c.prec ≤ K) (hB : |rv F - R| ≤ a + κ * |rv F|) (hns : NoSys (ctxRound c F).2)
    (hf : (ctxRound c F).1.form = .finite) :
    |rv (ctxRound c F).1 - R| ≤
      (((rhoMode c.mode : ℚ) : ℝ) + K) * (10 : ℝ) ^ (ulpExp c (ctxRound c F).1) + a := by
  have hK0 : 0 ≤ K := le_trans (mul_nonneg hκ (by positivity)) hK
  by_cases hF0 : rv F = 0
  · have hd0 : rv (ctxRound c F).1 = 0 := by
      unfold rv
      rw [toRat_zero_of_agrees (C01_roundCore c hc F hFf hns) hf ((rv_eq_zero_iff F).1 hF0), Rat.cast_zero]
    rw [hF0, abs_zero, mul_zero, add_zero] at hB
    rw [hd0]
    exact hB.trans (le_add_of_nonneg_left (mul_nonneg (add_nonneg (rhoMode_nonneg c.mode) hK0)
      (zpow_pos (by norm_num) _).le))
  · refine round_final_units c hc F hFf hF0 R a K hK0 (hB.trans (add_le_add_right ?_ a)) hns hf
    -- `|F| < 10^P` units of its last digit
    have h1 := (abs_rv_isAdj F (fun h => hF0 ((rv_eq_zero_iff F).2 h))).2
    have e : (10 : ℝ) ^ ((ndigits F.coeff : ℤ) + F.exp) =
        (10 : ℝ) ^ c.prec * (10 : ℝ) ^ ((ndigits F.coeff : ℤ) - 1 + F.exp - (c.prec : ℤ) + 1) := by
      rw [← zpow_natCast, ← zpow_add₀ ten_ne]; congr 1; ring
    rw [e] at h1
    calc κ * |rv F| ≤ κ * ((10 : ℝ) ^ c.prec * (10 : ℝ) ^ ((ndigits F.coeff : ℤ) - 1 + F.exp - (c.prec : ℤ) + 1)) :=
          mul_le_mul_of_nonneg_left h1.le hκ
      _ = κ * (10 : ℝ) ^ c.prec * (10 : ℝ) ^ ((ndigits F.coeff : ℤ) - 1 + F.exp - (c.prec : ℤ) + 1) :=
          (mul_assoc _ _ _).symm
      _ ≤ _ := mul_le_mul_of_nonneg_right hK (zpow_pos (by norm_num) _).le

theorem u_le_ulp (c : Ctx) (d : Dec) (m : ℤ) (hadj : m ≤ (ndigits d.coeff : Int) - 1 + d.exp) :
    uR (c.prec + 2) ≤ (10 : ℝ) ^ (-m - 2) / 2 * (10 : ℝ) ^ (ulpExp c d) := by
  have h1 : -(c.prec : ℤ) - 1 ≤ (-m - 2) + ulpExp c d := by
    have := le_max_left ((ndigits d.coeff : Int) - 1 + d.exp - (c.prec : Int) + 1) (c.emin - (c.prec : Int) + 1)
    rw [ulpExp_eq]; omega
  have h2 := zpow_le_zpow_right₀ (by norm_num : (1 : ℝ) ≤ 10) h1
  rw [zpow_add₀ ten_ne] at h2
  rw [uR_prec]; linarith

end Apd.LnAcc
