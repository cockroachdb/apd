import ApdVerif.Model.Arith
import Mathlib.Data.Nat.Bitwise
/-!
`Cond.toNat` as a nest of `Nat.bit`, and how such a nest meets `&&&`, `|||` and `= 0`.
-/
namespace Apd
open Nat (bit)

/-- `Cond.toNat` spelled with `if`s (gets rid of the private helper `b2n`) -/
theorem Cond.toNat_eq_ite (a : Cond) :
    a.toNat =
      (if a.sysOverflow then 1 else 0) + (if a.sysUnderflow then 2 else 0) + (if a.overflow then 4 else 0) +
      (if a.underflow then 8 else 0) + (if a.inexact then 16 else 0) + (if a.subnormal then 32 else 0) +
      (if a.rounded then 64 else 0) + (if a.divUndefined then 128 else 0) + (if a.divByZero then 256 else 0) +
      (if a.divImpossible then 512 else 0) + (if a.invalidOp then 1024 else 0) +
      (if a.clamped then 2048 else 0) := rfl

private theorem ite_toNat (b : Bool) (w : Nat) : (if b then w else 0) = w * b.toNat := by
  cases b <;> simp

theorem Cond.toNat_eq_bit (a : Cond) :
    a.toNat =
      bit a.sysOverflow (bit a.sysUnderflow (bit a.overflow (bit a.underflow (bit a.inexact
      (bit a.subnormal (bit a.rounded (bit a.divUndefined (bit a.divByZero (bit a.divImpossible
      (bit a.invalidOp (bit a.clamped 0))))))))))) := by
  rw [Cond.toNat_eq_ite]
  simp only [Nat.bit_val, ite_toNat]
  omega

theorem Cond.and_def (a b : Cond) : a &&& b = Cond.and a b := rfl

theorem Cond.toNat_and (a b : Cond) : (a &&& b).toNat = a.toNat &&& b.toNat := by
  simp only [Cond.toNat_eq_bit, Nat.land_bit, Nat.and_zero, Cond.and_def, Cond.and]

theorem Cond.toNat_eq_zero_iff (a : Cond) : a.toNat = 0 ↔ a.any = false := by
  simp only [Cond.toNat_eq_bit, Nat.bit_eq_zero_iff, Cond.any, Bool.or_eq_false_iff]
  tauto

/-- A mask is peeled one bit at a time against a nest of `bit`; for a numeral `k`, `simp` evaluates
`k.testBit 0` and `k / 2`. -/
theorem bit_land (a : Bool) (m k : Nat) : bit a m &&& k = bit (a && k.testBit 0) (m &&& k / 2) := by
  conv_lhs => rw [← Nat.bit_testBit_zero_shiftRight_one k, Nat.land_bit, Nat.shiftRight_one]

theorem bit_lor (a : Bool) (m k : Nat) : bit a m ||| k = bit (a || k.testBit 0) (m ||| k / 2) := by
  conv_lhs => rw [← Nat.bit_testBit_zero_shiftRight_one k, Nat.lor_bit, Nat.shiftRight_one]

theorem Cond.toNat_and_three (a : Cond) :
    (a.toNat &&& 3 != 0) = (a.sysOverflow || a.sysUnderflow) := by
  simp only [Cond.toNat_eq_bit, bit_land, Nat.testBit_zero, Nat.reduceDiv, Nat.reduceMod, Nat.and_zero]
  cases a.sysOverflow <;> cases a.sysUnderflow <;> decide

end Apd
