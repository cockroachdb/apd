import ApdVerif.Lemmas.SetExponent
/-!
# `Context.round` in closed form, with all its exits (core Lean only)

`roundX_path`: on every path `Rounder.Round` ends in one `setExponent`, on a decimal, flags and a second summand that
`RoundPath` relates to the operand (where digits are dropped, the decimal is the oracle's rounding of it); what asks for
flags, form, digits or value of a rounding starts there.  `roundOut c x`: what `Context.round` returns on a finite `x`
whenever no system flag is raised (`ctxRound_eq`), a function of `roundQuot` at the quantum `c.quantumOf x`;
`ctxRound_exits`: every other way out, with what it leaves behind; `ctxRound_noSys_of`: inside the package limits there
is none.
-/
namespace Apd
open Apd Apd.Oracle Cond

/-- The long path of `Rounder.Round` for any `prec` (`quantize` calls `Round` with `prec = nd - k`, which may be 0): a
carry shows in the digit count of the quotient. -/
theorem roundX_long_eq (c : Ctx) (x : Dec) (b : Bool) (hx : x.form = .finite) (h0 : (b && c.prec == 0) = false)
    (hsub : ¬ (x.coeff ≠ 0 ∧ x.exp + (ndigits x.coeff : Int) - 1 < c.emin))
    (k : Nat) (hk : (ndigits x.coeff : Int) - (c.prec : Int) = k) (hk0 : 0 < k) (hk1 : k ≤ 100000) :
    let ra := roundQuot c.mode x.neg x.coeff (10 ^ k)
    let y := if ndigits (x.coeff / 10 ^ k) < ndigits ra.1 then ra.1 / 10 else ra.1
    let d : Int := if ndigits (x.coeff / 10 ^ k) < ndigits ra.1 then (k : Int) + 1 else k
    let res := if ra.2 = true then cRounded ||| cInexact else cRounded
    roundXFin c x b = ((setExponent c { x with coeff := y } res [x.exp, d]).1,
      res ||| (setExponent c { x with coeff := y } res [x.exp, d]).2) := by
  intro ra y d res
  rw [roundXFin_eq c x b hx h0, if_neg hsub, if_pos (by omega), if_neg (by omega)]
  simp only [hk, Int.toNat_natCast]
  obtain ⟨s1, s2⟩ := roundStep c.mode x.neg x.coeff (10 ^ k) k
  rcases s2 with ⟨n1, e⟩ | ⟨n1, e, -, -⟩
  · have hc : ¬ ndigits (x.coeff / 10 ^ k) < ndigits ra.1 := by show ¬ _ < ndigits (roundQuot _ _ _ _).1; omega
    rw [e, ← s1, show y = ra.1 from if_neg hc, show d = k from if_neg hc]
  · have hc : ndigits (x.coeff / 10 ^ k) < ndigits ra.1 := by show _ < ndigits (roundQuot _ _ _ _).1; omega
    rw [e, ← s1, show y = ra.1 / 10 from if_pos hc, show d = (k : Int) + 1 from if_pos hc]

theorem roundX_toobig (c : Ctx) (x : Dec) (b : Bool) (hx : x.form = .finite) (h0 : (b && c.prec == 0) = false)
    (hsub : ¬ (x.coeff ≠ 0 ∧ x.exp + (ndigits x.coeff : Int) - 1 < c.emin))
    (hd : (ndigits x.coeff : Int) - (c.prec : Int) > 100000) : roundXFin c x b = (x, cSysOverflow ||| cOverflow) := by
  rw [roundXFin_eq c x b hx h0, if_neg hsub, if_pos (by omega), if_pos hd]

theorem roundX_noSys_drop (c : Ctx) (x : Dec) (b : Bool) (hx : x.form = .finite) (h0 : (b && c.prec == 0) = false)
    (hsub : ¬ (x.coeff ≠ 0 ∧ x.exp + (ndigits x.coeff : Int) - 1 < c.emin)) (hns : NoSys (roundXFin c x b).2) :
    (ndigits x.coeff : Int) - (c.prec : Int) ≤ 100000 := by
  apply Classical.byContradiction; intro hgt
  rw [roundX_toobig c x b hx h0 hsub (by omega)] at hns
  cases hns.1

/-- the long path for `1 ≤ prec`: the quotient has `prec` digits, so a carry is a digit beyond `prec` -/
theorem roundX_long_prec (c : Ctx) (x : Dec) (b : Bool) (hx : x.form = .finite) (hp : 1 ≤ c.prec)
    (hnd : c.prec < ndigits x.coeff) (hd : (ndigits x.coeff : Int) - (c.prec : Int) ≤ 100000)
    (hadj : c.emin ≤ x.exp + (ndigits x.coeff : Int) - 1) :
    let D := ndigits x.coeff - c.prec
    let ra := roundQuot c.mode x.neg x.coeff (10 ^ D)
    let y := if c.prec < ndigits ra.1 then ra.1 / 10 else ra.1
    let d : Int := if c.prec < ndigits ra.1 then (D : Int) + 1 else D
    let res := if ra.2 = true then cRounded ||| cInexact else cRounded
    roundXFin c x b = ((setExponent c { x with coeff := y } res [x.exp, d]).1,
      res ||| (setExponent c { x with coeff := y } res [x.exp, d]).2) ∧
    0 < y ∧ ndigits y = c.prec ∧ (D : Int) ≤ d ∧ d ≤ (D : Int) + 1 ∧
    roundAt c.mode x.neg x.coeff 1 x.exp (x.exp + (D : Int)) = (y * 10 ^ (d - (D : Int)).toNat, ra.2) := by
  intro D ra y d res
  have hpos : 0 < x.coeff := by
    rcases Nat.eq_zero_or_pos x.coeff with h0 | h0
    · rw [h0, ndigits_zero] at hnd; omega
    · exact h0
  have hq : ndigits (x.coeff / 10 ^ D) = c.prec := ndigits_div_pow _ _ hpos hp (by omega)
  have e := roundX_long_eq c x b hx (prec_pos_enabled c b hp) (by omega) D (by omega) (by omega) (by omega)
  simp only [hq] at e
  refine ⟨e, ?_⟩
  have hge := (roundQuot_bounds c.mode x.neg x.coeff (10 ^ D)).1
  have hq0 := (ndigits_div_pow_sub x.coeff D hpos (by omega)).1
  have hra : roundAt c.mode x.neg x.coeff 1 x.exp (x.exp + (D : Int)) = ra := by
    rw [roundAt_dec _ _ _ _ _ (Int.le_add_of_nonneg_right (Int.natCast_nonneg D)), Int.add_comm x.exp,
      Int.add_sub_cancel, Int.toNat_natCast]
  rcases (roundStep c.mode x.neg x.coeff (10 ^ D) 0).2 with ⟨n1, -⟩ | ⟨n1, -, v1, v2⟩
  · have hc : ¬ c.prec < ndigits ra.1 := by show ¬ _ < ndigits (roundQuot _ _ _ _).1; omega
    rw [show y = ra.1 from if_neg hc, show d = D from if_neg hc, Int.sub_self, Int.toNat_zero, Nat.pow_zero, Nat.mul_one]
    exact ⟨by show 0 < (roundQuot _ _ _ _).1; omega, by rw [← hq]; exact n1, Int.le_refl _, by omega, hra⟩
  · have hc : c.prec < ndigits ra.1 := by show _ < ndigits (roundQuot _ _ _ _).1; omega
    rw [show y = ra.1 / 10 from if_pos hc, show d = (D : Int) + 1 from if_pos hc,
      show ((D : Int) + 1 - D).toNat = 1 by omega, Nat.pow_one, v1]
    exact ⟨by show 0 < (roundQuot _ _ _ _).1 / 10; omega, by rw [← hq]; exact v2, by omega, Int.le_refl _, hra⟩

/-- what `Rounder.Round` hands to `setExponent` on its three paths (below `emin`; nothing to cut; `prec` digits kept).
On the last, `hval`: the kept `y` at the exponent `x.exp + δ` is the oracle's rounding of `x` with `nd - prec` digits
dropped (`δ` is one more after a carry). -/
inductive RoundPath (c : Ctx) (x : Dec) : Dec → Cond → Int → Prop
  | sub (h0 : x.coeff ≠ 0) (hadj : x.exp + (ndigits x.coeff : Int) - 1 < c.emin) : RoundPath c x x cSubnormal 0
  | short (hnd : ndigits x.coeff ≤ c.prec) (hadj : x.coeff = 0 ∨ c.emin ≤ x.exp + (ndigits x.coeff : Int) - 1) :
      RoundPath c x x {} 0
  | long (y : Nat) (δ : Int) (inex : Bool) (hnd : c.prec < ndigits x.coeff)
      (hadj : c.emin ≤ x.exp + (ndigits x.coeff : Int) - 1) (hy : 0 < y) (hyd : ndigits y = c.prec)
      (h1 : (ndigits x.coeff : Int) - (c.prec : Int) ≤ δ) (h2 : δ ≤ (ndigits x.coeff : Int) - (c.prec : Int) + 1)
      (h3 : (ndigits x.coeff : Int) - (c.prec : Int) ≤ 100000)
      (hval : roundAt c.mode x.neg x.coeff 1 x.exp (x.exp + ((ndigits x.coeff - c.prec : Nat) : Int)) =
        (y * 10 ^ (δ - ((ndigits x.coeff - c.prec : Nat) : Int)).toNat, inex)) :
      RoundPath c x { x with coeff := y } (if inex = true then cRounded ||| cInexact else cRounded) δ

/-- **`Rounder.Round` is one `setExponent`**, unless more than 100000 digits would have to be dropped -/
theorem roundX_path (c : Ctx) (x : Dec) (hx : x.form = .finite) (hp : 1 ≤ c.prec) :
    (100000 < (ndigits x.coeff : Int) - (c.prec : Int) ∧ roundXFin c x true = (x, cSysOverflow ||| cOverflow)) ∨
    ∃ (d : Dec) (res : Cond) (δ : Int), RoundPath c x d res δ ∧
      roundXFin c x true = ((setExponent c d res [x.exp, δ]).1, res ||| (setExponent c d res [x.exp, δ]).2) := by
  have hnp := ndigits_pos x.coeff
  by_cases hsub : x.coeff ≠ 0 ∧ x.exp + (ndigits x.coeff : Int) - 1 < c.emin
  · exact Or.inr ⟨x, _, 0, .sub hsub.1 hsub.2, by rw [roundX_subnormal c x true hx hp hsub.1 hsub.2, setExponent_pad]⟩
  by_cases hnd : ndigits x.coeff ≤ c.prec
  · have hadj : x.coeff = 0 ∨ c.emin ≤ x.exp + (ndigits x.coeff : Int) - 1 := by omega
    exact Or.inr ⟨x, _, 0, .short hnd hadj, by rw [roundX_short c x true hx hp hnd hadj, Cond.empty_or]⟩
  have h0 : x.coeff ≠ 0 := by intro h0; rw [h0, ndigits_zero] at hnd; omega
  by_cases hd : (ndigits x.coeff : Int) - (c.prec : Int) ≤ 100000
  · obtain ⟨e, hy0, hyd, h1, h2, hval⟩ := roundX_long_prec c x true hx hp (by omega) hd (by omega)
    exact Or.inr ⟨_, _, _, .long _ _ _ (by omega) (by omega) hy0 hyd (by omega) (by omega) hd hval, e⟩
  · exact Or.inl ⟨by omega, roundX_toobig c x true hx (prec_pos_enabled c true hp) hsub (by omega)⟩

theorem RoundPath.noSys {c : Ctx} {x d : Dec} {res : Cond} {δ : Int} (h : RoundPath c x d res δ) : NoSys res := by
  cases h with
  | sub | short => exact ⟨rfl, rfl⟩
  | long => split <;> exact ⟨rfl, rfl⟩

theorem RoundPath.form {c : Ctx} {x d : Dec} {res : Cond} {δ : Int} (h : RoundPath c x d res δ) : d.form = x.form := by
  cases h <;> rfl

theorem RoundPath.adj {c : Ctx} {x d : Dec} {res : Cond} {δ : Int} (P : RoundPath c x d res δ) :
    (δ = 0 ∧ d = x) ∨
    (c.prec < ndigits x.coeff ∧ ndigits d.coeff = c.prec ∧ (ndigits x.coeff : Int) - (c.prec : Int) ≤ δ ∧
      δ ≤ (ndigits x.coeff : Int) - (c.prec : Int) + 1 ∧ (ndigits x.coeff : Int) - (c.prec : Int) ≤ 100000) := by
  cases P with
  | sub | short => exact Or.inl ⟨rfl, rfl⟩
  | long y δ _ hnd _ _ hyd h1 h2 h3 => exact Or.inr ⟨hnd, hyd, h1, h2, h3⟩

/-- the quantum `Context.round` rounds `x` at: `prec` significant digits, not below Etiny (`Oracle.quantum c` of
`Spec/Rational` at the adjusted exponent of `x`), never finer than `x` itself -/
def Ctx.quantumOf (c : Ctx) (x : Dec) : Int :=
  max x.exp (max (x.exp + (ndigits x.coeff : Int) - (c.prec : Int)) c.etiny)

theorem Ctx.quantumOf_keep (c : Ctx) (x : Dec) (hnd : ndigits x.coeff ≤ c.prec) (hlo : c.etiny ≤ x.exp) :
    c.quantumOf x = x.exp := by unfold Ctx.quantumOf; omega

theorem Ctx.quantumOf_etiny (c : Ctx) (x : Dec) (h1 : x.exp ≤ c.etiny)
    (h2 : x.exp + (ndigits x.coeff : Int) - (c.prec : Int) ≤ c.etiny) : c.quantumOf x = c.etiny := by
  unfold Ctx.quantumOf; omega

theorem Ctx.quantumOf_long (c : Ctx) (x : Dec) (h1 : c.prec ≤ ndigits x.coeff)
    (h2 : c.etiny ≤ x.exp + (ndigits x.coeff : Int) - (c.prec : Int)) :
    c.quantumOf x = x.exp + ((ndigits x.coeff - c.prec : Nat) : Int) := by
  unfold Ctx.quantumOf; omega

/-- `Context.round` on a finite decimal when no system flag is raised: the coefficient is the oracle's rounding at
`c.quantumOf x` (a carry into digit `prec + 1` is divided off again), an infinity when that is beyond `emax`; a zero
above `emax` is clamped -/
def roundOut (c : Ctx) (x : Dec) : Dec × Cond :=
  let q := c.quantumOf x
  let ra := roundQuot c.mode x.neg x.coeff (10 ^ (q - x.exp).toNat)
  let y := if c.prec < ndigits ra.1 then ra.1 / 10 else ra.1
  let e := if c.prec < ndigits ra.1 then q + 1 else q
  let sub := decide (x.coeff ≠ 0 ∧ x.exp + (ndigits x.coeff : Int) - 1 < c.emin)
  let cut := decide (x.exp < q)
  if y ≠ 0 ∧ c.emax < e + (ndigits y : Int) - 1 then
    ({ x with form := .infinite, coeff := y, exp := e }, { rounded := cut, inexact := true, overflow := true })
  else if x.coeff = 0 ∧ c.emax < x.exp then ({ x with exp := c.emax }, cClamped)
  else
    ({ x with coeff := y, exp := e },
     { rounded := cut, inexact := ra.2, subnormal := sub, underflow := sub && ra.2, clamped := cut && ra.1 == 0 })

theorem roundX_sub_round (c : Ctx) (hp : 1 ≤ c.prec) (hemin' : c.emin ≤ 100000) (x : Dec) (hx : x.form = .finite)
    (hn : x.coeff ≠ 0) (hadj : x.exp + (ndigits x.coeff : Int) - 1 < c.emin) (hx0 : checkXs [x.exp] = none)
    (ha1 : -100000 ≤ x.exp + (ndigits x.coeff : Int) - 1) (hr : x.exp < c.etiny) :
    roundXFin c x true =
      ({ x with coeff := (roundQuot c.mode x.neg x.coeff (10 ^ (c.etiny - x.exp).toNat)).1, exp := c.etiny },
       { rounded := true, inexact := (roundQuot c.mode x.neg x.coeff (10 ^ (c.etiny - x.exp).toNat)).2,
         subnormal := true, underflow := (roundQuot c.mode x.neg x.coeff (10 ^ (c.etiny - x.exp).toNat)).2,
         clamped := (roundQuot c.mode x.neg x.coeff (10 ^ (c.etiny - x.exp).toNat)).1 == 0 }) := by
  have hz : x.isZero = false := by simp [Dec.isZero, hn]
  rw [roundX_subnormal c x true hx hp hn hadj,
    setExponent_subnormal_round c x _ _ (sumInts_single _) hx0 ha1 hadj hemin' hr, roundAt_dec _ _ _ _ _ (Int.le_of_lt hr)]
  generalize roundQuot c.mode x.neg x.coeff (10 ^ (c.etiny - x.exp).toNat) = ra
  obtain ⟨m, ix⟩ := ra
  cases ix <;> by_cases hm : m = 0 <;> simp [seFinish, hz, hm, cSubnormal, cInexact, cClamped, cRounded, cUnderflow,
    HOr.hOr, OrOp.or, Cond.or]

theorem roundX_eq_sub (c : Ctx) (hp : 1 ≤ c.prec) (hemin' : c.emin ≤ 100000)
    (hee : c.emin ≤ c.emax) (x : Dec) (hx : x.form = .finite)
    (hsub : x.coeff ≠ 0 ∧ x.exp + (ndigits x.coeff : Int) - 1 < c.emin) (hns : NoSys (roundXFin c x true).2) :
    roundXFin c x true = roundOut c x := by
  have hnp := ndigits_pos x.coeff
  have het := c.etiny_eq
  have hns' := hns
  rw [roundX_subnormal c x true hx hp hsub.1 hsub.2] at hns'
  obtain ⟨hx0, ha1, ha2⟩ := setExponent_noSys _ _ _ _ (sumInts_single _) (NoSys.or_iff.1 hns').2
  by_cases hr : x.exp < c.etiny
  · rw [roundX_sub_round c hp hemin' x hx hsub.1 hsub.2 hx0 ha1 hr]
    have hq : c.quantumOf x = c.etiny := c.quantumOf_etiny x (by omega) (by omega)
    -- fewer than `prec` digits are kept above Etiny, so the coefficient fits even after adding one
    have hndr := ndigits_roundQuot_le c.mode x.neg x.coeff (c.etiny - x.exp).toNat c.prec hp (by omega)
    unfold roundOut
    simp only [hq]
    generalize roundQuot c.mode x.neg x.coeff (10 ^ (c.etiny - x.exp).toNat) = ra at hndr ⊢
    have hpm := ndigits_pos ra.1
    rw [if_neg (show ¬ c.prec < ndigits ra.1 by omega), if_neg (show ¬ c.prec < ndigits ra.1 by omega),
      if_neg (show ¬ (ra.1 ≠ 0 ∧ c.emax < c.etiny + (ndigits ra.1 : Int) - 1) by omega),
      if_neg (fun h => hsub.1 h.1), decide_eq_true hsub, decide_eq_true hr]
    rfl
  · have hr' : c.etiny ≤ x.exp := Int.not_lt.1 hr
    have hz : x.isZero = false := by simp [Dec.isZero, hsub.1]
    rw [roundX_subnormal c x true hx hp hsub.1 hsub.2,
      setExponent_subnormal_exact c x _ _ (sumInts_single _) hx0 ha1 hsub.2 hemin' hr']
    have hq : c.quantumOf x = x.exp := c.quantumOf_keep x (by omega) (by omega)
    unfold roundOut
    simp only [hq, Int.sub_self, Int.toNat_zero, Nat.pow_zero, roundQuot_one]
    have hc : ¬ c.prec < ndigits x.coeff := by omega
    have hov : ¬ (x.coeff ≠ 0 ∧ c.emax < x.exp + (ndigits x.coeff : Int) - 1) := by omega
    have hcl : ¬ (x.coeff = 0 ∧ c.emax < x.exp) := fun h => hsub.1 h.1
    simp only [hc, if_false]
    rw [if_neg hov, if_neg hcl, decide_eq_true hsub, decide_eq_false (Int.lt_irrefl _)]
    simp [seFinish, hz, cSubnormal, HOr.hOr, OrOp.or, Cond.or]

theorem roundX_eq_short (c : Ctx) (hp : 1 ≤ c.prec) (hemin : -100000 ≤ c.emin) (hemin' : c.emin ≤ 100000)
    (hee : c.emin ≤ c.emax) (x : Dec) (hx : x.form = .finite)
    (hsub : ¬ (x.coeff ≠ 0 ∧ x.exp + (ndigits x.coeff : Int) - 1 < c.emin)) (hnd : ndigits x.coeff ≤ c.prec)
    (hns : NoSys (roundXFin c x true).2) : roundXFin c x true = roundOut c x := by
  have hnp := ndigits_pos x.coeff
  have het := c.etiny_eq
  have hadj' : x.coeff = 0 ∨ c.emin ≤ x.exp + (ndigits x.coeff : Int) - 1 := by
    by_cases h0 : x.coeff = 0
    · exact Or.inl h0
    · exact Or.inr (Int.not_lt.1 fun h => hsub ⟨h0, h⟩)
  rw [roundX_short c x true hx hp hnd hadj'] at hns ⊢
  have hsum : sumInts [x.exp, 0] = x.exp := by rw [sumInts_pair]; omega
  obtain ⟨hx0, ha1, ha2⟩ := setExponent_noSys _ _ _ _ hsum hns
  have hc : ¬ c.prec < ndigits x.coeff := by omega
  by_cases h0 : x.coeff = 0
  · have hn1 : ndigits x.coeff = 1 := by rw [h0, ndigits_zero]
    have hz : x.isZero = true := by simp [Dec.isZero, hx, h0]
    rw [hn1] at ha1 ha2
    by_cases hr : x.exp < c.etiny
    · rw [setExponent_subnormal_round c x _ _ hsum hx0 (by rw [hn1]; exact ha1) (by rw [hn1]; omega) hemin' hr,
        roundAt_dec _ _ _ _ _ (Int.le_of_lt hr), h0, roundQuot_zero]
      have hq : c.quantumOf x = c.etiny := c.quantumOf_etiny x (by omega) (by omega)
      unfold roundOut
      simp only [hq, h0, roundQuot_zero, ndigits_zero]
      have hc1 : ¬ c.prec < 1 := by omega
      have hcl : ¬ (True ∧ c.emax < x.exp) := by omega
      simp [hc1, hcl, hr, seFinish, hz, cClamped, cRounded, HOr.hOr, OrOp.or, Cond.or]
    · have hq : c.quantumOf x = x.exp := c.quantumOf_keep x (by omega) (by omega)
      have hc1 : ¬ c.prec < 1 := by omega
      have hlhs : setExponent c x {} [x.exp, 0] =
          if c.emax < x.exp then ({ x with exp := c.emax }, cClamped) else (x, {}) := by
        by_cases hlo : x.exp < c.emin
        · rw [setExponent_subnormal_exact c x _ _ hsum hx0 (by rw [hn1]; exact ha1) (by rw [hn1]; omega)
            hemin' (Int.not_lt.1 hr), if_neg (show ¬ c.emax < x.exp by omega)]
          simp [seFinish, hz]
        · by_cases hhi : c.emax < x.exp
          · rw [setExponent_clampZero c x _ _ hsum hx0 (by rw [hn1]; exact ha2) (by rw [hn1]; omega) hee
              hemin hz, if_pos hhi, Cond.empty_or]
            simp [seFinish, cClamped]
          · rw [setExponent_normal c x _ _ hsum hx0 (by rw [hn1]; exact ha2) (by rw [hn1]; omega)
              (by rw [hn1]; omega) hemin, if_neg hhi]
            simp [seFinish]
      rw [hlhs]
      unfold roundOut
      simp only [hq, h0, Int.sub_self, Int.toNat_zero, Nat.pow_zero, roundQuot_one, ndigits_zero]
      by_cases hhi : c.emax < x.exp <;> simp [hc1, hhi]
      cases x; simp_all
  · have hlo : c.emin ≤ x.exp + (ndigits x.coeff : Int) - 1 := hadj'.resolve_left h0
    have hz : x.isZero = false := by simp [Dec.isZero, h0]
    have hq : c.quantumOf x = x.exp := c.quantumOf_keep x (by omega) (by omega)
    unfold roundOut
    simp only [hq, Int.sub_self, Int.toNat_zero, Nat.pow_zero, roundQuot_one, hc, if_false]
    have hcl : ¬ (x.coeff = 0 ∧ c.emax < x.exp) := fun h => h0 h.1
    by_cases hhi : c.emax < x.exp + (ndigits x.coeff : Int) - 1
    · rw [setExponent_overflow c x _ _ hsum hx0 ha2 hhi hee hemin hz, if_pos ⟨h0, hhi⟩]
      simp [seFinish, cOverflow, cInexact, HOr.hOr, OrOp.or, Cond.or]
    · rw [setExponent_normal c x _ _ hsum hx0 ha2 hlo (Int.not_lt.1 hhi) hemin, if_neg (fun h => hhi h.2), if_neg hcl]
      have hs : decide (x.coeff ≠ 0 ∧ x.exp + (ndigits x.coeff : Int) - 1 < c.emin) = false :=
        decide_eq_false hsub
      simp [seFinish, hs]

theorem roundX_eq_long (c : Ctx) (hp : 1 ≤ c.prec) (hemin : -100000 ≤ c.emin)
    (hee : c.emin ≤ c.emax) (x : Dec) (hx : x.form = .finite)
    (hsub : ¬ (x.coeff ≠ 0 ∧ x.exp + (ndigits x.coeff : Int) - 1 < c.emin)) (hnd : ¬ ndigits x.coeff ≤ c.prec)
    (hns : NoSys (roundXFin c x true).2) : roundXFin c x true = roundOut c x := by
  have hnp := ndigits_pos x.coeff
  have het := c.etiny_eq
  have hnd' : c.prec < ndigits x.coeff := Nat.lt_of_not_le hnd
  have h0 : x.coeff ≠ 0 := by intro h0; rw [h0, ndigits_zero] at hnd'; omega
  have hlo : c.emin ≤ x.exp + (ndigits x.coeff : Int) - 1 := Int.not_lt.1 fun h => hsub ⟨h0, h⟩
  have hd := roundX_noSys_drop c x true hx (prec_pos_enabled c true hp) hsub hns
  obtain ⟨e, hy0, hyd, hdD, -, -⟩ := roundX_long_prec c x true hx hp hnd' hd hlo
  rw [e] at hns ⊢
  have hq := c.quantumOf_long x (by omega) (by omega)
  have hk : (x.exp + ((ndigits x.coeff - c.prec : Nat) : Int) - x.exp).toNat = ndigits x.coeff - c.prec := by
    omega
  have hcut : x.exp < x.exp + ((ndigits x.coeff - c.prec : Nat) : Int) := by omega
  have hDlo : c.emin ≤ x.exp + ((ndigits x.coeff - c.prec : Nat) : Int) + (c.prec : Int) - 1 := by omega
  have hra0 : (roundQuot c.mode x.neg x.coeff (10 ^ (ndigits x.coeff - c.prec))).1 ≠ 0 := by
    have := (roundQuot_bounds c.mode x.neg x.coeff (10 ^ (ndigits x.coeff - c.prec))).1
    have := (ndigits_div_pow_sub x.coeff (ndigits x.coeff - c.prec) (Nat.pos_of_ne_zero h0) (by omega)).1
    omega
  unfold roundOut
  simp only [hq, hk, decide_eq_true hcut]
  clear e hq hk hcut hd
  generalize ndigits x.coeff - c.prec = D at *
  generalize roundQuot c.mode x.neg x.coeff (10 ^ D) = ra at *
  have he : (if c.prec < ndigits ra.1 then x.exp + (D : Int) + 1 else x.exp + D) =
      x.exp + (if c.prec < ndigits ra.1 then (D : Int) + 1 else D) := by split <;> omega
  rw [he]
  generalize (if c.prec < ndigits ra.1 then ra.1 / 10 else ra.1) = y at *
  generalize (if c.prec < ndigits ra.1 then (D : Int) + 1 else D) = d at *
  have hres : NoSys (if ra.2 = true then cRounded ||| cInexact else cRounded) := by split <;> exact ⟨rfl, rfl⟩
  have hrs : (if ra.2 = true then cRounded ||| cInexact else cRounded).subnormal = false := by split <;> rfl
  obtain ⟨hx0, ha1, ha2⟩ := setExponent_noSys _ _ _ _ (sumInts_pair _ _) (NoSys.or_iff.1 hns).2
  simp only [hyd] at ha1 ha2
  have hz : ({ x with coeff := y } : Dec).isZero = false := by simp [Dec.isZero]; omega
  have hcl : ¬ (x.coeff = 0 ∧ c.emax < x.exp) := fun h => h0 h.1
  have hs : decide (x.coeff ≠ 0 ∧ x.exp + (ndigits x.coeff : Int) - 1 < c.emin) = false := decide_eq_false hsub
  by_cases hhi : c.emax < x.exp + d + (c.prec : Int) - 1
  · have hov : y ≠ 0 ∧ c.emax < x.exp + d + (ndigits y : Int) - 1 := ⟨by omega, by rw [hyd]; exact hhi⟩
    rw [setExponent_overflow c { x with coeff := y } _ _ (sumInts_pair _ _) hx0 (by rw [hyd]; exact ha2) hov.2 hee hemin
      hz, if_pos hov]
    obtain ⟨m, ix⟩ := ra
    cases ix <;> simp [seFinish, cOverflow, cInexact, cRounded, HOr.hOr, OrOp.or, Cond.or]
  · have hov : ¬ (y ≠ 0 ∧ c.emax < x.exp + d + (ndigits y : Int) - 1) := by rw [hyd]; exact fun h => hhi h.2
    rw [setExponent_normal c { x with coeff := y } _ _ (sumInts_pair _ _) hx0 (by rw [hyd]; exact ha2)
      (by rw [hyd]; omega) (by rw [hyd]; exact Int.not_lt.1 hhi) hemin, if_neg hov, if_neg hcl,
      seFinish_plain _ _ _ hrs, hs]
    obtain ⟨m, ix⟩ := ra
    have hm : m ≠ 0 := hra0
    cases ix <;> simp [cInexact, cRounded, HOr.hOr, OrOp.or, Cond.or, hm]

theorem ctxRound_eq (c : Ctx) (hp : 1 ≤ c.prec) (hemin : -100000 ≤ c.emin) (hemin' : c.emin ≤ 100000)
    (hee : c.emin ≤ c.emax) (x : Dec) (hx : x.form = .finite) (hns : NoSys (ctxRound c x).2) :
    ctxRound c x = roundOut c x := by
  rw [ctxRound_finite c x hx] at hns ⊢
  by_cases hsub : x.coeff ≠ 0 ∧ x.exp + (ndigits x.coeff : Int) - 1 < c.emin
  · exact roundX_eq_sub c hp hemin' hee x hx hsub hns
  · by_cases hnd : ndigits x.coeff ≤ c.prec
    · exact roundX_eq_short c hp hemin hemin' hee x hx hsub hnd hns
    · exact roundX_eq_long c hp hemin hee x hx hsub hnd hns

/-- **every exit of `setExponent`**: delivered (and then the summands and the adjusted exponent are inside the package
limits), or the destination is untouched and the flags are the system pair of the limit that was exceeded -/
theorem setExponent_exits (c : Ctx) (d : Dec) (res : Cond) (xs : List Int) {r : Int} (hs : sumInts xs = r)
    (hres : NoSys res) :
    (NoSys (setExponent c d res xs).2 ∧ checkXs xs = none ∧
      -100000 ≤ r + (ndigits d.coeff : Int) - 1 ∧ r + (ndigits d.coeff : Int) - 1 ≤ 100000) ∨
    ((setExponent c d res xs).1 = d ∧
      SysExit (setExponent c d res xs).2 ((∃ x ∈ xs, 100000 < x) ∨ 100000 < r + (ndigits d.coeff : Int) - 1)
        ((∃ x ∈ xs, x < -100000) ∨ r + (ndigits d.coeff : Int) - 1 < -100000)) := by
  cases hck : checkXs xs with
  | some fl =>
    right
    have e : setExponent c d res xs = (d, fl) := by unfold setExponent; rw [hck]
    rw [e]; exact ⟨rfl, (checkXs_some_exit hck).mono Or.inl Or.inl⟩
  | none =>
    by_cases h1 : 100000 < r + (ndigits d.coeff : Int) - 1
    · right; rw [setExponent_adjOver c d res xs hs hck h1]; exact ⟨rfl, Or.inl ⟨rfl, Or.inr h1⟩⟩
    · by_cases h2 : r + (ndigits d.coeff : Int) - 1 < -100000
      · right
        have e : setExponent c d res xs = (d, cSysUnderflow ||| cUnderflow) := by
          subst hs
          unfold setExponent; rw [hck]; simp only [MaxExponent, MinExponent]; rw [if_neg h1, if_pos h2]
        rw [e]; exact ⟨rfl, Or.inr ⟨rfl, Or.inr h2⟩⟩
      · left
        exact ⟨setExponent_noSys_of c d res xs hs hck (by omega) (by omega) hres, rfl, by omega, by omega⟩

/-- **every exit of `Context.round`** on a finite operand.  Delivered: it is `roundOut`.  A system limit with the
destination untouched (`setExponent` on the operand itself, or more than 100000 digits to drop).  A system limit after
the coefficient was rounded to `prec` digits, the exponent not set. -/
theorem ctxRound_exits (c : Ctx) (hp : 1 ≤ c.prec) (hemin : -100000 ≤ c.emin) (hemin' : c.emin ≤ 100000)
    (hee : c.emin ≤ c.emax) (x : Dec) (hx : x.form = .finite) :
    (NoSys (ctxRound c x).2 ∧ ctxRound c x = roundOut c x) ∨
    ((ctxRound c x).1 = x ∧ ∃ fl, ((ctxRound c x).2 = fl ∨ (ctxRound c x).2 = cSubnormal ||| fl) ∧
      SysExit fl (100000 < x.exp ∨ 100000 < x.exp + (ndigits x.coeff : Int) - 1 ∨
          100000 < (ndigits x.coeff : Int) - (c.prec : Int))
        (x.exp < -100000 ∨ x.exp + (ndigits x.coeff : Int) - 1 < -100000)) ∨
    (c.prec < ndigits x.coeff ∧ ∃ (y : Nat) (d : Int) (res fl : Cond), 0 < y ∧ ndigits y = c.prec ∧
      (ndigits x.coeff : Int) - (c.prec : Int) ≤ d ∧ d ≤ (ndigits x.coeff : Int) - (c.prec : Int) + 1 ∧
      ctxRound c x = ({ x with coeff := y }, res ||| fl) ∧ (res = cRounded ∨ res = cRounded ||| cInexact) ∧
      SysExit fl (100000 < x.exp ∨ 100000 < d ∨ 100000 < x.exp + d + (c.prec : Int) - 1) (x.exp < -100000)) := by
  by_cases hns : NoSys (ctxRound c x).2
  · exact Or.inl ⟨hns, ctxRound_eq c hp hemin hemin' hee x hx hns⟩
  right
  rw [ctxRound_finite c x hx] at hns ⊢
  unfold ctxRoundFin at hns ⊢
  rcases roundX_path c x hx hp with ⟨h, e⟩ | ⟨d, res, δ, P, e⟩
  · rw [e]; exact Or.inl ⟨rfl, _, Or.inl rfl, Or.inl ⟨rfl, Or.inr (Or.inr h)⟩⟩
  rw [e] at hns ⊢
  -- the one `setExponent` did not deliver: the destination is what it was given, and a limit was exceeded by
  -- one of the two summands or by the adjusted exponent
  rcases setExponent_exits c d res [x.exp, δ] (sumInts_pair _ _) P.noSys with ⟨h1, -⟩ | ⟨e1, e2⟩
  · exact absurd (P.noSys.or h1) hns
  simp only [List.mem_cons, List.not_mem_nil, or_false, exists_eq_or_imp, exists_eq_left] at e2
  cases P with
  | sub h0 hadj => exact Or.inl ⟨e1, _, Or.inr rfl, e2.mono (fun h => by omega) (fun h => by omega)⟩
  | short => exact Or.inl ⟨e1, _, Or.inl (Cond.empty_or _), e2.mono (fun h => by omega) (fun h => by omega)⟩
  | long y δ inex hnd hadj hy hyd h1 h2 h3 =>
    simp only [hyd] at e2
    exact Or.inr ⟨hnd, y, δ, _, _, hy, hyd, h1, h2, Prod.ext e1 rfl, by cases inex <;> simp,
      e2.mono (fun h => by omega) (fun h => by omega)⟩

/-- the digit bound is what `Rounder.Round` really needs: fewer than `100000 + prec` digits -/
theorem ctxRound_noSys_of (c : Ctx) (hp : 1 ≤ c.prec) (x : Dec) (hx : x.form = .finite)
    (w1 : -100000 ≤ x.exp) (w2 : x.exp ≤ 100000)
    (h1 : ndigits x.coeff ≤ 99999 + c.prec) (h2 : x.exp + (ndigits x.coeff : Int) - 1 ≤ 100000)
    (h3 : c.prec < ndigits x.coeff → x.exp + (ndigits x.coeff : Int) - 1 < 100000) :
    NoSys (ctxRound c x).2 := by
  rw [ctxRound_finite c x hx]
  unfold ctxRoundFin
  rcases roundX_path c x hx hp with ⟨h, -⟩ | ⟨d, res, δ, P, e⟩
  · omega
  rw [e]
  have hw : -100000 ≤ δ ∧ δ ≤ 100000 ∧ -100000 ≤ x.exp + δ + (ndigits d.coeff : Int) - 1 ∧
      x.exp + δ + (ndigits d.coeff : Int) - 1 ≤ 100000 := by
    rcases P.adj with ⟨rfl, rfl⟩ | ⟨a, a1, a2, a3, a4⟩
    · have := ndigits_pos d.coeff; omega
    · have := h3 a; rw [a1]; omega
  exact P.noSys.or (setExponent_noSys_of c d res _ (sumInts_pair _ _) (checkXs_pair _ _ w1 w2 hw.1 hw.2.1)
    hw.2.2.1 hw.2.2.2 P.noSys)

/-- the exponent is the first summand of the one `setExponent` -/
theorem roundX_noSys_exp (c : Ctx) (d : Dec) (hd : d.form = .finite) (hp : c.prec ≠ 0)
    (hns : NoSys (roundXFin c d true).2) : -100000 ≤ d.exp ∧ d.exp ≤ 100000 := by
  rcases roundX_path c d hd (by omega) with ⟨-, e⟩ | ⟨d', res, δ, -, e⟩
  · rw [e] at hns; cases hns.1
  · rw [e] at hns
    exact ((checkXs_cons_iff _ _).1 (setExponent_noSys _ _ _ _ rfl (NoSys.or_iff.1 hns).2).1).1

theorem roundOut_keep (c : Ctx) (x : Dec) (hnd : ndigits x.coeff ≤ c.prec) (hlo : c.etiny ≤ x.exp)
    (hhi : x.exp + (ndigits x.coeff : Int) - 1 ≤ c.emax) :
    roundOut c x =
      (x, if x.coeff ≠ 0 ∧ x.exp + (ndigits x.coeff : Int) - 1 < c.emin then cSubnormal else {}) := by
  have hnp := ndigits_pos x.coeff
  have hq : c.quantumOf x = x.exp := c.quantumOf_keep x (by omega) (by omega)
  unfold roundOut
  simp only [hq, Int.sub_self, Int.toNat_zero, Nat.pow_zero, roundQuot_one]
  rw [if_neg (show ¬ c.prec < ndigits x.coeff by omega), if_neg (show ¬ c.prec < ndigits x.coeff by omega)]
  rw [if_neg (show ¬ (x.coeff ≠ 0 ∧ c.emax < x.exp + (ndigits x.coeff : Int) - 1) by omega)]
  by_cases h0 : x.coeff = 0
  · have : ¬ c.emax < x.exp := by rw [h0, ndigits_zero] at hhi; omega
    simp [h0, this]
    cases x; simp_all
  · by_cases hs : x.exp + (ndigits x.coeff : Int) - 1 < c.emin <;> simp [h0, hs, cSubnormal]

theorem ctxRound_keep (c : Ctx) (hp : 1 ≤ c.prec) (hemin : -100000 ≤ c.emin) (hemin' : c.emin ≤ 100000)
    (hemax : c.emax ≤ 100000) (hee : c.emin ≤ c.emax) (d : Dec) (hf : d.form = .finite)
    (hnd : ndigits d.coeff ≤ c.prec) (hlo : c.etiny ≤ d.exp) (hmin : -100000 ≤ d.exp)
    (hhi : d.exp + (ndigits d.coeff : Int) - 1 ≤ c.emax) :
    ctxRound c d =
      (d, if d.coeff ≠ 0 ∧ d.exp + (ndigits d.coeff : Int) - 1 < c.emin then cSubnormal else {}) := by
  have hnp := ndigits_pos d.coeff
  rw [ctxRound_eq c hp hemin hemin' hee d hf
    (ctxRound_noSys_of c hp d hf hmin (by omega) (by omega) (by omega) (by omega)), roundOut_keep c d hnd hlo hhi]

theorem ctxRound_id (c : Ctx) (x : Dec) (hx : x.form = .finite) (hp : 1 ≤ c.prec)
    (hnd : ndigits x.coeff ≤ c.prec) (hemin : -100000 ≤ c.emin) (hemax : c.emax ≤ 100000)
    (hlo : c.emin ≤ x.exp + (ndigits x.coeff : Int) - 1) (hhi : x.exp + (ndigits x.coeff : Int) - 1 ≤ c.emax)
    (he1 : -100000 ≤ x.exp) : ctxRound c x = (x, {}) := by
  rw [ctxRound_keep c hp hemin (by omega) hemax (by omega) x hx hnd (by unfold Ctx.etiny; omega) he1 hhi,
    if_neg (fun h => by omega)]

theorem roundQuot_carry (mode : Mode) (neg : Bool) (n k P : Nat) (hP : 1 ≤ P) (h : ndigits n ≤ P + k)
    (hc : P < ndigits (roundQuot mode neg n (10 ^ k)).1) :
    (roundQuot mode neg n (10 ^ k)).1 = 10 ^ P ∧ (roundQuot mode neg n (10 ^ k)).1 / 10 = 10 ^ (P - 1) := by
  have hle := (roundQuot_bounds mode neg n (10 ^ k)).2
  have hlt : n / 10 ^ k < 10 ^ P := by
    rw [Nat.div_lt_iff_lt_mul (Nat.pow_pos (by decide)), ← Nat.pow_add]
    exact lt_pow_of_ndigits_le _ _ h
  generalize (roundQuot mode neg n (10 ^ k)).1 = m at *
  have hm0 : 0 < m := by
    rcases Nat.eq_zero_or_pos m with h0 | h0
    · rw [h0, ndigits_zero] at hc; omega
    · exact h0
  have hge : 10 ^ P ≤ m := Nat.le_of_not_lt fun hh => by
    have := (ndigits_le_iff m P hm0).2 hh; omega
  have hm : m = 10 ^ P := by omega
  exact ⟨hm, by rw [hm, pow_pred_mul P hP, Nat.mul_div_cancel_left _ (by decide : 0 < 10)]⟩

theorem roundOut_grid (c : Ctx) (x : Dec) (hnd : ndigits x.coeff ≤ c.prec) (hlo : c.etiny ≤ x.exp) :
    roundOut c x =
      if x.coeff ≠ 0 ∧ c.emax < x.exp + (ndigits x.coeff : Int) - 1 then
        ({ x with form := .infinite }, { inexact := true, overflow := true })
      else if x.coeff = 0 ∧ c.emax < x.exp then ({ x with exp := c.emax }, cClamped)
      else (x, if x.coeff ≠ 0 ∧ x.exp + (ndigits x.coeff : Int) - 1 < c.emin then cSubnormal else {}) := by
  have hnp := ndigits_pos x.coeff
  have hq : c.quantumOf x = x.exp := c.quantumOf_keep x hnd hlo
  have hc : ¬ c.prec < ndigits x.coeff := by omega
  by_cases h1 : x.coeff ≠ 0 ∧ c.emax < x.exp + (ndigits x.coeff : Int) - 1
  · rw [if_pos h1]
    unfold roundOut
    simp only [hq, Int.sub_self, Int.toNat_zero, Nat.pow_zero, roundQuot_one]
    rw [if_neg hc, if_neg hc, if_pos h1]
    simp
  · rw [if_neg h1]
    by_cases h2 : x.coeff = 0 ∧ c.emax < x.exp
    · rw [if_pos h2]
      unfold roundOut
      simp only [hq, Int.sub_self, Int.toNat_zero, Nat.pow_zero, roundQuot_one]
      rw [if_neg hc, if_neg hc, if_neg h1, if_pos h2]
    · rw [if_neg h2]
      refine roundOut_keep c x hnd hlo ?_
      by_cases h0 : x.coeff = 0
      · rw [h0, ndigits_zero]; have := fun h => h2 ⟨h0, h⟩; omega
      · exact Int.not_lt.1 fun h => h1 ⟨h0, h⟩

theorem roundOut_inexact_short (c : Ctx) (hp : 1 ≤ c.prec) (hee : c.emin ≤ c.emax) (x : Dec)
    (hnd : ndigits x.coeff ≤ c.prec) :
    (roundOut c x).2.inexact = false ↔
      (x.coeff % 10 ^ (c.etiny - x.exp).toNat = 0 ∧
        (x.coeff = 0 ∨ x.exp + (ndigits x.coeff : Int) - 1 ≤ c.emax)) := by
  have hnp := ndigits_pos x.coeff
  have het := c.etiny_eq
  by_cases hr : x.exp < c.etiny
  · have hq : c.quantumOf x = c.etiny := c.quantumOf_etiny x (by omega) (by omega)
    have hndr := ndigits_roundQuot_le c.mode x.neg x.coeff (c.etiny - x.exp).toNat c.prec hp (by omega)
    have hix := roundQuot_inexact c.mode x.neg x.coeff (10 ^ (c.etiny - x.exp).toNat)
    unfold roundOut
    simp only [hq]
    generalize roundQuot c.mode x.neg x.coeff (10 ^ (c.etiny - x.exp).toNat) = ra at hndr hix ⊢
    have hpm := ndigits_pos ra.1
    rw [if_neg (show ¬ c.prec < ndigits ra.1 by omega), if_neg (show ¬ c.prec < ndigits ra.1 by omega),
      if_neg (show ¬ (ra.1 ≠ 0 ∧ c.emax < c.etiny + (ndigits ra.1 : Int) - 1) by omega),
      if_neg (show ¬ (x.coeff = 0 ∧ c.emax < x.exp) by omega)]
    simp only [hix]
    constructor
    · intro h; exact ⟨by simpa using h, Or.inr (by omega)⟩
    · intro h; simp [h.1]
  · have hq : c.quantumOf x = x.exp := c.quantumOf_keep x (by omega) (by omega)
    have hk : (c.etiny - x.exp).toNat = 0 := by omega
    unfold roundOut
    simp only [hq, hk, Int.sub_self, Int.toNat_zero, Nat.pow_zero, roundQuot_one, Nat.mod_one, true_and]
    rw [if_neg (show ¬ c.prec < ndigits x.coeff by omega), if_neg (show ¬ c.prec < ndigits x.coeff by omega)]
    by_cases hov : x.coeff ≠ 0 ∧ c.emax < x.exp + (ndigits x.coeff : Int) - 1
    · rw [if_pos hov]; simp; omega
    · rw [if_neg hov]
      have : x.coeff = 0 ∨ x.exp + (ndigits x.coeff : Int) - 1 ≤ c.emax := by omega
      split <;> simp [this, cClamped]

end Apd
