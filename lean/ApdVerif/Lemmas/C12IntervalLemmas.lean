import ApdVerif.Oracle.Interval
import ApdVerif.Lemmas.Digits
import Mathlib.Analysis.SpecialFunctions.Exp
import Mathlib.Analysis.SpecialFunctions.Log.Basic
import Mathlib.Tactic.Ring
import Mathlib.Tactic.Linarith
import Mathlib.Tactic.NormNum
import Mathlib.Tactic.Positivity
/-!
# Lemmas for the soundness of the interval arithmetic (C12)

On the value `bv` of a `BF` the directed operations `rnd`, `mulDir`, `divDir`, `addDir` bound the exact result from the
proper side (`*_down`, `*_up`), so the interval operations enclose (`Enc`, `*_sound`).
-/
namespace Apd.C12IL
open Apd.Oracle.Iv

theorem fastDigitsAux_spec : ∀ (fuel n k : Nat), 1 ≤ k → 10 ^ (k - 1) ≤ n → n < 10 ^ (k + fuel) →
    10 ^ (fastDigitsAux fuel n k - 1) ≤ n ∧ n < 10 ^ (fastDigitsAux fuel n k) ∧ 1 ≤ fastDigitsAux fuel n k := by
  intro fuel
  induction fuel with
  | zero => intro n k hk h1 h2; simpa [fastDigitsAux] using ⟨h1, h2, hk⟩
  | succ f ih =>
    intro n k hk h1 h2
    simp only [fastDigitsAux]
    split
    · rename_i h
      apply ih n (k + 1) (by omega)
      · simpa using h
      · have : k + 1 + f = k + (f + 1) := by omega
        rw [this]; exact h2
    · rename_i h
      exact ⟨h1, by omega, hk⟩

set_option exponentiation.threshold 5000 in
theorem pow10_le_pow2 (e b : Nat) (h : 4096 * e ≤ 1233 * b) : 10 ^ e ≤ 2 ^ b := by
  have key : (10:Nat) ^ 1233 ≤ 2 ^ 4096 := by norm_num
  rw [← Nat.pow_le_pow_iff_left (n := 4096) (by decide)]
  calc (10 ^ e) ^ 4096 = 10 ^ (4096 * e) := by rw [← Nat.pow_mul, Nat.mul_comm]
    _ ≤ 10 ^ (1233 * b) := Nat.pow_le_pow_right (by decide) h
    _ = (10 ^ 1233) ^ b := Nat.pow_mul ..
    _ ≤ (2 ^ 4096) ^ b := Nat.pow_le_pow_left key b
    _ = (2 ^ b) ^ 4096 := by rw [← Nat.pow_mul, ← Nat.pow_mul, Nat.mul_comm]

set_option exponentiation.threshold 5000 in
theorem pow2_le_pow10 (e b : Nat) (h : 146 * b ≤ 485 * e) : 2 ^ b ≤ 10 ^ e := by
  have key : (2:Nat) ^ 485 ≤ 10 ^ 146 := by norm_num
  rw [← Nat.pow_le_pow_iff_left (n := 485) (by decide)]
  calc (2 ^ b) ^ 485 = (2 ^ 485) ^ b := by rw [← Nat.pow_mul, ← Nat.pow_mul, Nat.mul_comm]
    _ ≤ (10 ^ 146) ^ b := Nat.pow_le_pow_left key b
    _ = 10 ^ (146 * b) := by rw [← Nat.pow_mul]
    _ ≤ 10 ^ (485 * e) := Nat.pow_le_pow_right (by decide) h
    _ = (10 ^ e) ^ 485 := by rw [← Nat.pow_mul, Nat.mul_comm]

theorem ndigits_small (n : Nat) (h : n < 10) : ndigits n = 1 := by
  rcases Nat.eq_zero_or_pos n with h0 | h0
  · subst h0; rfl
  · exact ndigits_unique n 1 (by omega) (by simp; omega) (by simpa using h)

/-- `fastDigits` is exact: the estimate `bitlen·1233/4096` never exceeds the digit count and falls
short of it by at most `bitlen/100000 + 4` -/
theorem fastDigits_eq (n : Nat) : fastDigits n = ndigits n := by
  unfold fastDigits
  split
  · rename_i h; exact (ndigits_small n h).symm
  · rename_i h
    simp only []
    have hn0 : n ≠ 0 := by omega
    have hlo : 2 ^ Nat.log2 n ≤ n := Nat.log2_self_le hn0
    have hhi : n < 2 ^ (Nat.log2 n + 1) := Nat.lt_log2_self
    generalize hb : Nat.log2 n + 1 = b at *
    have hb1 : Nat.log2 n = b - 1 := by omega
    rw [hb1] at hlo
    generalize he : b * 1233 / 4096 = e
    generalize hc : b / 100000 = c
    have he1 : 4096 * e ≤ 1233 * b := by omega
    have he2 : 1233 * b ≤ 4096 * e + 4095 := by omega
    have hk1 : 1 ≤ max e 1 := by omega
    have h10 : 10 ^ (max e 1 - 1) ≤ n := by
      by_cases h1 : e ≤ 1
      · have : max e 1 - 1 = 0 := by omega
        rw [this]; simp; omega
      · have : max e 1 - 1 = e - 1 := by omega
        rw [this]
        have h3 := pow10_le_pow2 e b he1
        have h4 : 10 ^ e = 10 ^ (e - 1) * 10 := by
          rw [← Nat.pow_succ]; congr 1; omega
        have h5 : 2 ^ b = 2 ^ (b - 1) * 2 := by
          rw [← Nat.pow_succ]; congr 1; omega
        omega
    have h11 : n < 10 ^ (max e 1 + (c + 4)) := by
      have h3 := pow2_le_pow10 (e + (c + 4)) b (by omega)
      have h4 : 10 ^ (e + (c + 4)) ≤ 10 ^ (max e 1 + (c + 4)) :=
        Nat.pow_le_pow_right (by decide) (by omega)
      omega
    obtain ⟨a1, a2, a3⟩ := fastDigitsAux_spec (c + 4) n (max e 1) hk1 h10 h11
    exact (ndigits_unique n _ a3 a1 a2).symm

/-! Rounding upwards is the mirror image of rounding downwards (`rnd_mirror` and its companions): every bound
from above is the bound from below of the negated operands. -/

noncomputable def bv (x : BF) : ℝ := (x.m : ℝ) * (10 : ℝ) ^ x.e

theorem ten_ne_zero : (10:ℝ) ≠ 0 := by norm_num

theorem p10_pos (e : ℤ) : (0:ℝ) < (10:ℝ) ^ e := by positivity

theorem bv_neg (x : BF) : bv x.neg = -bv x := by
  unfold bv BF.neg; push_cast; ring

theorem bv_pos_iff (x : BF) : 0 < bv x ↔ 0 < x.m :=
  (mul_pos_iff_of_pos_right (p10_pos _)).trans Int.cast_pos

theorem bv_nonneg_iff (x : BF) : 0 ≤ bv x ↔ 0 ≤ x.m :=
  (mul_nonneg_iff_of_pos_right (p10_pos _)).trans Int.cast_nonneg_iff

theorem bv_nonpos_iff (x : BF) : bv x ≤ 0 ↔ x.m ≤ 0 := by
  rw [← not_lt, bv_pos_iff, not_lt]

theorem fdiv_le (a b : ℤ) (hb : b ≠ 0) : ((Int.fdiv a b : ℤ) : ℝ) ≤ (a:ℝ) / (b:ℝ) := by
  rcases lt_or_gt_of_ne hb with h | h
  · have e : Int.fdiv a b = (-a) / (-b) := by
      rw [← Int.neg_fdiv_neg, Int.fdiv_eq_ediv_of_nonneg _ (by omega)]
    have h2 : (((-a) / (-b) : ℤ) : ℝ) * (-(b:ℝ)) ≤ -(a:ℝ) := by
      exact_mod_cast Int.ediv_mul_le (-a) (by omega : -b ≠ 0)
    have hb' : (0:ℝ) < -(b:ℝ) := by exact_mod_cast (by omega : 0 < -b)
    rw [e, ← neg_div_neg_eq, le_div_iff₀ hb']
    exact h2
  · have h2 : ((a / b : ℤ) : ℝ) * (b:ℝ) ≤ (a:ℝ) := by exact_mod_cast Int.ediv_mul_le a hb
    rw [Int.fdiv_eq_ediv_of_nonneg _ (by omega), le_div_iff₀ (by exact_mod_cast h)]
    exact h2

theorem bv_floor_le (m e : ℤ) (k : ℕ) : bv ⟨floorDiv m (10 ^ k), e + k⟩ ≤ bv ⟨m, e⟩ := by
  unfold bv floorDiv
  have hp : (0:ℝ) < (10:ℝ) ^ k := by positivity
  have h := fdiv_le m ((10 ^ k : ℕ) : ℤ) (by exact_mod_cast hp.ne')
  push_cast at h
  rw [le_div_iff₀ hp] at h
  rw [zpow_add₀ ten_ne_zero, zpow_natCast, mul_comm ((10:ℝ) ^ e), ← mul_assoc]
  exact mul_le_mul_of_nonneg_right (by exact_mod_cast h) (p10_pos e).le

theorem rnd_down (W : Nat) (x : BF) : bv (rnd W true x) ≤ bv x := by
  unfold rnd
  simp only []
  split
  · exact le_refl _
  · simp only [if_true]
    exact bv_floor_le x.m x.e _

theorem rnd_mirror (W : Nat) (dn : Bool) (x : BF) : rnd W dn x.neg = (rnd W (!dn) x).neg := by
  unfold rnd BF.neg
  simp only [Int.natAbs_neg]
  split
  · rfl
  · cases dn <;> simp [ceilDiv, floorDiv]

theorem rnd_up (W : Nat) (x : BF) : bv x ≤ bv (rnd W false x) := by
  have := rnd_down W x.neg
  rw [rnd_mirror, bv_neg, bv_neg] at this
  exact neg_le_neg_iff.1 this

theorem bv_mul (a b : BF) : bv ⟨a.m * b.m, a.e + b.e⟩ = bv a * bv b := by
  unfold bv
  rw [zpow_add₀ ten_ne_zero]
  push_cast
  ring

theorem mulDir_down (W : Nat) (a b : BF) : bv (mulDir W true a b) ≤ bv a * bv b := by
  rw [← bv_mul]; exact rnd_down _ _

theorem mulDir_mirror (W : Nat) (dn : Bool) (a b : BF) :
    mulDir W dn a.neg b = (mulDir W (!dn) a b).neg := by
  unfold mulDir
  rw [← rnd_mirror]
  simp [BF.neg]

theorem mulDir_up (W : Nat) (a b : BF) : bv a * bv b ≤ bv (mulDir W false a b) := by
  have := mulDir_down W a.neg b
  rw [mulDir_mirror, bv_neg, bv_neg, neg_mul] at this
  exact neg_le_neg_iff.1 this

theorem bv_zero : bv BF.zero = 0 := by simp [bv, BF.zero]

theorem bv_eq_zero_of_m (a : BF) (h : a.m = 0) : bv a = 0 := by simp [bv, h]

theorem bv_div_scale (a b : BF) (s : ℕ) (hb : b.m ≠ 0) :
    ((a.m * 10 ^ s : ℤ) : ℝ) / (b.m : ℝ) * (10:ℝ) ^ (a.e - b.e - s) = bv a / bv b := by
  unfold bv
  have hb' : (b.m : ℝ) ≠ 0 := by exact_mod_cast hb
  rw [zpow_sub₀ ten_ne_zero, zpow_sub₀ ten_ne_zero, zpow_natCast]
  have h1 := (p10_pos b.e).ne'
  have h2 : ((10:ℝ) ^ s) ≠ 0 := by positivity
  push_cast
  field_simp

theorem divDir_down (W : Nat) (a b : BF) (hb : b.m ≠ 0) : bv (divDir W true a b) ≤ bv a / bv b := by
  unfold divDir
  split
  · rename_i h
    rw [bv_zero, bv_eq_zero_of_m a (by simpa using h), zero_div]
  · refine le_trans (rnd_down _ _) ?_
    rw [← bv_div_scale a b (fastDigits b.m.natAbs + W + 2) hb]
    exact mul_le_mul_of_nonneg_right (fdiv_le _ b.m hb) (p10_pos _).le

theorem divDir_mirror (W : Nat) (dn : Bool) (a b : BF) :
    divDir W dn a.neg b = (divDir W (!dn) a b).neg := by
  unfold divDir
  by_cases h : a.m = 0
  · simp [BF.neg, h, BF.zero]
  · have h1 : (a.neg.m == 0) = false := by simp [BF.neg, h]
    have h2 : (a.m == 0) = false := by simp [h]
    rw [h1, h2]
    simp only [Bool.false_eq_true, if_false]
    rw [← rnd_mirror]
    cases dn <;> simp [BF.neg]

theorem divDir_up (W : Nat) (a b : BF) (hb : b.m ≠ 0) : bv a / bv b ≤ bv (divDir W false a b) := by
  have := divDir_down W a.neg b hb
  rw [divDir_mirror, bv_neg, bv_neg, neg_div] at this
  exact neg_le_neg_iff.1 this

noncomputable def mag (x : BF) : ℝ := (x.m.natAbs : ℝ) * (10 : ℝ) ^ x.e

theorem natAbs_cast_of_nonneg (m : ℤ) (h : 0 ≤ m) : ((m.natAbs : ℕ) : ℝ) = (m : ℝ) := by
  have : ((m.natAbs : ℕ) : ℤ) = m := Int.natAbs_of_nonneg h
  rw [← Int.cast_natCast, this]

theorem natAbs_cast_of_nonpos (m : ℤ) (h : m ≤ 0) : ((m.natAbs : ℕ) : ℝ) = -(m : ℝ) := by
  have : ((m.natAbs : ℕ) : ℤ) = -m := by omega
  rw [← Int.cast_natCast, this, Int.cast_neg]

theorem bv_of_nonneg (x : BF) (h : 0 ≤ x.m) : bv x = mag x := by
  unfold bv mag; rw [natAbs_cast_of_nonneg _ h]

theorem bv_of_nonpos (x : BF) (h : x.m ≤ 0) : bv x = -mag x := by
  unfold bv mag; rw [natAbs_cast_of_nonpos _ h]; ring

theorem mag_nonneg (x : BF) : 0 ≤ mag x := by unfold mag; positivity

theorem mag_eq_abs (x : BF) : mag x = |bv x| := by
  unfold mag bv
  rw [abs_mul, abs_of_pos (p10_pos _)]
  congr 1
  rcases le_total 0 x.m with h | h
  · rw [natAbs_cast_of_nonneg _ h, abs_of_nonneg]; exact_mod_cast h
  · rw [natAbs_cast_of_nonpos _ h, abs_of_nonpos]; exact_mod_cast h

theorem mag_bounds (x : BF) (h0 : x.m ≠ 0) :
    (10:ℝ) ^ x.adj ≤ mag x ∧ mag x < (10:ℝ) ^ (x.adj + 1) := by
  have hn : 0 < x.m.natAbs := Int.natAbs_pos.2 h0
  obtain ⟨h1, h2⟩ := ndigits_spec _ hn
  have hp := ndigits_pos x.m.natAbs
  unfold BF.adj mag
  rw [fastDigits_eq]
  have e1 : ((ndigits x.m.natAbs : ℕ) : ℤ) - 1 + x.e = ((ndigits x.m.natAbs - 1 : ℕ) : ℤ) + x.e := by omega
  have e2 : ((ndigits x.m.natAbs : ℕ) : ℤ) - 1 + x.e + 1 = ((ndigits x.m.natAbs : ℕ) : ℤ) + x.e := by omega
  rw [e2, e1, zpow_add₀ ten_ne_zero, zpow_add₀ ten_ne_zero, zpow_natCast, zpow_natCast]
  constructor
  · apply mul_le_mul_of_nonneg_right _ (p10_pos _).le; exact_mod_cast h1
  · apply mul_lt_mul_of_pos_right _ (p10_pos _); exact_mod_cast h2

theorem mag_lt_of_adj_lt (a b : BF) (ha : a.m ≠ 0) (hb : b.m ≠ 0) (h : a.adj < b.adj) : mag a < mag b :=
  calc mag a < (10:ℝ) ^ (a.adj + 1) := (mag_bounds a ha).2
    _ ≤ (10:ℝ) ^ b.adj := zpow_le_zpow_right₀ (by norm_num) (by omega)
    _ ≤ mag b := (mag_bounds b hb).1

theorem mag_align (x : BF) (e : ℤ) (he : e ≤ x.e) :
    mag x = ((x.m.natAbs * 10 ^ (x.e - e).toNat : ℕ) : ℝ) * (10:ℝ) ^ e := by
  unfold mag
  push_cast
  rw [mul_assoc, ← zpow_natCast, ← zpow_add₀ ten_ne_zero]
  congr 2
  omega

def magCmp (a b : BF) : Int :=
  if a.adj != b.adj then (if a.adj < b.adj then -1 else 1)
  else
    let e := min a.e b.e
    let x := a.m.natAbs * 10 ^ (a.e - e).toNat
    let y := b.m.natAbs * 10 ^ (b.e - e).toNat
    if x < y then -1 else if x > y then 1 else 0

theorem cmp_eq (a b : BF) : a.cmp b =
    if a.sgn != b.sgn then (if a.sgn < b.sgn then -1 else 1)
    else if a.sgn == 0 then 0
    else if a.sgn > 0 then magCmp a b else -magCmp a b := rfl

theorem magCmp_spec (a b : BF) (ha0 : a.m ≠ 0) (hb0 : b.m ≠ 0) :
    (magCmp a b = -1 ∧ mag a < mag b) ∨ (magCmp a b = 0 ∧ mag a = mag b) ∨
      (magCmp a b = 1 ∧ mag b < mag a) := by
  unfold magCmp
  by_cases hadj : a.adj = b.adj
  · simp only [hadj, bne_self_eq_false, Bool.false_eq_true, if_false]
    have ea := mag_align a (min a.e b.e) (min_le_left _ _)
    have eb := mag_align b (min a.e b.e) (min_le_right _ _)
    have hp := p10_pos (min a.e b.e)
    generalize a.m.natAbs * 10 ^ (a.e - min a.e b.e).toNat = x at *
    generalize b.m.natAbs * 10 ^ (b.e - min a.e b.e).toNat = y at *
    rw [ea, eb]
    rcases Nat.lt_trichotomy x y with h | h | h
    · left
      refine ⟨by simp [h], ?_⟩
      apply mul_lt_mul_of_pos_right _ hp; exact_mod_cast h
    · right; left
      subst h
      exact ⟨by simp, rfl⟩
    · right; right
      have h' : ¬ x < y := by omega
      refine ⟨by simp [h, h'], ?_⟩
      apply mul_lt_mul_of_pos_right _ hp; exact_mod_cast h
  · have hne : (a.adj != b.adj) = true := by simpa using hadj
    simp only [hne, if_true]
    by_cases hlt : a.adj < b.adj
    · simp only [hlt, if_true]
      exact Or.inl ⟨by trivial, mag_lt_of_adj_lt a b ha0 hb0 hlt⟩
    · simp only [hlt, if_false]
      exact Or.inr (Or.inr ⟨by trivial, mag_lt_of_adj_lt b a hb0 ha0 (by omega)⟩)

theorem mag_pos (x : BF) (h : x.m ≠ 0) : 0 < mag x := by
  unfold mag
  have : 0 < x.m.natAbs := Int.natAbs_pos.2 h
  have h2 : (0:ℝ) < (x.m.natAbs : ℝ) := by exact_mod_cast this
  exact mul_pos h2 (p10_pos _)

theorem sgn_cases (x : BF) :
    (x.sgn = -1 ∧ x.m ≠ 0 ∧ bv x = -mag x) ∨ (x.sgn = 0 ∧ bv x = 0) ∨ (x.sgn = 1 ∧ x.m ≠ 0 ∧ bv x = mag x) := by
  unfold BF.sgn
  rcases lt_trichotomy x.m 0 with h | h | h
  · exact Or.inl ⟨by rw [if_neg (by omega), if_pos h], by omega, bv_of_nonpos x h.le⟩
  · exact Or.inr (Or.inl ⟨by rw [if_neg (by omega), if_neg (by omega)], bv_eq_zero_of_m x h⟩)
  · exact Or.inr (Or.inr ⟨if_pos h, by omega, bv_of_nonneg x h.le⟩)

theorem cmp_spec (a b : BF) :
    (a.cmp b = -1 ∧ bv a < bv b) ∨ (a.cmp b = 0 ∧ bv a = bv b) ∨ (a.cmp b = 1 ∧ bv b < bv a) := by
  rw [cmp_eq]
  rcases sgn_cases a with ⟨sa, na, ea⟩ | ⟨sa, ea⟩ | ⟨sa, na, ea⟩ <;>
    rcases sgn_cases b with ⟨sb, nb, eb⟩ | ⟨sb, eb⟩ | ⟨sb, nb, eb⟩ <;> rw [sa, sb, ea, eb]
  · -- both negative: the order of the magnitudes, reversed
    rcases magCmp_spec a b na nb with ⟨h, k⟩ | ⟨h, k⟩ | ⟨h, k⟩ <;> rw [h]
    · exact Or.inr (Or.inr ⟨by decide, neg_lt_neg k⟩)
    · exact Or.inr (Or.inl ⟨by decide, by rw [k]⟩)
    · exact Or.inl ⟨by decide, neg_lt_neg k⟩
  · exact Or.inl ⟨rfl, neg_lt_zero.2 (mag_pos a na)⟩
  · exact Or.inl ⟨rfl, (neg_lt_zero.2 (mag_pos a na)).trans (mag_pos b nb)⟩
  · exact Or.inr (Or.inr ⟨rfl, neg_lt_zero.2 (mag_pos b nb)⟩)
  · exact Or.inr (Or.inl ⟨rfl, rfl⟩)
  · exact Or.inl ⟨rfl, mag_pos b nb⟩
  · exact Or.inr (Or.inr ⟨rfl, (neg_lt_zero.2 (mag_pos b nb)).trans (mag_pos a na)⟩)
  · exact Or.inr (Or.inr ⟨rfl, mag_pos a na⟩)
  · rcases magCmp_spec a b na nb with ⟨h, k⟩ | ⟨h, k⟩ | ⟨h, k⟩ <;> rw [h]
    · exact Or.inl ⟨by decide, k⟩
    · exact Or.inr (Or.inl ⟨by decide, k⟩)
    · exact Or.inr (Or.inr ⟨by decide, k⟩)

theorem le_iff (a b : BF) : a.le b = true ↔ bv a ≤ bv b := by
  unfold BF.le
  rcases cmp_spec a b with ⟨h, k⟩ | ⟨h, k⟩ | ⟨h, k⟩ <;> rw [h] <;> simp <;> linarith

theorem lt_iff (a b : BF) : a.lt b = true ↔ bv a < bv b := by
  unfold BF.lt
  rcases cmp_spec a b with ⟨h, k⟩ | ⟨h, k⟩ | ⟨h, k⟩ <;> rw [h] <;> simp <;> linarith

theorem minB_spec (a b : BF) :
    (BF.minB a b = a ∨ BF.minB a b = b) ∧ bv (BF.minB a b) ≤ bv a ∧ bv (BF.minB a b) ≤ bv b := by
  unfold BF.minB
  by_cases h : a.le b = true
  · have := (le_iff a b).1 h
    rw [if_pos h]
    exact ⟨Or.inl rfl, le_refl _, this⟩
  · have h' := mt (le_iff a b).2 h
    rw [if_neg h]
    exact ⟨Or.inr rfl, by linarith, le_refl _⟩

theorem maxB_spec (a b : BF) :
    (BF.maxB a b = a ∨ BF.maxB a b = b) ∧ bv a ≤ bv (BF.maxB a b) ∧ bv b ≤ bv (BF.maxB a b) := by
  unfold BF.maxB
  by_cases h : a.le b = true
  · have := (le_iff a b).1 h
    rw [if_pos h]
    exact ⟨Or.inr rfl, this, le_refl _⟩
  · have h' := mt (le_iff a b).2 h
    rw [if_neg h]
    exact ⟨Or.inl rfl, le_refl _, by linarith⟩

theorem floorDiv_eq (m : ℤ) (p : ℕ) : floorDiv m p = m / (p : ℤ) :=
  Int.fdiv_eq_ediv_of_nonneg _ (by omega)

theorem ceilDiv_eq (m : ℤ) (p : ℕ) : ceilDiv m p = -((-m) / (p : ℤ)) := by
  unfold ceilDiv; rw [Int.fdiv_eq_ediv_of_nonneg _ (by omega)]

theorem ediv_abs_ge (m : ℤ) (p c : ℕ) (hp : 0 < p) (h : c * p ≤ m.natAbs) :
    c ≤ (m / (p : ℤ)).natAbs := by
  have hp' : (0:ℤ) < (p:ℤ) := by exact_mod_cast hp
  have hh : (c:ℤ) * (p:ℤ) ≤ (m.natAbs : ℤ) := by exact_mod_cast h
  rcases le_total 0 m with hm | hm
  · have h1 : (c:ℤ) ≤ m / (p:ℤ) := Int.le_ediv_of_mul_le hp' (by omega)
    omega
  · have h1 : m / (p:ℤ) ≤ -(c:ℤ) := Int.ediv_le_of_le_mul hp' (by rw [Int.neg_mul]; omega)
    omega

theorem floorDiv_abs_ge (m : ℤ) (p c : ℕ) (hp : 0 < p) (h : c * p ≤ m.natAbs) :
    c ≤ (floorDiv m p).natAbs := by
  rw [floorDiv_eq]; exact ediv_abs_ge m p c hp h

theorem ceilDiv_abs_ge (m : ℤ) (p c : ℕ) (hp : 0 < p) (h : c * p ≤ m.natAbs) :
    c ≤ (ceilDiv m p).natAbs := by
  rw [ceilDiv_eq, Int.natAbs_neg]; exact ediv_abs_ge (-m) p c hp (by rw [Int.natAbs_neg]; exact h)

def padded (W : Nat) (B : BF) : BF :=
  let pad := if fastDigits B.m.natAbs < W + 3 then W + 3 - fastDigits B.m.natAbs else 0
  ⟨B.m * 10 ^ pad, B.e - pad⟩

/-- the branch of `addDir` for operands far apart: `big` rounded to `W+3` digits and nudged by one unit of its
last digit towards the sign of `small` when that is the direction asked for -/
def far (W : Nat) (down : Bool) (big small : BF) : BF :=
  let P := padded W (rnd (W + 3) down big)
  rnd W down ⟨if small.m > 0 then (if down then P.m else P.m + 1) else (if down then P.m - 1 else P.m), P.e⟩

def aligned (a b : BF) : BF :=
  let e := min a.e b.e
  ⟨a.m * 10 ^ (a.e - e).toNat + b.m * 10 ^ (b.e - e).toNat, e⟩

theorem addDir_eq (W : Nat) (down : Bool) (a b : BF) : addDir W down a b =
    if a.m == 0 then rnd W down b else if b.m == 0 then rnd W down a else
    if a.adj ≥ b.adj then
      (if a.adj - b.adj > (W : Int) + 5 then far W down a b else rnd W down (aligned a b))
    else
      (if b.adj - a.adj > (W : Int) + 5 then far W down b a else rnd W down (aligned a b)) := by
  unfold addDir
  by_cases h : a.adj ≥ b.adj
  · rw [if_pos h, if_pos h]; rfl
  · rw [if_neg h, if_neg h]; rfl

theorem scale_cast (m : ℤ) (xe e : ℤ) (he : e ≤ xe) :
    ((m * 10 ^ (xe - e).toNat : ℤ) : ℝ) * (10:ℝ) ^ e = (m : ℝ) * (10:ℝ) ^ xe := by
  push_cast
  rw [mul_assoc, ← zpow_natCast, ← zpow_add₀ ten_ne_zero]
  congr 2
  omega

theorem bv_aligned (a b : BF) : bv (aligned a b) = bv a + bv b := by
  unfold aligned bv
  simp only []
  rw [Int.cast_add, add_mul, scale_cast _ _ _ (min_le_left _ _), scale_cast _ _ _ (min_le_right _ _)]

theorem rnd_cases (W : Nat) (hW : 1 ≤ W) (dn : Bool) (x : BF) (h0 : x.m ≠ 0) :
    (ndigits x.m.natAbs ≤ W ∧ rnd W dn x = x) ∨
    (W < ndigits x.m.natAbs ∧ (rnd W dn x).e = x.e + ((ndigits x.m.natAbs - W : ℕ) : ℤ) ∧
      10 ^ (W - 1) ≤ (rnd W dn x).m.natAbs) := by
  unfold rnd
  simp only []
  rw [fastDigits_eq]
  by_cases hle : ndigits x.m.natAbs ≤ W
  · left; exact ⟨hle, by rw [if_pos hle]⟩
  · right
    rw [if_neg hle]
    refine ⟨by omega, rfl, ?_⟩
    simp only []
    have hn : 0 < x.m.natAbs := Int.natAbs_pos.2 h0
    have hd := (ndigits_spec _ hn).1
    have hp : 0 < 10 ^ (ndigits x.m.natAbs - W) := Nat.pow_pos (by decide)
    have hd' : 10 ^ (W - 1) * 10 ^ (ndigits x.m.natAbs - W) ≤ x.m.natAbs := by
      rw [← Nat.pow_add]
      have : W - 1 + (ndigits x.m.natAbs - W) = ndigits x.m.natAbs - 1 := by omega
      rw [this]; exact hd
    cases dn
    · exact ceilDiv_abs_ge _ _ _ hp hd'
    · exact floorDiv_abs_ge _ _ _ hp hd'

theorem padded_e (W : Nat) (dn : Bool) (big : BF) (hb0 : big.m ≠ 0) :
    (padded W (rnd (W + 3) dn big)).e = big.adj - ((W : ℤ) + 2) := by
  unfold padded
  simp only []
  rw [fastDigits_eq]
  have hp := ndigits_pos big.m.natAbs
  rcases rnd_cases (W + 3) (by omega) dn big hb0 with ⟨h1, h2⟩ | ⟨h1, h2, h3⟩
  · rw [h2]
    unfold BF.adj
    rw [fastDigits_eq]
    split <;> omega
  · have hd : ¬ ndigits (rnd (W + 3) dn big).m.natAbs < W + 3 := by
      intro hlt
      have hpos : 0 < (rnd (W + 3) dn big).m.natAbs :=
        Nat.lt_of_lt_of_le (Nat.pow_pos (by decide)) h3
      have := (ndigits_le_iff _ (W + 2) hpos).1 (by omega)
      have e : W + 3 - 1 = W + 2 := by omega
      rw [e] at h3
      omega
    rw [if_neg hd, h2]
    unfold BF.adj
    rw [fastDigits_eq]
    omega

theorem bv_padded (W : Nat) (B : BF) : bv (padded W B) = bv B := by
  unfold padded
  simp only []
  generalize (if fastDigits B.m.natAbs < W + 3 then W + 3 - fastDigits B.m.natAbs else 0) = pad
  unfold bv
  push_cast
  rw [zpow_sub₀ ten_ne_zero, zpow_natCast]
  field_simp

theorem bv_sub_one (m e : ℤ) : bv ⟨m - 1, e⟩ = bv ⟨m, e⟩ - (10:ℝ) ^ e := by
  unfold bv; push_cast; ring

/-- the far branch, downwards: a small negative operand costs one unit of the last kept digit -/
theorem far_down (W : Nat) (big small : BF) (hb0 : big.m ≠ 0) (hs0 : small.m ≠ 0)
    (hgap : big.adj - small.adj > (W : ℤ) + 5) : bv (far W true big small) ≤ bv big + bv small := by
  unfold far
  simp only [if_true]
  refine le_trans (rnd_down _ _) ?_
  have hd := (bv_padded W _).trans_le (rnd_down (W + 3) big)
  by_cases hpos : small.m > 0
  · rw [if_pos hpos]
    show bv (padded W _) ≤ _
    linarith only [bv_of_nonneg small (by omega) ▸ mag_nonneg small, hd]
  · rw [if_neg hpos, bv_sub_one]
    have unit : mag small ≤ (10:ℝ) ^ (padded W (rnd (W + 3) true big)).e := by
      rw [padded_e W true big hb0]
      exact (mag_bounds small hs0).2.le.trans (zpow_le_zpow_right₀ (by norm_num) (by omega))
    show bv (padded W _) - _ ≤ _
    linarith only [bv_of_nonpos small (by omega), unit, hd]

theorem addDir_cases (W : Nat) (dn : Bool) (a b : BF) :
    (∃ t : BF, bv t = bv a + bv b ∧ addDir W dn a b = rnd W dn t) ∨
    (∃ big small : BF, bv big + bv small = bv a + bv b ∧ big.m ≠ 0 ∧ small.m ≠ 0 ∧
      big.adj - small.adj > (W : ℤ) + 5 ∧ addDir W dn a b = far W dn big small) := by
  rw [addDir_eq]
  by_cases ha0 : a.m = 0
  · exact Or.inl ⟨b, by rw [bv_eq_zero_of_m a ha0, zero_add], if_pos (beq_iff_eq.2 ha0)⟩
  rw [if_neg (mt beq_iff_eq.1 ha0)]
  by_cases hb0 : b.m = 0
  · exact Or.inl ⟨a, by rw [bv_eq_zero_of_m b hb0, add_zero], if_pos (beq_iff_eq.2 hb0)⟩
  rw [if_neg (mt beq_iff_eq.1 hb0)]
  by_cases hge : a.adj ≥ b.adj
  · rw [if_pos hge]
    by_cases hgap : a.adj - b.adj > (W : ℤ) + 5
    · exact Or.inr ⟨a, b, rfl, ha0, hb0, hgap, if_pos hgap⟩
    · exact Or.inl ⟨aligned a b, bv_aligned a b, if_neg hgap⟩
  · rw [if_neg hge]
    by_cases hgap : b.adj - a.adj > (W : ℤ) + 5
    · exact Or.inr ⟨b, a, add_comm _ _, hb0, ha0, hgap, if_pos hgap⟩
    · exact Or.inl ⟨aligned a b, bv_aligned a b, if_neg hgap⟩

theorem addDir_down (W : Nat) (a b : BF) : bv (addDir W true a b) ≤ bv a + bv b := by
  rcases addDir_cases W true a b with ⟨t, ht, e⟩ | ⟨big, small, hs, hb0, hs0, hgap, e⟩ <;> rw [e]
  · exact ht ▸ rnd_down W t
  · exact hs ▸ far_down W big small hb0 hs0 hgap

theorem adj_neg (x : BF) : x.neg.adj = x.adj := by
  simp [BF.adj, BF.neg]

theorem aligned_neg (a b : BF) : aligned a.neg b.neg = (aligned a b).neg := by
  simp only [aligned, BF.neg, BF.mk.injEq, and_true]
  ring

theorem padded_neg (W : Nat) (B : BF) : padded W B.neg = (padded W B).neg := by
  simp only [padded, BF.neg, Int.natAbs_neg, Int.neg_mul]

theorem far_mirror (W : Nat) (dn : Bool) (big small : BF) (hs : small.m ≠ 0) :
    far W dn big.neg small.neg = (far W (!dn) big small).neg := by
  unfold far
  rw [rnd_mirror (W + 3) dn big, padded_neg, ← rnd_mirror W dn]
  generalize padded W (rnd (W + 3) (!dn) big) = P
  simp only [BF.neg]
  congr 2
  cases dn <;> simp only [Bool.not_true, Bool.not_false, if_true, Bool.false_eq_true, if_false] <;>
    split_ifs <;> omega

theorem addDir_mirror (W : Nat) (dn : Bool) (a b : BF) :
    addDir W dn a.neg b.neg = (addDir W (!dn) a b).neg := by
  rw [addDir_eq, addDir_eq, adj_neg, adj_neg, aligned_neg]
  have e : ∀ x : BF, (x.neg.m == 0) = (x.m == 0) := fun x => by simp [BF.neg]
  rw [e, e]
  by_cases ha : a.m = 0
  · simp only [ha, beq_self_eq_true, if_true, rnd_mirror]
  · by_cases hb : b.m = 0
    · simp only [ha, hb, beq_self_eq_true, beq_iff_eq, if_true, if_false, rnd_mirror]
    · simp only [ha, hb, beq_iff_eq, if_false, rnd_mirror, far_mirror _ _ _ _ ha, far_mirror _ _ _ _ hb]
      split_ifs <;> rfl

theorem addDir_up (W : Nat) (a b : BF) : bv a + bv b ≤ bv (addDir W false a b) := by
  have := addDir_down W a.neg b.neg
  rw [addDir_mirror, Bool.not_true, bv_neg, bv_neg, bv_neg] at this
  linarith only [this]

theorem addDir_sound (W : Nat) (a b : BF) :
    bv (addDir W true a b) ≤ bv a + bv b ∧ bv a + bv b ≤ bv (addDir W false a b) :=
  ⟨addDir_down W a b, addDir_up W a b⟩

def Enc (a : I) (r : ℝ) : Prop := bv a.lo ≤ r ∧ r ≤ bv a.hi

theorem add_sound (W : Nat) (a b : I) (r s : ℝ) (hr : Enc a r) (hs : Enc b s) :
    Enc (I.add W a b) (r + s) := by
  unfold I.add Enc
  simp only []
  have h1 := (addDir_sound W a.lo b.lo).1
  have h2 := (addDir_sound W a.hi b.hi).2
  obtain ⟨r1, r2⟩ := hr
  obtain ⟨s1, s2⟩ := hs
  constructor <;> linarith

theorem corner_lo (al ah bl bh r s : ℝ) (h1 : al ≤ r) (h2 : r ≤ ah) (h3 : bl ≤ s) (h4 : s ≤ bh) :
    al * bl ≤ r * s ∨ al * bh ≤ r * s ∨ ah * bl ≤ r * s ∨ ah * bh ≤ r * s := by
  rcases le_total 0 s with hs | hs
  · have k1 : al * s ≤ r * s := mul_le_mul_of_nonneg_right h1 hs
    rcases le_total 0 al with ha | ha
    · left; exact le_trans (mul_le_mul_of_nonneg_left h3 ha) k1
    · right; left; exact le_trans (mul_le_mul_of_nonpos_left h4 ha) k1
  · have k1 : ah * s ≤ r * s := mul_le_mul_of_nonpos_right h2 hs
    rcases le_total 0 ah with ha | ha
    · right; right; left; exact le_trans (mul_le_mul_of_nonneg_left h3 ha) k1
    · right; right; right; exact le_trans (mul_le_mul_of_nonpos_left h4 ha) k1

theorem corner_hi (al ah bl bh r s : ℝ) (h1 : al ≤ r) (h2 : r ≤ ah) (h3 : bl ≤ s) (h4 : s ≤ bh) :
    r * s ≤ al * bl ∨ r * s ≤ al * bh ∨ r * s ≤ ah * bl ∨ r * s ≤ ah * bh := by
  rcases corner_lo (-ah) (-al) bl bh (-r) s (by linarith) (by linarith) h3 h4 with h | h | h | h
  · right; right; left; linarith
  · right; right; right; linarith
  · left; linarith
  · right; left; linarith

def min4 (a b c d : BF) : BF := BF.minB (BF.minB (BF.minB (BF.minB a a) b) c) d
def max4 (a b c d : BF) : BF := BF.maxB (BF.maxB (BF.maxB (BF.maxB a a) b) c) d

theorem min4_le (a b c d : BF) (t : ℝ) (h : bv a ≤ t ∨ bv b ≤ t ∨ bv c ≤ t ∨ bv d ≤ t) :
    bv (min4 a b c d) ≤ t := by
  unfold min4
  obtain ⟨_, l1, _⟩ := minB_spec a a
  obtain ⟨_, l2, l2'⟩ := minB_spec (BF.minB a a) b
  obtain ⟨_, l3, l3'⟩ := minB_spec (BF.minB (BF.minB a a) b) c
  obtain ⟨_, l4, l4'⟩ := minB_spec (BF.minB (BF.minB (BF.minB a a) b) c) d
  rcases h with h | h | h | h
  exacts [l4.trans (l3.trans (l2.trans (l1.trans h))), l4.trans (l3.trans (l2'.trans h)),
    l4.trans (l3'.trans h), l4'.trans h]

theorem le_max4 (a b c d : BF) (t : ℝ) (h : t ≤ bv a ∨ t ≤ bv b ∨ t ≤ bv c ∨ t ≤ bv d) :
    t ≤ bv (max4 a b c d) := by
  unfold max4
  obtain ⟨_, l1, _⟩ := maxB_spec a a
  obtain ⟨_, l2, l2'⟩ := maxB_spec (BF.maxB a a) b
  obtain ⟨_, l3, l3'⟩ := maxB_spec (BF.maxB (BF.maxB a a) b) c
  obtain ⟨_, l4, l4'⟩ := maxB_spec (BF.maxB (BF.maxB (BF.maxB a a) b) c) d
  rcases h with h | h | h | h
  exacts [((h.trans l1).trans l2).trans (l3.trans l4), (h.trans l2').trans (l3.trans l4),
    (h.trans l3').trans l4, h.trans l4']

theorem mul_eq (W : Nat) (a b : I) : I.mul W a b =
    if a.lo.sgn ≥ 0 && b.lo.sgn ≥ 0 then ⟨mulDir W true a.lo b.lo, mulDir W false a.hi b.hi⟩ else
    if a.lo == a.hi && b.lo == b.hi then ⟨mulDir W true a.lo b.lo, mulDir W false a.lo b.lo⟩ else
    ⟨min4 (mulDir W true a.lo b.lo) (mulDir W true a.lo b.hi) (mulDir W true a.hi b.lo)
        (mulDir W true a.hi b.hi),
     max4 (mulDir W false a.lo b.lo) (mulDir W false a.lo b.hi) (mulDir W false a.hi b.lo)
        (mulDir W false a.hi b.hi)⟩ := by
  unfold I.mul min4 max4
  simp only [List.map_cons, List.map_nil, List.foldl_cons, List.foldl_nil, List.headD_cons]

theorem sgn_nonneg_iff (x : BF) : x.sgn ≥ 0 ↔ 0 ≤ x.m := by
  unfold BF.sgn
  split
  · omega
  · split <;> omega

theorem sgn_nonpos_iff (x : BF) : x.sgn ≤ 0 ↔ x.m ≤ 0 := by
  unfold BF.sgn
  split
  · omega
  · split <;> omega

theorem mul_sound (W : Nat) (a b : I) (r s : ℝ) (hr : Enc a r) (hs : Enc b s) :
    Enc (I.mul W a b) (r * s) := by
  obtain ⟨r1, r2⟩ := hr
  obtain ⟨s1, s2⟩ := hs
  rw [mul_eq]
  split_ifs with h h
  · simp only [Bool.and_eq_true, decide_eq_true_eq] at h
    have p1 := (bv_nonneg_iff _).2 ((sgn_nonneg_iff _).1 h.1)
    have p2 := (bv_nonneg_iff _).2 ((sgn_nonneg_iff _).1 h.2)
    exact ⟨(mulDir_down _ _ _).trans (mul_le_mul r1 s1 p2 (p1.trans r1)),
      (mul_le_mul r2 s2 (p2.trans s1) ((p1.trans r1).trans r2)).trans (mulDir_up _ _ _)⟩
  · simp only [Bool.and_eq_true, beq_iff_eq] at h
    rw [le_antisymm (h.1 ▸ r2) r1, le_antisymm (h.2 ▸ s2) s1]
    exact ⟨mulDir_down _ _ _, mulDir_up _ _ _⟩
  · exact ⟨min4_le _ _ _ _ _ ((corner_lo _ _ _ _ r s r1 r2 s1 s2).imp (mulDir_down _ _ _).trans
        (Or.imp (mulDir_down _ _ _).trans (Or.imp (mulDir_down _ _ _).trans (mulDir_down _ _ _).trans))),
      le_max4 _ _ _ _ _ ((corner_hi _ _ _ _ r s r1 r2 s1 s2).imp (mulDir_up _ _ _).trans'
        (Or.imp (mulDir_up _ _ _).trans' (Or.imp (mulDir_up _ _ _).trans' (mulDir_up _ _ _).trans')))⟩

theorem divPos_eq (W : Nat) (a b : I) : I.divPos W a b =
    if a.lo.sgn ≥ 0 then ⟨divDir W true a.lo b.hi, divDir W false a.hi b.lo⟩ else
    if a.hi.sgn ≤ 0 then ⟨divDir W true a.lo b.lo, divDir W false a.hi b.hi⟩ else
    ⟨min4 (divDir W true a.lo b.lo) (divDir W true a.lo b.hi) (divDir W true a.hi b.lo)
        (divDir W true a.hi b.hi),
     max4 (divDir W false a.lo b.lo) (divDir W false a.lo b.hi) (divDir W false a.hi b.lo)
        (divDir W false a.hi b.hi)⟩ := by
  unfold I.divPos min4 max4
  simp only [List.map_cons, List.map_nil, List.foldl_cons, List.foldl_nil, List.headD_cons]

theorem divPos_sound (W : Nat) (a b : I) (r s : ℝ) (hr : Enc a r) (hs : Enc b s)
    (hpos : 0 < bv b.lo) : Enc (I.divPos W a b) (r / s) := by
  obtain ⟨r1, r2⟩ := hr
  obtain ⟨s1, s2⟩ := hs
  have hs0 : 0 < s := hpos.trans_le s1
  have hbh : 0 < bv b.hi := hs0.trans_le s2
  have nl : b.lo.m ≠ 0 := ((bv_pos_iff _).1 hpos).ne'
  have nh : b.hi.m ≠ 0 := ((bv_pos_iff _).1 hbh).ne'
  -- `1/s` lies between `1/b.hi` and `1/b.lo`
  have i1 : (bv b.hi)⁻¹ ≤ s⁻¹ := inv_anti₀ hs0 s2
  have i2 : s⁻¹ ≤ (bv b.lo)⁻¹ := inv_anti₀ hpos s1
  have i0 : 0 ≤ s⁻¹ := (inv_pos.2 hs0).le
  have dll := divDir_down W a.lo b.lo nl
  have dlh := divDir_down W a.lo b.hi nh
  have dhl := divDir_down W a.hi b.lo nl
  have dhh := divDir_down W a.hi b.hi nh
  have ull := divDir_up W a.lo b.lo nl
  have ulh := divDir_up W a.lo b.hi nh
  have uhl := divDir_up W a.hi b.lo nl
  have uhh := divDir_up W a.hi b.hi nh
  rw [div_eq_mul_inv] at dll dlh dhl dhh ull ulh uhl uhh
  rw [divPos_eq, div_eq_mul_inv]
  split_ifs with h h
  · have p1 := (bv_nonneg_iff _).2 ((sgn_nonneg_iff _).1 h)
    exact ⟨dlh.trans (mul_le_mul r1 i1 (inv_pos.2 hbh).le (p1.trans r1)),
      (mul_le_mul r2 i2 i0 ((p1.trans r1).trans r2)).trans uhl⟩
  · have p1 := (bv_nonpos_iff _).2 ((sgn_nonpos_iff _).1 h)
    exact ⟨dll.trans ((mul_le_mul_of_nonpos_left i2 ((r1.trans r2).trans p1)).trans
        (mul_le_mul_of_nonneg_right r1 i0)),
      ((mul_le_mul_of_nonneg_right r2 i0).trans (mul_le_mul_of_nonpos_left i1 p1)).trans uhh⟩
  · constructor
    · apply min4_le
      rcases corner_lo _ _ _ _ r s⁻¹ r1 r2 i1 i2 with h | h | h | h
      exacts [Or.inr (Or.inl (dlh.trans h)), Or.inl (dll.trans h), Or.inr (Or.inr (Or.inr (dhh.trans h))),
        Or.inr (Or.inr (Or.inl (dhl.trans h)))]
    · apply le_max4
      rcases corner_hi _ _ _ _ r s⁻¹ r1 r2 i1 i2 with h | h | h | h
      exacts [Or.inr (Or.inl (h.trans ulh)), Or.inl (h.trans ull), Or.inr (Or.inr (Or.inr (h.trans uhh))),
        Or.inr (Or.inr (Or.inl (h.trans uhl)))]

theorem certainlyOff_sound (W : Nat) (v : BF) (enc : I) (tol : BF) (r : ℝ) (hr : Enc enc r)
    (h : certainlyOff W v enc tol = true) : bv tol < |bv v - r| := by
  unfold certainlyOff at h
  obtain ⟨r1, r2⟩ := hr
  have s1 := addDir_sound W v tol
  have s2 := addDir_sound W v tol.neg
  rw [bv_neg] at s2
  rw [Bool.or_eq_true] at h
  rcases h with h | h
  · have := (lt_iff _ _).1 h
    rw [abs_sub_comm]
    exact lt_of_lt_of_le (by linarith) (le_abs_self _)
  · have := (lt_iff _ _).1 h
    exact lt_of_lt_of_le (by linarith) (le_abs_self _)

end Apd.C12IL
