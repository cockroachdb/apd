import ApdVerif.Lemmas.C14Lemmas
/-!
# One reading of a finite numeric string, for the grammar and for the printer

`parseL_fin`: on `sign ++ decimal-part ++ exponent-part` the parser returns the sign, the digits with the point
removed, and the written exponent less the digits after the point, and fails exactly when the written exponent is
no int32.  The grammar's strings have that form by definition (`FinBody`); `fmtE_view` and `fmtF_view` say that the
printer's have it too, so the round trip is the same theorem read at the printer's text.  With the special values
(`parseL_specialBody`) it gives the grammar theorem's second half, `parseL_isSome_iff`.
-/
namespace Apd.GramL
open Apd Apd.Text Apd.TextL Apd.Spec

theorem parseL_fin {sg m x : List Char} (hsg : OptSign sg) (hm : DecPart m) (hx : x = [] ∨ ExpPart x) :
    parseL (sg ++ (m ++ x)) =
      if -2147483648 ≤ writtenExp x ∧ writtenExp x ≤ 2147483647 then
        some ({ form := .finite, neg := decide (sg = ['-']), exp := 0, coeff := digitsVal (m.filter (· != '.')) },
              writtenExp x - (fracOf m : Int))
      else none := by
  rw [parseL_eq, splitSign_optSign hsg (hm.headOK x), asciiLower_append, hm.fixed.asciiLower]
  rcases hx with rfl | ⟨i, esg, eds, rfl, hi, hsg', hne', hds⟩
  · rw [show asciiLower [] = [] from rfl, hm.parseBody_numeric, List.append_nil,
      parseNumeric_noexp _ hm.noE.not_mem, hm.finishMant_val, writtenExp_noE NoE.nil, if_pos (by decide)]
  · rw [writtenExp_expPart hi hsg' hds hne', asciiLower_cons, toLower_eq_e.mpr hi,
      (hsg'.fixed.append hds.fixed).asciiLower, hm.parseBody_numeric, parseNumeric_exp _ _ hm.noE.not_mem,
      parseInt32_optSign hsg' hds hne']
    by_cases hr : -2147483648 ≤ signedVal esg eds ∧ signedVal esg eds ≤ 2147483647
    · rw [if_pos hr, if_pos hr]; exact hm.finishMant_val _ _
    · rw [if_neg hr, if_neg hr]

/-! `parseL_fin` in the specification's words (`coeffOf`, `denotedExp`, `ExpInt32L`) -/

theorem coeffOf_fin {sg m x : List Char} (hsg : OptSign sg) (hm : DecPart m) (hx : x = [] ∨ ExpPart x) :
    coeffOf (sg ++ (m ++ x)) = digitsVal (m.filter (· != '.')) := by
  unfold coeffOf
  rw [beforeIndicator_eq hsg hm hx, digitsValue_eq]

theorem denotedExp_fin {sg m x : List Char} (hsg : OptSign sg) (hm : DecPart m) (hx : x = [] ∨ ExpPart x) :
    denotedExp (sg ++ (m ++ x)) = writtenExp x - (fracOf m : Int) := by
  unfold denotedExp fracDigits
  rw [beforeIndicator_eq hsg hm hx, ← List.append_assoc, writtenExp_noE_append x (hsg.noE.append hm.noE)]
  rfl

theorem parseL_finBody {sg t : List Char} (hsg : OptSign sg) (h : FinBody t) :
    parseL (sg ++ t) =
      if ExpInt32L (sg ++ t) then
        some ({ form := .finite, neg := decide (sg = ['-']), exp := 0, coeff := coeffOf (sg ++ t) },
              denotedExp (sg ++ t))
      else none := by
  obtain ⟨m, x, rfl, hm, hx⟩ := h
  rw [parseL_fin hsg hm hx, coeffOf_fin hsg hm hx, denotedExp_fin hsg hm hx]
  show _ = if -2147483648 ≤ writtenExp (sg ++ (m ++ x)) ∧ writtenExp (sg ++ (m ++ x)) ≤ 2147483647 then _ else _
  rw [← List.append_assoc, writtenExp_noE_append x (hsg.noE.append hm.noE)]

theorem parseL_specialBody {sg t : List Char} (hsg : OptSign sg) (h : InfBody t ∨ NanBody t) :
    ∃ d, parseL (sg ++ t) = some (d, 0) ∧ d.form ≠ .finite ∧ d.exp = 0 ∧ d.coeff = 0 := by
  rw [parseL_eq, splitSign_optSign hsg (body_headOK (.inr h))]
  exact special_parse_val h

theorem DecPart.ne_nil {m : List Char} (h : DecPart m) : m ≠ [] := by
  obtain ⟨c, r, rfl, _⟩ := h.head_ne
  exact List.cons_ne_nil _ _

theorem fmtE_view {fmt : Char} (hf : fmt = 'e' ∨ fmt = 'E') (d : Dec) {ds : List Char} (h : Digs ds) (hne : ds ≠ []) :
    ∃ m x, fmtE fmt d ds = m ++ x ∧ DecPart m ∧ ExpPart x ∧ m.filter (· != '.') = ds ∧
      (fracOf m : Int) = (ds.length : Int) - 1 ∧ writtenExp x = d.exp + (ds.length : Int) - 1 := by
  obtain ⟨c, rest, rfl⟩ := List.exists_cons_of_ne_nil hne
  have hc := Digs.cons h.head Digs.nil
  have hx : ∀ adj : Int, ∃ esg eds, (if adj < 0 then '-' :: natDigits (-adj).toNat else '+' :: natDigits adj.toNat) =
      esg ++ eds ∧ OptSign esg ∧ eds ≠ [] ∧ Digs eds ∧ signedVal esg eds = adj := by
    intro adj
    split
    · exact ⟨['-'], natDigits (-adj).toNat, rfl, .inr (.inr rfl), natDigits_ne_nil _, Digs.natDigits _, by
        rw [signedVal, if_pos rfl, natDigits_val]; omega⟩
    · exact ⟨['+'], natDigits adj.toNat, rfl, .inr (.inl rfl), natDigits_ne_nil _, Digs.natDigits _, by
        rw [signedVal, if_neg (by decide), natDigits_val]; omega⟩
  obtain ⟨esg, eds, he, hsg, hne', hds, hv⟩ := hx (d.exp + ((c :: rest).length : Int) - 1)
  unfold fmtE
  simp only [he]
  refine ⟨_, fmt :: (esg ++ eds), rfl, ?_, ⟨fmt, esg, eds, rfl, hf, hsg, hne', hds⟩, ?_, ?_,
    (writtenExp_expPart hf hsg hds hne').trans hv⟩
  · split
    · exact Or.inl ⟨List.cons_ne_nil _ _, hc⟩
    · exact Or.inr ⟨[c], rest, rfl, hc, h.tail, List.cons_ne_nil _ _⟩
  · split
    · rename_i he; rw [List.isEmpty_iff.1 he]; exact filter_digs hc
    · exact filter_dot hc h.tail
  · split
    · rename_i he; rw [List.isEmpty_iff.1 he, fracOf_digs hc]; rfl
    · rw [show c :: '.' :: rest = [c] ++ '.' :: rest from rfl, fracOf_dot rest hc]; simp

theorem fmtF_view (d : Dec) {ds : List Char} (h : Digs ds) (hne : ds ≠ []) :
    DecPart (fmtF d ds) ∧
      digitsVal ((fmtF d ds).filter (· != '.')) = (if d.exp < 0 then digitsVal ds else digitsVal ds * 10 ^ d.exp.toNat) ∧
      (fracOf (fmtF d ds) : Int) = if d.exp < 0 then -d.exp else 0 := by
  by_cases he : d.exp < 0
  · obtain ⟨a, b, e, ha, hb, hne', hv, hl⟩ := fmtF_neg d h hne he
    rw [e, filter_dot ha hb, fracOf_dot b ha, if_pos he, if_pos he]
    exact ⟨Or.inr ⟨a, b, rfl, ha, hb, by simp [hne']⟩, hv, hl⟩
  · have hz := h.append (Digs.zeros d.exp.toNat)
    rw [fmtF_nonneg d ds he, filter_digs hz, fracOf_digs hz, if_neg he, if_neg he]
    exact ⟨Or.inl ⟨by simp [hne], hz⟩, digitsVal_append_zeros _ _, rfl⟩

theorem optSign_of_neg (neg : Bool) :
    OptSign (if neg then ['-'] else []) ∧ decide ((if neg then ['-'] else []) = ['-']) = neg := by
  cases neg
  · exact ⟨.inl rfl, rfl⟩
  · exact ⟨.inr (.inr rfl), rfl⟩

theorem parseL_fmtE (neg : Bool) {fmt : Char} (hf : fmt = 'e' ∨ fmt = 'E') (d : Dec) {ds : List Char} (h : Digs ds)
    (hne : ds ≠ []) (hr : -2147483648 ≤ d.exp + (ds.length : Int) - 1 ∧ d.exp + (ds.length : Int) - 1 ≤ 2147483647) :
    parseL ((if neg then ['-'] else []) ++ fmtE fmt d ds) =
      some ({ form := .finite, neg := neg, exp := 0, coeff := digitsVal ds }, d.exp) := by
  obtain ⟨m, x, e, hm, hx, hfil, hfr, hw⟩ := fmtE_view hf d h hne
  rw [e, parseL_fin (optSign_of_neg neg).1 hm (.inr hx), hw, if_pos hr, hfil, hfr, (optSign_of_neg neg).2]
  congr 2
  omega

theorem parseL_fmtF (neg : Bool) (d : Dec) {ds : List Char} (h : Digs ds) (hne : ds ≠ []) :
    parseL ((if neg then ['-'] else []) ++ fmtF d ds) =
      some ({ form := .finite, neg := neg, exp := 0,
              coeff := if d.exp < 0 then digitsVal ds else digitsVal ds * 10 ^ d.exp.toNat },
            if d.exp < 0 then d.exp else 0) := by
  obtain ⟨hm, hv, hfr⟩ := fmtF_view d h hne
  have := parseL_fin (x := []) (optSign_of_neg neg).1 hm (.inl rfl)
  rw [List.append_nil] at this
  rw [this, writtenExp_noE NoE.nil, if_pos (by decide), hv, hfr, (optSign_of_neg neg).2]
  congr 2
  split <;> omega

theorem numericString_parse {l : List Char} (h : numericString l = true) :
    (parseL l).isSome = true ↔ ExpInt32L l := by
  rw [numericString_iff] at h
  obtain ⟨sg, t, rfl, hsg, hf | hs⟩ := h
  · rw [parseL_finBody hsg hf]
    split <;> simp [*]
  · obtain ⟨d, hd, _⟩ := parseL_specialBody hsg hs
    have : ExpInt32L (sg ++ t) := by
      unfold ExpInt32L; rw [writtenExp_noE (hsg.noE.append (special_noE hs))]; decide
    simp [hd, this]

theorem parseL_isSome_iff (l : List Char) :
    (parseL l).isSome = true ↔ (numericString l = true ∧ ExpInt32L l) := by
  constructor
  · intro h
    have hg := parseL_some_numericString h
    exact ⟨hg, (numericString_parse hg).mp h⟩
  · rintro ⟨hg, hr⟩
    exact (numericString_parse hg).mpr hr

end Apd.GramL
