import Mathlib.Analysis.SpecialFunctions.Pow.Real
import Mathlib.Analysis.SpecialFunctions.Sqrt
import Mathlib.Tactic.Linarith
import Mathlib.Tactic.Positivity
import Mathlib.Tactic.Ring
import Mathlib.Tactic.NormNum
import ApdVerif.Lemmas.SqrtStep
/-!
# Newton's iteration for the square root with rounded operations — the numerical core (over ℝ)

`Context.Sqrt` scales its operand to `f ∈ [0.01, 1)`, starts from the linear estimate of Hull and
Abrham and repeats `a ← ½·(a + f/a)` with the working precision `p` roughly doubling (3, 4, 6, 10, 18, …,
capped at `maxp`), every operation rounded half-even to `p` digits.  A half-even rounding to `p` digits of
a value in the normal range changes it by a relative error of at most `5·10^(-p)`.  This file is about
real numbers only: `e1 e2 e3` are the three relative rounding errors of one round.

Invariant carried through the loop: after the round at precision `p`, `|a - √f| ≤ 10^(2-p) · √f`.
-/
namespace Apd.SqrtN

theorem perturb (t B e1 e2 u : ℝ) (ht : 0 ≤ t) (hB : 0 ≤ B) (hu : 0 ≤ u) (hu1 : u ≤ 1)
    (h1 : |e1| ≤ u) (h2 : |e2| ≤ u) :
    (t * (1 - u) + B) * (1 - u) ≤ (t * (1 + e1) + B) * (1 + e2) ∧
    (t * (1 + e1) + B) * (1 + e2) ≤ (t * (1 + u) + B) * (1 + u) := by
  obtain ⟨h1a, h1b⟩ := abs_le.mp h1
  obtain ⟨h2a, h2b⟩ := abs_le.mp h2
  have hw1 : t * (1 - u) + B ≤ t * (1 + e1) + B := by linarith [mul_le_mul_of_nonneg_left h1a ht]
  have hw2 : t * (1 + e1) + B ≤ t * (1 + u) + B := by linarith [mul_le_mul_of_nonneg_left h1b ht]
  have hw0 : 0 ≤ t * (1 - u) + B := add_nonneg (mul_nonneg ht (sub_nonneg.2 hu1)) hB
  constructor
  · calc (t * (1 - u) + B) * (1 - u) ≤ (t * (1 + e1) + B) * (1 - u) :=
          mul_le_mul_of_nonneg_right hw1 (by linarith)
      _ ≤ (t * (1 + e1) + B) * (1 + e2) :=
          mul_le_mul_of_nonneg_left (by linarith) (by linarith)
  · calc (t * (1 + e1) + B) * (1 + e2) ≤ (t * (1 + e1) + B) * (1 + u) :=
          mul_le_mul_of_nonneg_left (by linarith) (by linarith)
      _ ≤ (t * (1 + u) + B) * (1 + u) :=
          mul_le_mul_of_nonneg_right hw2 (by linarith)

/-- a linear first guess `α·f + β`, rounded twice, is within 10 % of `√f` for `√f ∈ [lo, hi]` when the parabola
`α·r² + β` (widened by the roundings) stays between `0.9·r` and `1.1·r` there -/
theorem init_guess (α β lo hi f e1 e2 : ℝ) (hα : 0 ≤ α) (hβ : 0 ≤ β) (hf : lo ^ 2 ≤ f)
    (hf1 : f ≤ hi ^ 2) (hhi : 0 ≤ hi) (h1 : |e1| ≤ 1 / 1000000) (h2 : |e2| ≤ 1 / 1000000)
    (L : ∀ r, lo ≤ r → 9 / 10 * r ≤ (α * (r * r) * (1 - 1 / 1000000) + β) * (1 - 1 / 1000000))
    (U : ∀ r, lo ≤ r → r ≤ hi → (α * (r * r) * (1 + 1 / 1000000) + β) * (1 + 1 / 1000000) ≤ 11 / 10 * r) :
    |((α * f) * (1 + e1) + β) * (1 + e2) - Real.sqrt f| ≤ (1 / 10) * Real.sqrt f := by
  have hrr : Real.sqrt f * Real.sqrt f = f := Real.mul_self_sqrt ((sq_nonneg lo).trans hf)
  have hrlo : lo ≤ Real.sqrt f := Real.le_sqrt_of_sq_le hf
  have hrhi : Real.sqrt f ≤ hi := Real.sqrt_le_iff.2 ⟨hhi, hf1⟩
  generalize Real.sqrt f = r at *
  subst hrr
  obtain ⟨h3, h4⟩ := perturb (α * (r * r)) β e1 e2 (1 / 1000000)
    (mul_nonneg hα (mul_self_nonneg r)) hβ (by norm_num) (by norm_num) h1 h2
  rw [abs_le]
  exact ⟨by linarith only [h3, L r hrlo], by linarith only [h4, U r hrlo hrhi]⟩

theorem init_even (f e1 e2 : ℝ) (hf : 1 / 10 ≤ f) (hf1 : f ≤ 1)
    (h1 : |e1| ≤ 1 / 1000000) (h2 : |e2| ≤ 1 / 1000000) :
    |((819 / 1000 * f) * (1 + e1) + 259 / 1000) * (1 + e2) - Real.sqrt f| ≤ (1 / 10) * Real.sqrt f :=
  init_guess (819 / 1000) (259 / 1000) (316 / 1000) 1 f e1 e2 (by norm_num) (by norm_num)
    (by linarith only [hf]) (by linarith only [hf1]) zero_le_one h1 h2
    (fun r h => by linarith only [h, mul_self_nonneg (r - 55 / 100)])
    (fun r h h' => by linarith only [h, mul_nonneg (sub_nonneg.mpr h) (sub_nonneg.mpr h')])

theorem init_odd (f e1 e2 : ℝ) (hf : 1 / 100 ≤ f) (hf1 : f ≤ 1 / 10)
    (h1 : |e1| ≤ 1 / 1000000) (h2 : |e2| ≤ 1 / 1000000) :
    |((259 / 100 * f) * (1 + e1) + 819 / 10000) * (1 + e2) - Real.sqrt f| ≤ (1 / 10) * Real.sqrt f :=
  init_guess (259 / 100) (819 / 10000) (1 / 10) (3163 / 10000) f e1 e2 (by norm_num) (by norm_num)
    (by linarith only [hf]) (by linarith only [hf1]) (by norm_num) h1 h2
    (fun r h => by linarith only [h, mul_self_nonneg (r - 174 / 1000)])
    (fun r h h' => by linarith only [h, mul_nonneg (sub_nonneg.mpr h) (sub_nonneg.mpr h')])

theorem rel_abs {v e ε B : ℝ} (hv0 : 0 ≤ v) (hv : v ≤ B) (he : |e| ≤ ε) : |v * (1 + e) - v| ≤ B * ε := by
  rw [show v * (1 + e) - v = v * e by ring, abs_mul, abs_of_nonneg hv0]
  exact mul_le_mul hv he (abs_nonneg _) (hv0.trans hv)

/-- `round_err` with the three relative roundings read as absolute ones, `ε` times a bound of the operand -/
theorem newton_step (f a e1 e2 e3 H ε : ℝ) (hf : 0 < f) (hH : 0 ≤ H) (hH1 : H ≤ 1 / 10)
    (hε : 0 ≤ ε) (hε1 : ε ≤ 1 / 2000)
    (ha : |a - Real.sqrt f| ≤ H * Real.sqrt f)
    (h1 : |e1| ≤ ε) (h2 : |e2| ≤ ε) (h3 : |e3| ≤ ε) :
    |(((f / a) * (1 + e1) + a) * (1 + e2) * (1 / 2)) * (1 + e3) - Real.sqrt f|
      ≤ ((5 / 9) * H ^ 2 + 3 * ε) * Real.sqrt f := by
  have hrr : Real.sqrt f ^ 2 = f := Real.sq_sqrt hf.le
  have hr0 : 0 < Real.sqrt f := Real.sqrt_pos.mpr hf
  generalize Real.sqrt f = r at *
  subst hrr
  obtain ⟨a1, a2⟩ := abs_le.1 ha
  have hHr := mul_le_mul_of_nonneg_right hH1 hr0.le
  have ha9 : 9 / 10 * r ≤ a := by linarith only [a1, hHr]
  have ha0 : 0 < a := by linarith only [ha9, hr0]
  have hq0 : 0 ≤ r ^ 2 / a := div_nonneg (sq_nonneg r) ha0.le
  have hq := quo_le r a hr0 ha9
  have hεr := mul_le_mul_of_nonneg_right hε1 hr0.le
  have u1 := rel_abs hq0 hq h1
  obtain ⟨q1, q2⟩ := abs_le.1 u1
  have hs0 : 0 ≤ r ^ 2 / a * (1 + e1) + a := by linarith only [q1, hq0, ha9, hεr, hr0]
  have u2 := rel_abs (B := 2212 / 1000 * r) hs0 (by linarith only [q2, hq, a2, hHr, hεr, hr0]) h2
  obtain ⟨s1, s2⟩ := abs_le.1 u2
  have hh0 : 0 ≤ (r ^ 2 / a * (1 + e1) + a) * (1 + e2) * (1 / 2) := by linarith only [s1, q1, hq0, ha9, hεr, hr0]
  have u3 := rel_abs (B := 1107 / 1000 * r) hh0 (by linarith only [s2, q2, hq, a2, hHr, hεr, hr0]) h3
  refine (round_err ha0 u1 u2 u3).trans ?_
  have hθ := newton_term_le r a (H * r) (9 / 10) (by positivity) ha9 ha
  have e2' : (H * r) ^ 2 / (9 / 10 * r) = 10 / 9 * H ^ 2 * r := by field_simp
  rw [e2'] at hθ
  linarith only [hθ, mul_nonneg hr0.le hε]

/-- the invariant is reproduced: from `H = 10^(2-p)` at precision `p ≥ 3` to `10^(2-p')` at the next
precision `p' ≤ 2p-2`, the rounding unit of that round being `ε = 5·10^(-p')` -/
theorem bound_step (p p' : ℕ) (hp : 3 ≤ p) (hle : p' ≤ 2 * p - 2) :
    (5 / 9 : ℝ) * ((10 : ℝ) ^ (2 - (p : ℤ))) ^ 2 + 3 * (5 * (10 : ℝ) ^ (-(p' : ℤ))) ≤ (10 : ℝ) ^ (2 - (p' : ℤ)) := by
  have h10 : (0 : ℝ) < 10 := by norm_num
  have hsq : ((10 : ℝ) ^ (2 - (p : ℤ))) ^ 2 = (10 : ℝ) ^ (2 * (2 - (p : ℤ))) := by
    rw [← zpow_natCast, ← zpow_mul]; congr 1; push_cast; ring
  have hmono : (10 : ℝ) ^ (2 * (2 - (p : ℤ))) ≤ (10 : ℝ) ^ (2 - (p' : ℤ)) :=
    zpow_le_zpow_right₀ (by norm_num) (by omega)
  have hsplit : (10 : ℝ) ^ (2 - (p' : ℤ)) = 100 * (10 : ℝ) ^ (-(p' : ℤ)) := by
    rw [show (2 - (p' : ℤ)) = 2 + (-(p' : ℤ)) by ring, zpow_add₀ h10.ne']; norm_num
  have hpos : 0 < (10 : ℝ) ^ (-(p' : ℤ)) := zpow_pos h10 _
  rw [hsq]
  rw [hsplit] at hmono ⊢
  nlinarith

theorem close_bounds (f a H : ℝ) (hf : 1 / 100 ≤ f) (hf1 : f ≤ 1) (hH1 : H ≤ 1 / 10)
    (ha : |a - Real.sqrt f| ≤ H * Real.sqrt f) :
    9 / 100 ≤ a ∧ a ≤ 11 / 10 ∧ a ≤ 11 * f ∧ f ≤ 2 * a ∧ 1 / 10 ≤ Real.sqrt f ∧ Real.sqrt f ≤ 1 := by
  have hrr : Real.sqrt f * Real.sqrt f = f := Real.mul_self_sqrt (by linarith)
  have hrlo : 1 / 10 ≤ Real.sqrt f := Real.le_sqrt_of_sq_le (by linarith)
  have hrhi : Real.sqrt f ≤ 1 := Real.sqrt_le_one.2 hf1
  obtain ⟨h1, h2⟩ := abs_le.mp ha
  have hr0 : 0 ≤ Real.sqrt f := Real.sqrt_nonneg f
  have : H * Real.sqrt f ≤ 1 / 10 * Real.sqrt f := mul_le_mul_of_nonneg_right hH1 hr0
  have m1 := mul_le_mul_of_nonneg_right hrlo hr0
  have m2 := mul_le_mul_of_nonneg_right hrhi hr0
  exact ⟨by linarith only [h1, this, hrlo], by linarith only [h2, this, hrhi], by linarith only [h2, this, m1, hrr],
    by linarith only [h1, this, m2, hrr, hr0], hrlo, hrhi⟩

theorem H_le (p : ℕ) (hp : 3 ≤ p) : (10 : ℝ) ^ (2 - (p : ℤ)) ≤ 1 / 10 := by
  have : (10 : ℝ) ^ (2 - (p : ℤ)) ≤ (10 : ℝ) ^ (-1 : ℤ) := zpow_le_zpow_right₀ (by norm_num) (by omega)
  rwa [zpow_neg_one, ← one_div] at this

/-- from closeness to the root to a statement without square roots: the interface to the rational world -/
theorem close_to_squares (f a δ : ℝ) (hf : 0 < f) (hδ : 0 < δ) (ha : |a - Real.sqrt f| < δ) (had : δ ≤ a) :
    (a - δ) ^ 2 < f ∧ f < (a + δ) ^ 2 := by
  have hrr : Real.sqrt f ^ 2 = f := Real.sq_sqrt hf.le
  obtain ⟨h1, h2⟩ := abs_lt.mp ha
  constructor
  · calc (a - δ) ^ 2 < Real.sqrt f ^ 2 := pow_lt_pow_left₀ (by linarith) (by linarith) two_ne_zero
      _ = f := hrr
  · calc f = Real.sqrt f ^ 2 := hrr.symm
      _ < (a + δ) ^ 2 := pow_lt_pow_left₀ (by linarith) (Real.sqrt_nonneg f) two_ne_zero

end Apd.SqrtN

#print axioms Apd.SqrtN.init_even
#print axioms Apd.SqrtN.init_odd
#print axioms Apd.SqrtN.newton_step
#print axioms Apd.SqrtN.bound_step
#print axioms Apd.SqrtN.close_bounds
#print axioms Apd.SqrtN.close_to_squares
