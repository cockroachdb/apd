import ApdVerif.Lemmas.ExpAccHorner
/-!
# Relative errors on the logarithmic scale, and stage S3 (square-and-multiply) of `Props/C12ExpAcc.lean`

`LogNear ω a b` is `a·e^{-ω} ≤ b ≤ a·e^{ω}`: for `a > 0` the relation `RelW ω a b` of `Lemmas/RelErr.lean`, from which
its lemmas are taken.  Square-and-multiply with products perturbed by `u'` computes `z·n^b` within `b·u'`.
-/
namespace Apd.ExpAcc
open Real

def LogNear (ω a b : ℝ) : Prop := a * exp (-ω) ≤ b ∧ b ≤ a * exp ω

theorem LogNear.refl (a : ℝ) : LogNear 0 a a := by simp [LogNear]

theorem LogNear.pos {ω a b : ℝ} (h : LogNear ω a b) (ha : 0 < a) : 0 < b :=
  lt_of_lt_of_le (mul_pos ha (exp_pos _)) h.1

theorem logNear_of_relW {ω a b : ℝ} (ha : 0 ≤ a) (h : LnAcc.RelW ω a b) : LogNear ω a b := by
  obtain ⟨W, rfl, l, u⟩ := h
  exact ⟨mul_le_mul_of_nonneg_left l ha, mul_le_mul_of_nonneg_left u ha⟩

theorem relW_of_logNear {ω a b : ℝ} (ha : 0 < a) (h : LogNear ω a b) : LnAcc.RelW ω a b :=
  ⟨b / a, (mul_div_cancel₀ b ha.ne').symm, by rw [le_div_iff₀ ha, mul_comm]; exact h.1,
    by rw [div_le_iff₀ ha, mul_comm]; exact h.2⟩

theorem LogNear.mono {ω ω' a b : ℝ} (h : LogNear ω a b) (ha : 0 < a) (hω : ω ≤ ω') : LogNear ω' a b :=
  logNear_of_relW ha.le ((relW_of_logNear ha h).mono hω)

theorem LogNear.trans {ω1 ω2 a b c : ℝ} (h1 : LogNear ω1 a b) (h2 : LogNear ω2 b c) (ha : 0 < a) :
    LogNear (ω1 + ω2) a c :=
  logNear_of_relW ha.le ((relW_of_logNear ha h1).trans (relW_of_logNear (h1.pos ha) h2))

theorem LogNear.mul {ω1 ω2 a b c d : ℝ} (h1 : LogNear ω1 a b) (h2 : LogNear ω2 c d)
    (ha : 0 < a) (hc : 0 < c) : LogNear (ω1 + ω2) (a * c) (b * d) :=
  logNear_of_relW (mul_pos ha hc).le ((relW_of_logNear ha h1).mul (relW_of_logNear hc h2))

theorem LogNear.pow {ω a b : ℝ} (h : LogNear ω a b) (ha : 0 < a) (k : ℕ) :
    LogNear ((k : ℝ) * ω) (a ^ k) (b ^ k) :=
  logNear_of_relW (pow_pos ha k).le ((relW_of_logNear ha h).pow k)

theorem LogNear.of_rel (a δ u : ℝ) (ha : 0 ≤ a) (hδ : |δ| ≤ u) (hu : u < 1) :
    LogNear (u / (1 - u)) a (a * (1 + δ)) :=
  logNear_of_relW ha (by simpa using (LnAcc.RelW.refl a).step δ u hδ hu)

theorem LogNear.of_abs (a b ρ : ℝ) (ha : 0 < a) (hρ : ρ < 1) (h : |b - a| ≤ ρ * a) :
    LogNear (ρ / (1 - ρ)) a b := by
  have hρ0 : 0 ≤ ρ := by
    by_contra hn
    have : ρ * a < 0 := mul_neg_of_neg_of_pos (not_le.1 hn) ha
    linarith [abs_nonneg (b - a)]
  have e : b = a * (1 + (b - a) / a) := by field_simp; ring
  rw [e]
  apply LogNear.of_rel a _ ρ ha.le _ hρ
  rw [abs_div, abs_of_pos ha, div_le_iff₀ ha]; exact h

theorem LogNear.abs_sub_le {ω a b : ℝ} (h : LogNear ω a b) (ha : 0 < a) : |b - a| ≤ b * (exp ω - 1) := by
  have := (relW_of_logNear ha h).symm.abs_sub_le
  rwa [abs_sub_comm, abs_of_pos (h.pos ha)] at this

theorem pow_combine (z n z' n' res u' : ℝ) (b' bit : ℕ) (hz0 : 0 < z) (hn0 : 0 < n)
    (hz : LogNear ((bit : ℝ) * u') (z * n ^ bit) z')
    (hn : 0 < b' → LogNear u' (n * n) n')
    (hres : LogNear ((b' : ℝ) * u') (z' * n' ^ b') res) :
    LogNear (((2 * b' + bit : ℕ) : ℝ) * u') (z * n ^ (2 * b' + bit)) res := by
  have hzn : 0 < z * n ^ bit := by positivity
  have hpow : LogNear ((b' : ℝ) * u') ((n * n) ^ b') (n' ^ b') := by
    rcases Nat.eq_zero_or_pos b' with h0 | hpos
    · subst h0; simpa using LogNear.refl 1
    · exact (hn hpos).pow (mul_pos hn0 hn0) b'
  have h1 : LogNear ((bit : ℝ) * u' + (b' : ℝ) * u') (z * n ^ bit * (n * n) ^ b') (z' * n' ^ b') :=
    hz.mul hpow hzn (by positivity)
  have h2 := h1.trans hres (mul_pos hzn (by positivity))
  have e1 : z * n ^ (2 * b' + bit) = z * n ^ bit * (n * n) ^ b' := by
    rw [pow_add, pow_mul, ← sq]; ring
  have e2 : ((2 * b' + bit : ℕ) : ℝ) * u' = (bit : ℝ) * u' + (b' : ℝ) * u' + (b' : ℝ) * u' := by
    push_cast; ring
  rw [e1, e2]; exact h2

/-- The loop of `integerPower` on reals with a rounded multiplication `fl`: the statement of the stage for real
numbers.  The loop of the model (`intPow_loop`) is an induction of its own over `pow_combine`, because a failing
multiplication has to be threaded through. -/
noncomputable def powLoopR (fl : ℝ → ℝ → ℝ) : ℕ → ℕ → ℝ → ℝ → ℝ
  | 0, _, z, _ => z
  | fuel+1, b, z, n =>
    if b = 0 then z else
    powLoopR fl fuel (b / 2) (if b % 2 = 1 then fl z n else z) (if b / 2 > 0 then fl n n else n)

/-- the error exponent is `b`, not `log b`: the errors of the squarings are squared along -/
theorem pow_loop_rounded (fl : ℝ → ℝ → ℝ) (u' : ℝ)
    (hfl : ∀ a b, 0 < a → 0 < b → LogNear u' (a * b) (fl a b)) :
    ∀ (fuel b : ℕ) (z n : ℝ), b < 2 ^ fuel → 0 < z → 0 < n →
      LogNear ((b : ℝ) * u') (z * n ^ b) (powLoopR fl fuel b z n) := by
  intro fuel
  induction fuel with
  | zero =>
    intro b z n hb hz hn
    have : b = 0 := by simpa using hb
    subst this
    simpa [powLoopR] using LogNear.refl z
  | succ fuel ih =>
    intro b z n hb hz hn
    unfold powLoopR
    by_cases h0 : b = 0
    · subst h0; simpa using LogNear.refl z
    · rw [if_neg h0]
      have hb' : b / 2 < 2 ^ fuel := by
        rw [pow_succ] at hb; omega
      have hbit : b % 2 = 0 ∨ b % 2 = 1 := by omega
      have hdecomp : b = 2 * (b / 2) + b % 2 := by omega
      set z' := (if b % 2 = 1 then fl z n else z) with hz'
      set n' := (if b / 2 > 0 then fl n n else n) with hn'
      have hzL : LogNear (((b % 2 : ℕ) : ℝ) * u') (z * n ^ (b % 2)) z' := by
        rcases hbit with hb0 | hb1
        · rw [hz', hb0]; simpa using LogNear.refl z
        · rw [hz', hb1, if_pos rfl]; simpa using hfl z n hz hn
      have hnL : 0 < b / 2 → LogNear u' (n * n) n' := by
        intro hp; rw [hn', if_pos hp]; exact hfl n n hn hn
      have hz'pos : 0 < z' := hzL.pos (by positivity)
      have hn'pos : 0 < n' := by
        by_cases hp : 0 < b / 2
        · exact (hnL hp).pos (by positivity)
        · rw [hn', if_neg hp]; exact hn
      have := pow_combine z n z' n' _ u' (b / 2) (b % 2) hz hn hzL hnL (ih (b / 2) z' n' hb' hz'pos hn'pos)
      rw [← hdecomp] at this
      exact this

end Apd.ExpAcc
