import ApdVerif.Lemmas.C12IntervalExp
import ApdVerif.Lemmas.AtanhSeries
/-!
# Soundness of `twoAtanh` / `lnPoint` (C12)

The oracle's interval logarithm (`Oracle/Interval.lean`) encloses the real one.  The series is that of
`Lemmas/AtanhSeries.lean`; outward rounding keeps signs and does not cross `1`, so the argument of the series stays in
its domain.  `lnPoint` evaluates the series directly for an argument in `[1/2, 2]` (`direct_sound`) and otherwise scales
by powers of 10 and 2 (`reduced_sound`).
-/
namespace Apd.C12IL
open Apd.Oracle.Iv

theorem p10k_pos (k : ℕ) : (0:ℤ) < ((10 ^ k : ℕ) : ℤ) := by
  have := Nat.pow_pos (n := k) (by decide : 0 < 10)
  omega

theorem neg_m (x : BF) : x.neg.m = -x.m := rfl

theorem floorDiv_nonneg (m : ℤ) (k : ℕ) (h : 0 ≤ m) : 0 ≤ floorDiv m (10 ^ k) := by
  rw [floorDiv_eq]; exact Int.ediv_nonneg h (p10k_pos k).le

theorem ceilDiv_nonneg (m : ℤ) (k : ℕ) (h : 0 ≤ m) : 0 ≤ ceilDiv m (10 ^ k) := by
  rw [ceilDiv_eq]
  have := Int.ediv_nonpos_of_nonpos_of_neg (n := -m) (by omega) (p10k_pos k)
  omega

theorem rnd_nonneg (W : Nat) (dn : Bool) (x : BF) (h : 0 ≤ x.m) : 0 ≤ (rnd W dn x).m := by
  unfold rnd
  simp only []
  split
  · exact h
  · cases dn
    · exact ceilDiv_nonneg _ _ h
    · exact floorDiv_nonneg _ _ h

theorem rnd_nonpos (W : Nat) (dn : Bool) (x : BF) (h : x.m ≤ 0) : (rnd W dn x).m ≤ 0 := by
  have := rnd_nonneg W (!dn) x.neg (by rw [neg_m]; omega)
  rw [rnd_mirror, Bool.not_not, neg_m] at this
  omega

theorem rnd_ne_zero (W : Nat) (hW : 1 ≤ W) (dn : Bool) (x : BF) (h : x.m ≠ 0) :
    (rnd W dn x).m ≠ 0 := by
  rcases rnd_cases W hW dn x h with ⟨_, h2⟩ | ⟨_, _, h3⟩
  · rw [h2]; exact h
  · have : 0 < 10 ^ (W - 1) := Nat.pow_pos (by decide)
    omega

theorem rnd_pos (W : Nat) (hW : 1 ≤ W) (dn : Bool) (x : BF) (h : 0 < x.m) : 0 < (rnd W dn x).m := by
  have h1 := rnd_nonneg W dn x h.le
  have h2 := rnd_ne_zero W hW dn x (by omega)
  omega

theorem divDir_nonneg (W : Nat) (dn : Bool) (a b : BF) (ha : 0 ≤ a.m) (hb : 0 < b.m) :
    0 ≤ (divDir W dn a b).m := by
  unfold divDir
  split
  · simp [BF.zero]
  · simp only []
    apply rnd_nonneg
    simp only []
    have hnum : 0 ≤ a.m * 10 ^ (fastDigits b.m.natAbs + W + 2) :=
      Int.mul_nonneg ha (Int.pow_nonneg (by decide))
    cases dn
    · simp only [Bool.false_eq_true, if_false]
      rw [Int.fdiv_eq_ediv_of_nonneg _ hb.le]
      have := Int.ediv_nonpos_of_nonpos_of_neg
        (n := -(a.m * 10 ^ (fastDigits b.m.natAbs + W + 2))) (by omega) hb
      omega
    · simp only [if_true]
      rw [Int.fdiv_eq_ediv_of_nonneg _ hb.le]
      exact Int.ediv_nonneg hnum hb.le

theorem divDir_nonpos (W : Nat) (dn : Bool) (a b : BF) (ha : a.m ≤ 0) (hb : 0 < b.m) :
    (divDir W dn a b).m ≤ 0 := by
  have := divDir_nonneg W (!dn) a.neg b (by rw [neg_m]; omega) hb
  rw [divDir_mirror, Bool.not_not, neg_m] at this
  omega

theorem bv_le_mag (x : BF) : bv x ≤ mag x := by rw [mag_eq_abs]; exact le_abs_self _

theorem padded_ge (W : Nat) (dn : Bool) (big : BF) (hb0 : big.m ≠ 0) :
    10 ^ (W + 2) ≤ (padded W (rnd (W + 3) dn big)).m.natAbs := by
  have hne := rnd_ne_zero (W + 3) (by omega) dn big hb0
  generalize rnd (W + 3) dn big = B at *
  unfold padded
  simp only []
  rw [fastDigits_eq, Int.natAbs_mul, Int.natAbs_pow, show Int.natAbs 10 = 10 from rfl]
  have hd := (ndigits_spec _ (Int.natAbs_pos.2 hne)).1
  have hp := ndigits_pos B.m.natAbs
  generalize hpad : (if ndigits B.m.natAbs < W + 3 then W + 3 - ndigits B.m.natAbs else 0) = pad
  have hle : W + 2 ≤ (ndigits B.m.natAbs - 1) + pad := by
    rw [← hpad]; split <;> omega
  calc 10 ^ (W + 2) ≤ 10 ^ ((ndigits B.m.natAbs - 1) + pad) := Nat.pow_le_pow_right (by decide) hle
    _ = 10 ^ (ndigits B.m.natAbs - 1) * 10 ^ pad := Nat.pow_add ..
    _ ≤ B.m.natAbs * 10 ^ pad := Nat.mul_le_mul_right _ hd

theorem far_down_nonneg (W : Nat) (big small : BF) (hb0 : big.m ≠ 0) (hs0 : small.m ≠ 0)
    (hgap : big.adj - small.adj > (W : ℤ) + 5) (h : 0 ≤ bv big + bv small) :
    0 ≤ (far W true big small).m ∧ (1 ≤ W → 0 < (far W true big small).m) := by
  -- `big` dominates, so it is positive, and its padded mantissa is at least `10^(W+2) ≥ 10`
  have hbig : 0 < big.m := by
    by_contra hc
    have h1 := bv_of_nonpos big (by omega)
    linarith only [mag_lt_of_adj_lt small big hs0 hb0 (by omega), bv_le_mag small, h1, h]
  have hP : 0 < (padded W (rnd (W + 3) true big)).m :=
    Int.mul_pos (rnd_pos (W + 3) (by omega) true big hbig) (Int.pow_pos (by decide))
  have hM : 10 ≤ (padded W (rnd (W + 3) true big)).m := by
    have h10 : 10 ^ 1 ≤ 10 ^ (W + 2) := Nat.pow_le_pow_right (by decide) (by omega)
    have := padded_ge W true big hb0
    omega
  unfold far
  simp only [if_true]
  generalize (padded W (rnd (W + 3) true big)) = P at *
  exact ⟨rnd_nonneg _ _ _ (by show 0 ≤ ite _ _ _; split <;> omega),
    fun hW => rnd_pos W hW _ _ (by show 0 < ite _ _ _; split <;> omega)⟩

theorem addDir_down_sign (W : Nat) (a b : BF) (h : 0 ≤ bv a + bv b) :
    0 ≤ (addDir W true a b).m ∧ (1 ≤ W → 0 < bv a + bv b → 0 < (addDir W true a b).m) := by
  rcases addDir_cases W true a b with ⟨t, ht, e⟩ | ⟨big, small, hs, hb0, hs0, hgap, e⟩ <;> rw [e]
  · rw [← ht] at h ⊢
    exact ⟨rnd_nonneg _ _ _ ((bv_nonneg_iff t).1 h), fun hW hp => rnd_pos W hW _ _ ((bv_pos_iff t).1 hp)⟩
  · have := far_down_nonneg W big small hb0 hs0 hgap (hs ▸ h)
    exact ⟨this.1, fun hW _ => this.2 hW⟩

theorem addDir_up_nonpos (W : Nat) (a b : BF) (h : bv a + bv b ≤ 0) :
    (addDir W false a b).m ≤ 0 := by
  have := (addDir_down_sign W a.neg b.neg (by rw [bv_neg, bv_neg]; linarith only [h])).1
  rw [addDir_mirror, Bool.not_true, neg_m] at this
  omega

theorem bv_le_iff (x y : BF) (k : ℕ) (hk : x.e = y.e + k) : bv x ≤ bv y ↔ x.m * 10 ^ k ≤ y.m := by
  unfold bv
  rw [hk, zpow_add₀ ten_ne_zero, zpow_natCast, mul_comm ((10:ℝ) ^ y.e), ← mul_assoc,
    mul_le_mul_iff_left₀ (p10_pos y.e), ← Int.cast_le (R := ℝ)]
  push_cast
  rfl

theorem one_le_bv_iff (x : BF) (t : ℕ) (ht : x.e = -(t : ℤ)) : 1 ≤ bv x ↔ 10 ^ t ≤ x.m := by
  have := bv_le_iff (BF.ofInt 1) x t (by show (0:ℤ) = x.e + t; omega)
  rwa [bv_ofInt, Int.cast_one, show (BF.ofInt 1).m = 1 from rfl, one_mul] at this

theorem rnd_down_ge_one (W : Nat) (hW : 1 ≤ W) (x : BF) (h : 1 ≤ bv x) : 1 ≤ bv (rnd W true x) := by
  have hpos := rnd_pos W hW true x ((bv_pos_iff x).1 (zero_lt_one.trans_le h))
  unfold rnd at hpos ⊢
  simp only [] at hpos ⊢
  split_ifs at hpos ⊢ with hle
  · exact h
  generalize fastDigits x.m.natAbs - W = k at *
  by_cases he : 0 ≤ x.e + (k : ℤ)
  · have h1 : (1:ℝ) ≤ ((floorDiv x.m (10 ^ k) : ℤ) : ℝ) := by exact_mod_cast hpos
    exact one_le_mul_of_one_le_of_one_le h1 (one_le_zpow₀ (by norm_num) he)
  · -- `1` lies on the coarser grid `10^(x.e+k)`, so flooring does not pass it
    obtain ⟨t, ht⟩ : ∃ t : ℕ, x.e + (k : ℤ) = -(t : ℤ) := ⟨(-(x.e + (k : ℤ))).toNat, by omega⟩
    have hm := (one_le_bv_iff x (t + k) (by push_cast; omega)).1 h
    refine (one_le_bv_iff ⟨_, _⟩ t ht).2 ?_
    rw [floorDiv_eq]
    exact Int.le_ediv_of_mul_le (p10k_pos k) (by push_cast; rw [← pow_add]; exact hm)

theorem divDir_down_ge_one (W : Nat) (hW : 1 ≤ W) (a b : BF) (ha : 0 < a.m) (hb : 0 < b.m)
    (hE : a.e ≤ b.e) (h : bv b ≤ bv a) : 1 ≤ bv (divDir W true a b) := by
  unfold divDir
  rw [if_neg (by simp; omega)]
  simp only [if_true]
  apply rnd_down_ge_one W hW
  generalize fastDigits b.m.natAbs + W + 2 = s
  rw [Int.fdiv_eq_ediv_of_nonneg _ hb.le]
  obtain ⟨t, ht⟩ : ∃ t : ℕ, (t : ℤ) = b.e - a.e := ⟨(b.e - a.e).toNat, by omega⟩
  -- `b.m · 10^(t+s) ≤ a.m · 10^s`, where `t = b.e - a.e`
  have hint := Int.mul_le_mul_of_nonneg_right ((bv_le_iff b a t (by omega)).1 h)
    (pow_nonneg (by decide : (0:ℤ) ≤ 10) s)
  refine (one_le_bv_iff ⟨_, _⟩ (t + s) (by push_cast; omega)).2 (Int.le_ediv_of_mul_le hb ?_)
  rw [pow_add, mul_comm, ← mul_assoc]
  exact hint

open Finset in
theorem go_inv (W n : Nat) (z2 : I) (q : ℝ) (hq : Enc z2 q) :
    ∀ (i : Nat), i ≤ n → ∀ (zp acc : I) (P A : ℝ), Enc zp P → Enc acc A →
      Enc (twoAtanh.go W n z2 i zp acc)
        (A + ∑ t ∈ range i, P * q ^ t / ((2 * (n - i + t) + 1 : ℕ) : ℝ)) := by
  intro i
  induction i with
  | zero =>
    intro _ zp acc P A _ hA
    rw [twoAtanh.go.eq_1]
    simpa using hA
  | succ i ih =>
    intro hi zp acc P A hP hA
    rw [twoAtanh.go.eq_2]
    have m1 := mul_sound W zp z2 P q hP hq
    have d1 := divNat_sound W zp (2 * (n - (i + 1)) + 1) (by omega) P hP
    have a1 := add_sound W acc _ A _ hA d1
    have e1 := ih (by omega) _ _ _ _ m1 a1
    convert e1 using 1
    rw [sum_range_succ', add_assoc]
    congr 1
    rw [add_comm]
    congr 1
    · simp
    · apply sum_congr rfl
      intro t _
      have : n - (i + 1) + (t + 1) = n - i + t := by omega
      rw [this, pow_succ]
      ring

theorem pw_inv (W : Nat) (z : I) (h0 : 0 ≤ bv z.hi) :
    ∀ (i : Nat) (t : BF) (T : ℝ), 0 ≤ T → T ≤ bv t →
      T * (bv z.hi) ^ i ≤ bv (twoAtanh.pw W z i t) := by
  intro i
  induction i with
  | zero => intro t T _ hT; rw [twoAtanh.pw.eq_1]; simpa using hT
  | succ i ih =>
    intro t T hT0 hT
    rw [twoAtanh.pw.eq_2]
    have hm := mulDir_up W t z.hi
    have h1 : T * bv z.hi ≤ bv (mulDir W false t z.hi) :=
      le_trans (mul_le_mul_of_nonneg_right hT h0) hm
    have := ih _ _ (mul_nonneg hT0 h0) h1
    calc T * bv z.hi ^ (i + 1) = T * bv z.hi * bv z.hi ^ i := by rw [pow_succ]; ring
      _ ≤ _ := this

theorem S_alt (y : ℝ) (n : ℕ) :
    (0:ℝ) + ∑ t ∈ Finset.range n, y * (y * y) ^ t / ((2 * (n - n + t) + 1 : ℕ) : ℝ) = S y n := by
  unfold S
  rw [zero_add]
  apply Finset.sum_congr rfl
  intro t _
  have : n - n + t = t := by omega
  rw [this, ← pow_two, ← pow_mul, pow_succ]
  ring

theorem enc_zero : Enc (I.ofInt 0) 0 := by simpa using enc_ofInt 0

theorem twoAtanh_sound (W : Nat) (z : I) (n : Nat) (y : ℝ) (hz : Enc z y) (h0 : 0 ≤ bv z.lo)
    (hy : y ≤ 1 / 2) : Enc (twoAtanh W z n) (L2 y) := by
  have hy0 : 0 ≤ y := le_trans h0 hz.1
  have hh0 : 0 ≤ bv z.hi := le_trans hy0 hz.2
  unfold twoAtanh
  simp only []
  have hz2 := mul_sound W z z y y hz hz
  have hs := go_inv W n (I.mul W z z) (y * y) hz2 n (le_refl _) z (I.ofInt 0) y 0 hz enc_zero
  rw [S_alt] at hs
  generalize twoAtanh.go W n (I.mul W z z) n z (I.ofInt 0) = s at hs
  have hpw := pw_inv W z hh0 (2 * n + 1) (BF.ofInt 1) 1 (by norm_num) (by rw [bv_ofInt]; norm_num)
  rw [one_mul] at hpw
  generalize twoAtanh.pw W z (2 * n + 1) (BF.ofInt 1) = zt at hpw
  have hrem := mulDir_up W zt ⟨225, -2⟩
  have e225 : bv ⟨225, -2⟩ = 9 / 4 := by unfold bv; norm_num
  rw [e225] at hrem
  generalize mulDir W false zt ⟨225, -2⟩ = rem at hrem
  have hrem2 := mulDir_up W rem (BF.ofInt 2)
  rw [bv_ofInt] at hrem2
  push_cast at hrem2
  generalize mulDir W false rem (BF.ofInt 2) = rem2 at hrem2
  have hs2 := mul_sound W s (I.ofInt 2) _ _ hs (enc_ofInt 2)
  push_cast at hs2
  generalize I.mul W s (I.ofInt 2) = s2 at hs2
  have hadd := (addDir_sound W s2.hi rem2).2
  have hpow : y ^ (2 * n + 1) ≤ bv zt :=
    le_trans (pow_le_pow_left₀ hy0 hz.2 _) hpw
  have hyp : 0 ≤ y ^ (2 * n + 1) := by positivity
  constructor
  · show bv s2.lo ≤ L2 y
    have := L2_lower y hy0 (by linarith) n
    linarith [hs2.1]
  · show L2 y ≤ bv (addDir W false s2.hi rem2)
    have := L2_upper' y hy0 hy n
    linarith [hs2.2]

theorem divPos_lo_nonneg (W : Nat) (a b : I) (ha : 0 ≤ a.lo.m) (hb : 0 < b.hi.m) :
    0 ≤ (I.divPos W a b).lo.m := by
  rw [divPos_eq, if_pos ((sgn_nonneg_iff _).2 ha)]
  exact divDir_nonneg W true _ _ ha hb

theorem enc_inv_nat (W : Nat) (n : ℤ) (hn : 0 < n) :
    Enc (I.divPos W (I.ofInt 1) (I.ofInt n)) (1 / (n : ℝ)) ∧
      0 ≤ bv (I.divPos W (I.ofInt 1) (I.ofInt n)).lo := by
  constructor
  · have hpos : 0 < bv (I.ofInt n).lo := by
      show 0 < bv (BF.ofInt n); rw [bv_ofInt]; exact_mod_cast hn
    have := divPos_sound W (I.ofInt 1) (I.ofInt n) _ _ (enc_ofInt 1) (enc_ofInt n) hpos
    simpa using this
  · rw [bv_nonneg_iff]
    apply divPos_lo_nonneg
    · show (0:ℤ) ≤ 1; decide
    · exact hn

theorem ln2I_sound (W : Nat) : Enc (ln2I W) (Real.log 2) := by
  unfold ln2I
  obtain ⟨h1, h2⟩ := enc_inv_nat W 3 (by decide)
  have := twoAtanh_sound W _ (atanhTerms W) (1 / 3) (by simpa using h1) h2 (by norm_num)
  rwa [L2_third] at this

theorem ln10I_sound (W : Nat) : Enc (ln10I W) (Real.log 10) := by
  unfold ln10I
  obtain ⟨h1, h2⟩ := enc_inv_nat W 9 (by decide)
  have t := twoAtanh_sound W _ (atanhTerms W) (1 / 9) (by simpa using h1) h2 (by norm_num)
  rw [L2_ninth] at t
  have m := mul_sound W (I.ofInt 3) (ln2I W) _ _ (enc_ofInt 3) (ln2I_sound W)
  have a := add_sound W _ _ _ _ m t
  convert a using 1
  push_cast
  ring

theorem ln2C_eq (W : Nat) : ln2C W = ln2I W := by
  unfold ln2C
  split
  · rename_i h
    have : W = W0 := by simpa using h
    subst this; rfl
  · rfl

theorem ln10C_eq (W : Nat) : ln10C W = ln10I W := by
  unfold ln10C
  split
  · rename_i h
    have : W = W0 := by simpa using h
    subst this; rfl
  · rfl

def directF (W : Nat) (u : I) : I :=
  let z := I.divPos W (I.sub W u (I.ofInt 1)) (I.add W u (I.ofInt 1))
  if z.lo.sgn ≥ 0 then twoAtanh W z (atanhTerms W)
  else I.neg (twoAtanh W (I.neg z) (atanhTerms W))

theorem enc_neg (a : I) (r : ℝ) (h : Enc a r) : Enc (I.neg a) (-r) := by
  unfold Enc I.neg
  rw [bv_neg, bv_neg]
  exact ⟨neg_le_neg h.2, neg_le_neg h.1⟩

theorem sub_sound (W : Nat) (a b : I) (r s : ℝ) (hr : Enc a r) (hs : Enc b s) :
    Enc (I.sub W a b) (r - s) := by
  rw [sub_eq_add_neg]; exact add_sound W a (I.neg b) r (-s) hr (enc_neg b s hs)

theorem direct_sound (W : Nat) (hW : 1 ≤ W) (u : I) (v : ℝ) (hu : Enc u v) (hv1 : 1 / 2 ≤ v)
    (hv2 : v ≤ 2) (hNS : 1 ≤ bv u.lo ∨ u.lo = u.hi) : Enc (directF W u) (Real.log v) := by
  have hv0 : 0 < v := by linarith only [hv1]
  have hlo : 1 / 2 ≤ bv u.lo := by
    rcases hNS with h | h
    · linarith only [h]
    · have := hu.2; rw [← h] at this; linarith only [this, hu.1, hv1]
  have e1 : bv (BF.ofInt 1) = 1 := by rw [bv_ofInt, Int.cast_one]
  have hs := sub_sound W u (I.ofInt 1) v 1 hu enc_one
  have ht := add_sound W u (I.ofInt 1) v 1 hu enc_one
  have htlo : 0 < (I.add W u (I.ofInt 1)).lo.m :=
    (addDir_down_sign W u.lo (BF.ofInt 1) (by linarith only [hlo, e1])).2 hW (by linarith only [hlo, e1])
  have hthi : 0 < (I.add W u (I.ofInt 1)).hi.m := by
    rw [← bv_pos_iff]; linarith only [ht.2, hv0]
  have hz := divPos_sound W _ _ _ _ hs ht ((bv_pos_iff _).2 htlo)
  -- the argument of atanh lies in `[-1/3, 1/3]`
  have hy1 : (v - 1) / (v + 1) ≤ 1 / 3 := by
    rw [div_le_iff₀ (by linarith only [hv0])]; linarith only [hv2]
  have hy2 : -(1 / 3) ≤ (v - 1) / (v + 1) := by
    rw [le_div_iff₀ (by linarith only [hv0])]; linarith only [hv1]
  rw [log_eq_L2 v hv0]
  unfold directF
  simp only []
  split_ifs with hsg
  · exact twoAtanh_sound W _ _ _ hz ((bv_nonneg_iff _).2 ((sgn_nonneg_iff _).1 hsg))
      (by linarith only [hy1])
  · -- the quotient has a negative lower end: then `u` is a point below `1` and the whole quotient is `≤ 0`
    have hslo : (I.sub W u (I.ofInt 1)).lo.m < 0 := by
      by_contra hc
      exact hsg ((sgn_nonneg_iff _).2 (divPos_lo_nonneg W _ _ (by omega) hthi))
    have hult : bv u.lo < 1 := by
      by_contra hc
      have := (addDir_down_sign W u.lo (BF.ofInt 1).neg
        (by rw [bv_neg, e1]; linarith only [hc])).1
      exact absurd hslo (not_lt.2 this)
    have hpt : u.lo = u.hi := hNS.resolve_left (not_le.2 hult)
    have hshi : (I.sub W u (I.ofInt 1)).hi.m ≤ 0 :=
      addDir_up_nonpos W u.hi (BF.ofInt 1).neg (by rw [← hpt, bv_neg, e1]; linarith only [hult])
    have hzhi : (I.divPos W (I.sub W u (I.ofInt 1)) (I.add W u (I.ofInt 1))).hi.m ≤ 0 := by
      rw [divPos_eq, if_neg (by rw [sgn_nonneg_iff]; omega), if_pos ((sgn_nonpos_iff _).2 hshi)]
      exact divDir_nonpos W false _ _ hshi hthi
    have h0 : 0 ≤ bv (I.neg (I.divPos W (I.sub W u (I.ofInt 1)) (I.add W u (I.ofInt 1)))).lo := by
      show 0 ≤ bv (BF.neg _)
      rw [bv_neg]; exact neg_nonneg.2 ((bv_nonpos_iff _).2 hzhi)
    have := enc_neg _ _ (twoAtanh_sound W _ (atanhTerms W) _ (enc_neg _ _ hz) h0 (by linarith only [hy2]))
    rwa [L2_neg, neg_neg] at this

theorem lnPoint_eq (W : Nat) (x : BF) : lnPoint W x =
    if (BF.mk 5 (-1)).le x && x.le (BF.ofInt 2) then directF W (I.point x) else
    let k := x.adj
    let m10 : BF := ⟨x.m, x.e - k⟩
    let j : Nat := if m10.lt (BF.ofInt 2) then 0 else if m10.lt (BF.ofInt 4) then 1
      else if m10.lt (BF.ofInt 8) then 2 else 3
    let u : I := I.divPos W (I.point m10) (I.ofInt (2 ^ j))
    I.add W (I.add W (directF W u) (I.mul W (I.ofInt j) (ln2C W))) (I.mul W (I.ofInt k) (ln10C W)) :=
  rfl

theorem bv_m10 (x : BF) (k : ℤ) : bv ⟨x.m, x.e - k⟩ = bv x / (10:ℝ) ^ k := by
  unfold bv
  simp only []
  rw [zpow_sub₀ ten_ne_zero]
  ring

theorem m10_spec (x : BF) (hx : 0 < x.m) :
    1 ≤ bv ⟨x.m, x.e - x.adj⟩ ∧ bv ⟨x.m, x.e - x.adj⟩ < 10 ∧
      bv x = bv ⟨x.m, x.e - x.adj⟩ * (10:ℝ) ^ x.adj ∧ x.e - x.adj ≤ 0 := by
  obtain ⟨b1, b2⟩ := mag_bounds x hx.ne'
  rw [← bv_of_nonneg x hx.le] at b1 b2
  rw [zpow_add_one₀ ten_ne_zero] at b2
  have hk := p10_pos x.adj
  rw [bv_m10]
  refine ⟨(one_le_div hk).2 b1, (div_lt_iff₀ hk).2 (by linarith only [b2]), (div_mul_cancel₀ _ hk.ne').symm, ?_⟩
  have := ndigits_pos x.m.natAbs
  rw [BF.adj, fastDigits_eq]
  omega

/-- up to three halvings bring a value of `[1, 10)` into `[1, 2]` -/
theorem halving_spec (t : BF) (h1 : 1 ≤ bv t) (h10 : bv t < 10) :
    (2:ℝ) ^ (if t.lt (BF.ofInt 2) then 0 else if t.lt (BF.ofInt 4) then 1
      else if t.lt (BF.ofInt 8) then 2 else 3) ≤ bv t ∧
    bv t ≤ 2 * (2:ℝ) ^ (if t.lt (BF.ofInt 2) then 0 else if t.lt (BF.ofInt 4) then 1
      else if t.lt (BF.ofInt 8) then 2 else 3) := by
  have l2 : t.lt (BF.ofInt 2) = true ↔ bv t < 2 := by rw [lt_iff, bv_ofInt]; norm_num
  have l4 : t.lt (BF.ofInt 4) = true ↔ bv t < 4 := by rw [lt_iff, bv_ofInt]; norm_num
  have l8 : t.lt (BF.ofInt 8) = true ↔ bv t < 8 := by rw [lt_iff, bv_ofInt]; norm_num
  split_ifs with c2 c4 c8
  · norm_num; exact ⟨h1, (l2.1 c2).le⟩
  · norm_num; exact ⟨not_lt.1 (mt l2.2 c2), (l4.1 c4).le⟩
  · norm_num; exact ⟨not_lt.1 (mt l4.2 c4), (l8.1 c8).le⟩
  · norm_num; exact ⟨not_lt.1 (mt l8.2 c8), by linarith only [h10]⟩

theorem reduced_sound (W : Nat) (hW : 1 ≤ W) (t : BF) (j : ℕ) (hpos : 0 < t.m) (he : t.e ≤ 0)
    (j1 : (2:ℝ) ^ j ≤ bv t) (j2 : bv t ≤ 2 * (2:ℝ) ^ j) :
    Enc (directF W (I.divPos W (I.point t) (I.ofInt (2 ^ j)))) (Real.log (bv t / (2:ℝ) ^ j)) := by
  have hp2 : (0:ℝ) < (2:ℝ) ^ j := by positivity
  have hcast : (((2:ℤ) ^ j : ℤ) : ℝ) = (2:ℝ) ^ j := by rw [Int.cast_pow, Int.cast_ofNat]
  have e2 : bv (BF.ofInt ((2:ℤ) ^ j)) = (2:ℝ) ^ j := by rw [bv_ofInt, hcast]
  have hu := divPos_sound W (I.point t) (I.ofInt ((2:ℤ) ^ j)) _ _ (enc_point t)
    (enc_ofInt ((2:ℤ) ^ j)) (by show 0 < bv (BF.ofInt ((2:ℤ) ^ j)); rw [e2]; exact hp2)
  rw [hcast] at hu
  have hv1 : 1 ≤ bv t / (2:ℝ) ^ j := (one_le_div hp2).2 j1
  have hulo : 1 ≤ bv (I.divPos W (I.point t) (I.ofInt ((2:ℤ) ^ j))).lo := by
    rw [divPos_eq, if_pos ((sgn_nonneg_iff _).2 (show 0 ≤ (I.point t).lo.m from hpos.le))]
    exact divDir_down_ge_one W hW t _ hpos (show (0:ℤ) < (2:ℤ) ^ j by positivity) he
      (by show bv (BF.ofInt ((2:ℤ) ^ j)) ≤ bv t; rw [e2]; exact j1)
  exact direct_sound W hW _ _ hu (by linarith only [hv1]) ((div_le_iff₀ hp2).2 j2) (Or.inl hulo)

theorem lnPoint_sound (W : Nat) (hW : 1 ≤ W) (x : BF) (hx : 0 < x.m) :
    Enc (lnPoint W x) (Real.log (bv x)) := by
  rw [lnPoint_eq]
  split
  · rename_i hc
    rw [Bool.and_eq_true] at hc
    have h1 := (le_iff _ _).1 hc.1
    have h2 := (le_iff _ _).1 hc.2
    rw [show bv ⟨5, -1⟩ = 1 / 2 by unfold bv; norm_num] at h1
    rw [bv_ofInt, Int.cast_ofNat] at h2
    exact direct_sound W hW (I.point x) (bv x) (enc_point x) h1 h2 (Or.inr rfl)
  · simp only []
    obtain ⟨hm1, hm2, hxv, hme⟩ := m10_spec x hx
    have hd := reduced_sound W hW ⟨x.m, x.e - x.adj⟩ _ hx hme (halving_spec _ hm1 hm2).1
      (halving_spec _ hm1 hm2).2
    generalize (if (BF.mk x.m (x.e - x.adj)).lt (BF.ofInt 2) then 0
      else if (BF.mk x.m (x.e - x.adj)).lt (BF.ofInt 4) then 1
      else if (BF.mk x.m (x.e - x.adj)).lt (BF.ofInt 8) then 2 else 3) = j at hd ⊢
    have hv0 : 0 < bv ⟨x.m, x.e - x.adj⟩ / (2:ℝ) ^ j := by positivity
    generalize (⟨x.m, x.e - x.adj⟩ : BF) = m10 at hm1 hxv hd hv0 ⊢
    have c2 := mul_sound W (I.ofInt (j : ℤ)) (ln2C W) _ _ (enc_ofInt _) (by rw [ln2C_eq]; exact ln2I_sound W)
    have c10 := mul_sound W (I.ofInt x.adj) (ln10C W) _ _ (enc_ofInt _)
      (by rw [ln10C_eq]; exact ln10I_sound W)
    convert add_sound W _ _ _ _ (add_sound W _ _ _ _ hd c2) c10 using 1
    have hp2 : (0:ℝ) < (2:ℝ) ^ j := by positivity
    rw [hxv, ← div_mul_cancel₀ (bv m10) hp2.ne', Real.log_mul (by positivity) (p10_pos _).ne',
      Real.log_mul hv0.ne' hp2.ne', Real.log_pow, Real.log_zpow, div_mul_cancel₀ _ hp2.ne']
    push_cast
    ring

end Apd.C12IL
