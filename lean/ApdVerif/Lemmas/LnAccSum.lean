import ApdVerif.Lemmas.LnAccScale
import ApdVerif.Lemmas.LnAccHalley
/-!
# `Ln` over the reals: the sum `F = (t + A)(1+δ)` of a path against `R = L + e·ln 10`

`t` is the series sum or the last Halley iterate (close to `L = ln z`), `A` the rounded adjustment (close to
`e·ln 10`, `e` the rescaling exponent), `δ` the rounding of the addition.  Each path ends in a bound
`|F - R| ≤ a + κ|F|`.  `E` (in the end `serE`) is the relative error of the series branch in units of `u`.
-/
namespace Apd.LnAcc
open Apd.ExpAcc

/-- relative error of the series branch against `ln z`, in units of `u`: by `series_arg` the computed argument has
`|2 atanh ŷ| ≤ 1.017|ln z|` and `|2 atanh ŷ - ln z| ≤ 3.38u|ln z|`, and the loop adds `serG` relative to the former -/
noncomputable def serE (u : ℝ) (N : Nat) : ℝ := 1017 / 1000 * serG u N + 338 / 100

theorem pow_small (u : ℝ) (N : ℕ) (hu0 : 0 ≤ u) (hNu : (N : ℝ) * u ≤ 7 / 100) : (1 + u) ^ N ≤ 100 / 93 := by
  have h1 : (1 + u) ^ N ≤ Real.exp u ^ N := pow_le_pow_left₀ (by linarith) (by linarith [Real.add_one_le_exp u]) N
  rw [← Real.exp_nat_mul] at h1
  have h2 : Real.exp ((N : ℝ) * u) ≤ Real.exp (7 / 100) := Real.exp_le_exp.2 hNu
  have h3 : Real.exp (7 / 100 : ℝ) ≤ 100 / 93 := by
    have := Real.exp_bound_div_one_sub_of_interval (x := 7 / 100) (by norm_num) (by norm_num)
    norm_num at this ⊢; linarith
  linarith

theorem serE_ge (u : ℝ) (N : ℕ) (hu0 : 0 ≤ u) : 338 / 100 ≤ serE u N := by
  have : (0 : ℝ) ≤ (1 + u) ^ N * ((N : ℝ) + 1 + 1 / 99) := by positivity
  unfold serE serG; linarith only [this]

/-- the relative error `ε = u((1+u)E + 1)` of the sum of a series path, turned into a bound relative to the sum
itself: `ε/(1-ε) ≤ (N+5)/16 · 20u`, since `ε ≤ 21/200` -/
theorem serE_rel_self (u : ℝ) (N : ℕ) (hu0 : 0 ≤ u) (hu1 : u ≤ 1 / 200) (hNu : (N : ℝ) * u ≤ 7 / 100) :
    u * ((1 + u) * serE u N + 1) ≤ 21 / 200 ∧
    u * ((1 + u) * serE u N + 1) / (1 - u * ((1 + u) * serE u N + 1)) ≤ ((N : ℝ) + 5) / 16 * (20 * u) := by
  have hN0 : (0 : ℝ) ≤ N := by positivity
  have hE0 : 0 ≤ serE u N := le_trans (by norm_num) (serE_ge u N hu0)
  have hE : serE u N ≤ 10936 / 10000 * (N : ℝ) + 44918 / 10000 := by
    have : (1 + u) ^ N * ((N : ℝ) + 1 + 1 / 99) ≤ 100 / 93 * ((N : ℝ) + 1 + 1 / 99) :=
      mul_le_mul_of_nonneg_right (pow_small u N hu0 hNu) (by positivity)
    unfold serE serG; linarith only [this]
  have hA : (1 + u) * serE u N + 1 ≤ 11 / 10 * (N : ℝ) + 552 / 100 := by
    have : (1 + u) * serE u N ≤ (1 + 1 / 200) * (10936 / 10000 * (N : ℝ) + 44918 / 10000) :=
      mul_le_mul (by linarith only [hu1]) hE hE0 (by norm_num)
    linarith only [this, hN0]
  generalize (1 + u) * serE u N + 1 = A at hA ⊢
  have h2 : u * A ≤ 11 / 10 * ((N : ℝ) * u) + 552 / 100 * u :=
    (mul_le_mul_of_nonneg_left hA hu0).trans_eq (by ring)
  have hε : u * A ≤ 21 / 200 := by linarith only [h2, hNu, hu1]
  refine ⟨hε, ?_⟩
  rw [div_le_iff₀ (by linarith only [hε])]
  -- `1 - ε ≥ 179/200`
  have h1 : ((N : ℝ) + 5) / 16 * (20 * u) * (179 / 200) ≤ ((N : ℝ) + 5) / 16 * (20 * u) * (1 - u * A) :=
    mul_le_mul_of_nonneg_left (by linarith only [hε]) (by positivity)
  have h3 : ((N : ℝ) + 5) / 16 * (20 * u) * (179 / 200) =
      179 / 160 * ((N : ℝ) * u) + 895 / 160 * u := by ring
  linarith only [h1, h2, h3, hu0, mul_nonneg hN0 hu0]

/-- the adjustment `A = e·T10·(1+δ)` against `e·ln 10`, with `|T10 - ln 10| ≤ 1.001u`:
`1.001·1.005 + ln 10 ≤ 1.0061 + 2.3081 = 3.3142` -/
theorem adjust_err (e T10 δm u : ℝ) (hu0 : 0 ≤ u) (hu1 : u ≤ 1 / 200) (hδ : |δm| ≤ u)
    (hT : |T10 - Real.log 10| ≤ 1001 / 1000 * u) :
    |e * T10 * (1 + δm) - e * Real.log 10| ≤ 33142 / 10000 * |e| * u := by
  obtain ⟨l1, l2⟩ := ln10_bounds
  have h := sum_err (A := 0) (B := 0) (b := 0) (F := T10 * (1 + δm)) (R := Real.log 10)
    (by rw [add_zero]) (add_zero _).symm hT (by simp) hδ
  rw [abs_of_nonneg (by linarith : (0 : ℝ) ≤ Real.log 10)] at h
  have huu := mul_le_mul_of_nonneg_left hu1 hu0
  have hul := mul_le_mul_of_nonneg_left l2 hu0
  have h3 : |T10 * (1 + δm) - Real.log 10| ≤ 33142 / 10000 * u := by linarith only [h, huu, hul, hu0]
  have id : e * T10 * (1 + δm) - e * Real.log 10 = e * (T10 * (1 + δm) - Real.log 10) := by ring
  rw [id, abs_mul]
  exact (mul_le_mul_of_nonneg_left h3 (abs_nonneg _)).trans_eq (by ring)

theorem log_near_one (z w δ u : ℝ) (hu1 : u ≤ 1 / 200) (hδ : |δ| ≤ u) (hw : w = (z - 1) * (1 + δ))
    (hw10 : |w| ≤ 1 / 10) : |Real.log z| ≤ 112 / 1000 := by
  have hz1 := abs_sub_one_of_rounded hu1 hδ hw hw10
  have := abs_log_sub_le z 1 (8994 / 10000) (by norm_num) (by linarith only [(abs_le.1 hz1).1]) (by norm_num)
  rw [Real.log_one, sub_zero] at this
  calc |Real.log z| ≤ |z - 1| / (8994 / 10000) := this
    _ ≤ (1006 / 10000) / (8994 / 10000) := div_le_div_of_nonneg_right hz1 (by norm_num)
    _ ≤ 112 / 1000 := by norm_num

theorem series_sum_rel (L R e t A F E u δf : ℝ) (hu0 : 0 ≤ u) (hE : 338 / 100 ≤ E)
    (hR : R = L + e * Real.log 10) (hL : |L| ≤ 112 / 1000) (he : e = 0 ∨ 1 ≤ |e|)
    (ht : |t - L| ≤ u * |L| * E) (hA : |A - e * Real.log 10| ≤ 33142 / 10000 * |e| * u)
    (hδf : |δf| ≤ u) (hF : F = (t + A) * (1 + δf)) :
    |F - R| ≤ u * ((1 + u) * E + 1) * |R| := by
  obtain ⟨l1, l2⟩ := ln10_bounds
  have hE0 : 0 ≤ E := le_trans (by norm_num) hE
  -- `E|L| + 3.3142|e| ≤ E|R|`: nothing to show for `e = 0`, and for `|e| ≥ 1` the target is at least `2.18|e|`
  have key : |L| * E + 33142 / 10000 * |e| ≤ E * |R| := by
    rcases he with h0 | h1
    · rw [hR, h0, zero_mul, add_zero, abs_zero, mul_zero, add_zero, mul_comm]
    · have hRge : |e| * Real.log 10 - |L| ≤ |R| := by
        have h3 := abs_sub_abs_le_abs_sub (e * Real.log 10) (-L)
        rw [abs_neg, sub_neg_eq_add, abs_mul, abs_of_nonneg (by linarith : (0 : ℝ) ≤ Real.log 10)] at h3
        rw [hR, add_comm]; exact h3
      have h4 : |e| * (22979 / 10000) ≤ |e| * Real.log 10 := mul_le_mul_of_nonneg_left l1 (abs_nonneg _)
      have h5 : E * (|e| * (22979 / 10000) - 112 / 1000) ≤ E * |R| :=
        mul_le_mul_of_nonneg_left (by linarith only [hRge, h4, hL]) hE0
      have h6 : |L| * E ≤ 112 / 1000 * E := mul_le_mul_of_nonneg_right hL hE0
      have h7 : 338 / 100 * |e| ≤ E * |e| := mul_le_mul_of_nonneg_right hE (abs_nonneg _)
      have h8 : E * 1 ≤ E * |e| := mul_le_mul_of_nonneg_left h1 hE0
      linarith only [h5, h6, h7, h8, mul_nonneg hE0 (abs_nonneg e)]
  have hb := sum_err hF hR ht hA hδf
  have h2 : (u * |L| * E + 33142 / 10000 * |e| * u) * (1 + u) ≤ u * (E * |R|) * (1 + u) :=
    mul_le_mul_of_nonneg_right
      ((mul_le_mul_of_nonneg_left key hu0).trans_eq' (by ring)) (by linarith only [hu0])
  linarith only [hb, h2]

/-- `N` is the number of terms added, `20u = 10^-P` -/
theorem series_sum_real (z w δw R e t A F δf u : ℝ) (N : ℕ) (hu0 : 0 ≤ u) (hu1 : u ≤ 1 / 200)
    (hNu : (N : ℝ) * u ≤ 7 / 100) (hδw : |δw| ≤ u) (hw : w = (z - 1) * (1 + δw)) (hw10 : |w| ≤ 1 / 10)
    (hR : R = Real.log z + e * Real.log 10) (he : e = 0 ∨ 1 ≤ |e|)
    (ht : |t - Real.log z| ≤ u * |Real.log z| * serE u N)
    (hA : |A - e * Real.log 10| ≤ 33142 / 10000 * |e| * u) (hδf : |δf| ≤ u) (hF : F = (t + A) * (1 + δf)) :
    |F - R| ≤ ((N : ℝ) + 5) / 16 * (20 * u) * |F| := by
  have hE := serE_ge u N hu0
  have hε0 : 0 ≤ u * ((1 + u) * serE u N + 1) :=
    mul_nonneg hu0 (add_nonneg (mul_nonneg (by linarith only [hu0]) (le_trans (by norm_num) hE)) zero_le_one)
  have hrel := series_sum_rel _ R e t A F _ u δf hu0 hE hR
    (log_near_one z w δw u hu1 hδw hw hw10) he ht hA hδf hF
  obtain ⟨hε, hK⟩ := serE_rel_self u N hu0 hu1 hNu
  generalize u * ((1 + u) * serE u N + 1) = ε at hrel hε hK hε0
  have hs := err_to_self (a := 0) (by rw [zero_add]; exact hrel) hε0
  rw [zero_add] at hs
  have h1 : 0 < 1 - ε := by linarith only [hε]
  calc |F - R| ≤ ε * |F| / (1 - ε) := by rw [le_div_iff₀ h1]; linarith only [hs]
    _ = ε / (1 - ε) * |F| := by ring
    _ ≤ _ := mul_le_mul_of_nonneg_right hK (abs_nonneg _)

/-- supplies the hypothesis `hξ` below from a bound on `u` -/
theorem xi_le (u b : ℝ) (hu0 : 0 ≤ u) (hu1 : u ≤ b) : 266 * u + 23300 * u ^ 2 ≤ 266 * b + 23300 * b ^ 2 := by
  linarith only [pow_le_pow_left₀ hu0 hu1 2, hu1]

/-- the error of the inner `Exp` in units of `u`: `13.4551·(u/5)/20 + (200/199)·u ≤ 1.14u` -/
theorem omegaE_le (p : Nat) (hp : 3 ≤ p) : omegaE p ≤ 114 / 100 * uR p := by
  unfold omegaE uL
  have hu1 := uR_small p hp
  have hu0 := uR_pos p
  have h1 : (10 : ℝ) ^ (-(p : ℤ)) = uR p / 5 := by
    rw [uR_eq, zpow_neg, zpow_natCast]; field_simp
  rw [h1]
  have h2 := (v_bounds (uR p) hu0.le hu1).2
  linarith

/-- the last iterate: `|t - L| ≤ u(3.495 + ξb)`, from the bound `halB` of the loop, `|t| ≤ 3` and `|L| ≤ ln 10 ≤ 2.3081`:
first `|t| ≤ 2.3431`, then `1.14 + 1.00503·2.3431 ≤ 3.495` -/
theorem halley_iter_real (L t : ℝ) (p : ℕ) (hp : 3 ≤ p) (ξb : ℝ) (hξ : 266 * uR p + 23300 * uR p ^ 2 ≤ ξb)
    (hξb : ξb ≤ 2) (ht : |t - L| ≤ halB p t) (ht3 : |t| ≤ 3) (hL : |L| ≤ 23081 / 10000) :
    |t - L| ≤ uR p * (34950 / 10000 + ξb) := by
  have hu0 := (uR_pos p).le
  have hu1 := uR_small p hp
  have hω := omegaE_le p hp
  unfold halB at ht
  generalize uR p = u at *
  generalize omegaE p = ωE at *
  have h1 : u * (100503 / 100000 * |t| + 266 * u + 23300 * u ^ 2) ≤ u * (100503 / 100000 * 3 + 2) :=
    mul_le_mul_of_nonneg_left (by linarith only [hξ, hξb, ht3]) hu0
  have htabs : |t| ≤ 23431 / 10000 := by
    linarith only [abs_sub_abs_le_abs_sub t L, ht, h1, hω, hu1, hL]
  have h2 : u * (100503 / 100000 * |t| + 266 * u + 23300 * u ^ 2) ≤ u * (23550 / 10000 + ξb) :=
    mul_le_mul_of_nonneg_left (by linarith only [hξ, htabs]) hu0
  linarith only [ht, h2, hω]

/-- the sum `F = (t + A)(1+δf)` of the Halley path against `R = L + e·ln 10`: `|F - R| ≤ C·u + (5/2)·u·|F|`,
`C` from a bound `ξb` on `266u + 23300u²`.  `6.8582 ≥ (3.495 + 3.329)·1.005`, `3.329 = 1.4423·2.3081` being the
share of `|L|` in `3.3142|e| ≤ 1.4423(|R| + |L|)` -/
theorem halley_sum_real (L R e t A F : ℝ) (p : ℕ) (hp : 3 ≤ p) (δf ξb C : ℝ)
    (hξ : 266 * uR p + 23300 * uR p ^ 2 ≤ ξb) (hξb : ξb ≤ 2)
    (ht : |t - L| ≤ halB p t) (ht3 : |t| ≤ 3)
    (hL : |L| ≤ 23081 / 10000) (hR : R = L + e * Real.log 10)
    (hA : |A - e * Real.log 10| ≤ 33142 / 10000 * |e| * uR p)
    (hδf : |δf| ≤ uR p) (hF : F = (t + A) * (1 + δf))
    (hC : 10124 / 10000 * (68582 / 10000 + 1005 / 1000 * ξb) ≤ C) :
    |F - R| ≤ C * uR p + 5 / 2 * uR p * |F| := by
  obtain ⟨l1, l2⟩ := ln10_bounds
  have hu0 := (uR_pos p).le
  have hu1 := uR_small p hp
  have hξb0 : 0 ≤ ξb := le_trans (by positivity) hξ
  have hb := sum_err hF hR (halley_iter_real L t p hp ξb hξ hξb ht ht3 hL) hA hδf
  generalize uR p = u at *
  -- `|e|·ln 10 ≤ |R| + |L|`
  have he : 33142 / 10000 * |e| ≤ 14423 / 10000 * |R| + 33290 / 10000 := by
    have h3 : |e * Real.log 10| ≤ |R| + |L| := by
      have : e * Real.log 10 = R - L := by rw [hR]; ring
      rw [this]; exact abs_sub _ _
    rw [abs_mul, abs_of_nonneg (le_trans (by norm_num) l1)] at h3
    linarith only [h3, mul_le_mul_of_nonneg_left l1 (abs_nonneg e), abs_nonneg R, hL]
  have hR0 := abs_nonneg R
  have hX : 0 ≤ u * |R| := mul_nonneg hu0 hR0
  have hY : 0 ≤ u * ξb := mul_nonneg hu0 hξb0
  -- `|F - R| ≤ u·c0 + 2.4496·u·|R|`, `c0 = 6.8582 + 1.005 ξb`
  have hB : |F - R| ≤ u * (68582 / 10000 + 1005 / 1000 * ξb) + 24496 / 10000 * u * |R| := by
    have e1 : u * (34950 / 10000 + ξb) + 33142 / 10000 * |e| * u ≤
        u * (68240 / 10000 + ξb + 14423 / 10000 * |R|) := by
      linarith only [mul_le_mul_of_nonneg_left he hu0]
    have e2 := mul_le_mul e1 (by linarith only [hu1] : 1 + u ≤ 201 / 200) (by linarith only [hu0])
      (mul_nonneg hu0 (by linarith only [hR0, hξb0]))
    linarith only [hb, e2, hX, hY, hu0]
  have hs := err_to_self hB (by positivity)
  have hD : u * |F - R| ≤ 1 / 200 * |F - R| := mul_le_mul_of_nonneg_right hu1 (abs_nonneg _)
  have hCu := mul_le_mul_of_nonneg_right hC hu0
  have hXF : 0 ≤ u * |F| := mul_nonneg hu0 (abs_nonneg F)
  -- divide by `1 - 2.4496u ≥ 1/1.0124` (`u ≤ 1/200`): that is where `5/2` and `10124/10000` come from
  linarith only [hs, hD, hCu, hXF, abs_nonneg (F - R)]

end Apd.LnAcc
