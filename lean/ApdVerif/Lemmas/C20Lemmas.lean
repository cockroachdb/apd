import ApdVerif.Lemmas.OracleRat
/-!
# For C20: monotonicity of `roundQuot` in the numerator and of the rounding in the value, and the swap lemmas
behind commutativity of Add and Mul
-/
namespace Apd.C20L
open Apd Apd.Oracle

/-- `m'` is `Props.mirror m`, which is defined with the C20 statements; the equation `hm` is how the caller
says so (two `match` expressions written in two modules are not the same term) -/
theorem specAddOne_mirror (m : Mode) (n : Nat) (neg : Bool) (half : Ordering) (m' : Mode)
    (hm : m' = match m with | .floor => .ceiling | .ceiling => .floor | m => m) :
    specAddOne m' n (!neg) half = specAddOne m n neg half := by
  subst hm; cases m <;> simp [specAddOne]

theorem specAddOne_mono (m : Mode) (n : Nat) (neg : Bool) (x y D : Nat) (h : x ≤ y)
    (h1 : specAddOne m n neg (compare x D) = true) : specAddOne m n neg (compare y D) = true := by
  -- the decision is monotone along `lt`, `eq`, `gt`
  have up1 : specAddOne m n neg .lt = true → specAddOne m n neg .eq = true := by cases m <;> simp [specAddOne]
  have up2 : specAddOne m n neg .eq = true → specAddOne m n neg .gt = true := by cases m <;> simp [specAddOne]
  rcases Nat.lt_trichotomy y D with hy | hy | hy
  · rw [Nat.compare_eq_lt.2 hy]; rwa [Nat.compare_eq_lt.2 (by omega : x < D)] at h1
  · rw [Nat.compare_eq_eq.2 hy]
    rcases Nat.lt_or_ge x D with hx | hx
    · rw [Nat.compare_eq_lt.2 hx] at h1; exact up1 h1
    · rwa [Nat.compare_eq_eq.2 (by omega : x = D)] at h1
  · rw [Nat.compare_eq_gt.2 hy]
    rcases Nat.lt_trichotomy x D with hx | hx | hx
    · rw [Nat.compare_eq_lt.2 hx] at h1; exact up2 (up1 h1)
    · rw [Nat.compare_eq_eq.2 hx] at h1; exact up2 h1
    · rwa [Nat.compare_eq_gt.2 hx] at h1

theorem roundQuot_mono (mode : Mode) (neg : Bool) (N1 N2 D : Nat) (h : N1 ≤ N2) :
    (roundQuot mode neg N1 D).1 ≤ (roundQuot mode neg N2 D).1 := by
  have hdiv : N1 / D ≤ N2 / D := Nat.div_le_div_right h
  obtain ⟨a1, a2⟩ := roundQuot_bounds mode neg N1 D
  obtain ⟨b1, b2⟩ := roundQuot_bounds mode neg N2 D
  by_cases hlt : N1 / D < N2 / D
  · omega
  · have heq : N1 / D = N2 / D := by omega
    have e1 := Nat.div_add_mod N1 D
    have e2 := Nat.div_add_mod N2 D
    have hr : N1 % D ≤ N2 % D := by
      rw [heq] at e1
      omega
    by_cases hr1 : N1 % D = 0
    · have : (roundQuot mode neg N1 D).1 = N1 / D := by unfold roundQuot; simp [hr1]
      omega
    · have hr2 : N2 % D ≠ 0 := by omega
      unfold roundQuot
      simp only [beq_iff_eq, hr1, hr2, if_false]
      rw [heq]
      by_cases hs : specAddOne mode (N2 / D) neg (compare (2 * (N1 % D)) D) = true
      · have := specAddOne_mono mode (N2 / D) neg (2 * (N1 % D)) (2 * (N2 % D)) D (by omega) hs
        simp [hs, this]
      · simp only [hs, Bool.false_eq_true, if_false]
        split <;> simp

theorem scaleNum_mono (n1 n2 : Nat) (t : Int) (h : n1 ≤ n2) : scaleNum n1 t ≤ scaleNum n2 t := by
  unfold scaleNum; split
  · exact h
  · exact Nat.mul_le_mul_right _ h

/-- rounding (to the context's precision / Etiny) is monotone in the rounded VALUE -/
theorem round_mono_val (c : Ctx) (hc : c.WF) (neg : Bool) (n1 n2 : Nat) (e : Int) (h : n1 ≤ n2)
    (h1 : n1 ≠ 0) :
    ((roundAt c.mode neg n1 1 e (specQ c { neg := neg, num := n1, den := 1, e10 := e })).1 : ℚ) *
        (10 : ℚ) ^ (specQ c { neg := neg, num := n1, den := 1, e10 := e }) ≤
    ((roundAt c.mode neg n2 1 e (specQ c { neg := neg, num := n2, den := 1, e10 := e })).1 : ℚ) *
        (10 : ℚ) ^ (specQ c { neg := neg, num := n2, den := 1, e10 := e }) := by
  obtain ⟨hp1, hpe, hemax, hemin, hemin0⟩ := hc
  have h2 : n2 ≠ 0 := by omega
  have hv : qval n1 1 e ≤ qval n2 1 e := by
    unfold qval
    have : (n1 : ℚ) ≤ n2 := by exact_mod_cast h
    simp only [Nat.cast_one, div_one]
    exact mul_le_mul_of_nonneg_right this (tp e).le
  have hadj := adj_mono n1 1 n2 1 e e h1 (by decide) h2 (by decide) hv
  have hQ1 : specQ c { neg := neg, num := n1, den := 1, e10 := e } =
      max (adjRat n1 1 + e - (c.prec : Int) + 1) (c.emin - (c.prec : Int) + 1) := rfl
  have hQ2 : specQ c { neg := neg, num := n2, den := 1, e10 := e } =
      max (adjRat n2 1 + e - (c.prec : Int) + 1) (c.emin - (c.prec : Int) + 1) := rfl
  generalize specQ c { neg := neg, num := n1, den := 1, e10 := e } = Q1 at *
  generalize specQ c { neg := neg, num := n2, den := 1, e10 := e } = Q2 at *
  have hQ : Q1 ≤ Q2 := by omega
  rw [roundAt_eq, roundAt_eq]
  by_cases hQe : Q1 = Q2
  · subst hQe
    have := roundQuot_mono c.mode neg _ _ (scaleDen 1 (Q1 - e)) (scaleNum_mono n1 n2 (Q1 - e) h)
    exact mul_le_mul_of_nonneg_right (by exact_mod_cast this) (tp Q1).le
  · have hlt : Q1 < Q2 := by omega
    have hQ2' : Q2 = adjRat n2 1 + e - (c.prec : Int) + 1 := by omega
    -- the grid point G = 10^(adj2) separates the two roundings
    have hk : 0 ≤ adjRat n2 1 + e - Q1 := by omega
    have f1 : scaleNum n1 (Q1 - e) / scaleDen 1 (Q1 - e) < 10 ^ (adjRat n2 1 + e - Q1).toNat :=
      floor_lt n1 1 e Q1 _ h1 (by decide) (by omega)
    have f2 : 10 ^ (c.prec - 1) ≤ scaleNum n2 (Q2 - e) / scaleDen 1 (Q2 - e) :=
      floor_ge n2 1 e Q2 _ h2 (by decide) (by omega)
    obtain ⟨-, a2⟩ := roundQuot_bounds c.mode neg (scaleNum n1 (Q1 - e)) (scaleDen 1 (Q1 - e))
    obtain ⟨b1, -⟩ := roundQuot_bounds c.mode neg (scaleNum n2 (Q2 - e)) (scaleDen 1 (Q2 - e))
    have g1 : ((roundQuot c.mode neg (scaleNum n1 (Q1 - e)) (scaleDen 1 (Q1 - e))).1 : ℚ) ≤ (10 : ℚ) ^ (adjRat n2 1 + e - Q1) := by
      rw [← zpow_toNat _ hk]
      have : (roundQuot c.mode neg (scaleNum n1 (Q1 - e)) (scaleDen 1 (Q1 - e))).1 ≤ 10 ^ (adjRat n2 1 + e - Q1).toNat := by omega
      exact_mod_cast this
    have g2 : (10 : ℚ) ^ (((c.prec - 1 : ℕ) : Int)) ≤ ((roundQuot c.mode neg (scaleNum n2 (Q2 - e)) (scaleDen 1 (Q2 - e))).1 : ℚ) := by
      rw [← zpow_ofNat]
      have : 10 ^ (c.prec - 1) ≤ (roundQuot c.mode neg (scaleNum n2 (Q2 - e)) (scaleDen 1 (Q2 - e))).1 := by omega
      exact_mod_cast this
    calc ((roundQuot c.mode neg (scaleNum n1 (Q1 - e)) (scaleDen 1 (Q1 - e))).1 : ℚ) * (10 : ℚ) ^ Q1
        ≤ (10 : ℚ) ^ (adjRat n2 1 + e - Q1) * (10 : ℚ) ^ Q1 := mul_le_mul_of_nonneg_right g1 (tp Q1).le
      _ = (10 : ℚ) ^ (adjRat n2 1 + e) := by rw [← zpow_add₀ ten_ne]; congr 1; omega
      _ = (10 : ℚ) ^ (((c.prec - 1 : ℕ) : Int)) * (10 : ℚ) ^ Q2 := by
          rw [← zpow_add₀ ten_ne]; congr 1; omega
      _ ≤ _ := mul_le_mul_of_nonneg_right g2 (tp Q2).le

theorem isNaN_of_finite (x : Dec) (hx : x.form = .finite) : x.isNaN = false := by
  simp [Dec.isNaN, hx]

theorem checkXs2_none (a b : Int) (h : checkXs [a, b] = none) : checkXs [b, a] = none := by
  -- `checkXs … = none` bounds every member, and the two lists have the same members
  rw [checkXs_none_iff] at h ⊢
  intro x hx
  exact h x (by simp only [List.mem_cons, List.not_mem_nil, or_false] at hx ⊢; exact hx.symm)

theorem checkXs2_comm (a b : Int)
    (h : ¬ (a > MaxExponent ∧ b < MinExponent) ∧ ¬ (b > MaxExponent ∧ a < MinExponent)) :
    checkXs [a, b] = checkXs [b, a] := by
  simp only [MaxExponent, MinExponent] at h
  by_cases h1 : a > 100000 <;> by_cases h2 : a < -100000 <;> by_cases h3 : b > 100000 <;>
    by_cases h4 : b < -100000 <;> simp [checkXs, MaxExponent, MinExponent, h1,h2,h3,h4] <;> omega

theorem setExponent2_comm (c : Ctx) (d : Dec) (res : Cond) (a b : Int)
    (h : checkXs [a, b] = checkXs [b, a]) :
    setExponent c d res [a, b] = setExponent c d res [b, a] := by
  unfold setExponent
  rw [h]
  have : sumInts [a, b] = sumInts [b, a] := by simp only [sumInts]; omega
  rw [this]

theorem setExponent2_fst (c : Ctx) (d : Dec) (res : Cond) (a b : Int) :
    (setExponent c d res [a, b]).1 = (setExponent c d res [b, a]).1 := by
  by_cases h : checkXs [a, b] = checkXs [b, a]
  · rw [setExponent2_comm c d res a b h]
  · have h1 : checkXs [a, b] ≠ none := fun hn => h (by rw [hn, checkXs2_none a b hn])
    have h2 : checkXs [b, a] ≠ none := fun hn => h (by rw [hn, checkXs2_none b a hn])
    unfold setExponent
    cases h3 : checkXs [a, b] with
    | none => exact absurd h3 h1
    | some f =>
      cases h4 : checkXs [b, a] with
      | none => exact absurd h4 h2
      | some g => rfl

theorem setExponent2_swap (c : Ctx) (d : Dec) (res : Cond) (a b : Int) :
    setExponent c d res [a, b] = setExponent c d res [b, a] ∨
    ((setExponent c d res [a, b]).1 = d ∧ (setExponent c d res [b, a]).1 = d ∧
     ((setExponent c d res [a, b]).2.sysOverflow || (setExponent c d res [a, b]).2.sysUnderflow) = true ∧
     ((setExponent c d res [b, a]).2.sysOverflow || (setExponent c d res [b, a]).2.sysUnderflow) = true) := by
  by_cases h : ¬ (a > MaxExponent ∧ b < MinExponent) ∧ ¬ (b > MaxExponent ∧ a < MinExponent)
  · left; exact setExponent2_comm c d res a b (checkXs2_comm a b h)
  · right
    simp only [MaxExponent, MinExponent] at h
    have h' : (a > 100000 ∧ b < -100000) ∨ (b > 100000 ∧ a < -100000) := by omega
    rcases h' with ⟨h1, h2⟩ | ⟨h1, h2⟩
    · have h3 : ¬ b > 100000 := by omega
      simp [setExponent, checkXs, MaxExponent, MinExponent, h1, h2, h3, HOr.hOr, OrOp.or, Cond.or,
        Cond.cSysOverflow, Cond.cSysUnderflow]
    · have h3 : ¬ a > 100000 := by omega
      simp [setExponent, checkXs, MaxExponent, MinExponent, h1, h2, h3, HOr.hOr, OrOp.or, Cond.or,
        Cond.cSysOverflow, Cond.cSysUnderflow]

theorem goError_sys (t f g : Cond) (h : (f.sysOverflow || f.sysUnderflow) = true) :
    goError t (f ||| g) = .sys := by
  unfold goError
  rw [if_pos (by
    rw [Cond.or_sysOverflow, Cond.or_sysUnderflow]
    rcases Bool.or_eq_true_iff.1 h with h | h <;> simp [h])]

end Apd.C20L
