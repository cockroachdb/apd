import ApdVerif.Model.Trans
import ApdVerif.Lemmas.C11Lemmas
import ApdVerif.Lemmas.DecRound
import ApdVerif.Lemmas.RoundShape
import Mathlib.Tactic.Ring
import Mathlib.Tactic.NormNum
import Mathlib.Tactic.SplitIfs
/-!
# The settling step of Sqrt: what it compares, what it chooses, what it rounds

The comparison `sqrtSettle` makes — the square of the midpoint `(10m+5)·10^(q-1)` against the operand `x` — is the
comparison of `(2m+1)²` with `4·x / 10^(2q)` (`midSq_cmp`), so the coefficient it selects (`Props.sqrtChoice`) is
`C11Q.choice` on `x / 10^(2q)` (`sqrtChoice_rat`); the frame `sqrtNum`/`sqrtDen` of the theorems `C11_settle_*` is that
fraction (`frame_rat`).  `Props.settleT` is the decimal `sqrtSettle` rounds (`sqrtSettle_eq`).  The truncation before it,
when inexact, leaves at most `prec` digits, below `emin` as above it (`roundDown_digits`).
-/
namespace Apd.C11S
open Apd.C11Q Apd.C20L Cond

def midSq (m : Nat) (q : Int) : Dec := { coeff := (m * 10 + 5) * (m * 10 + 5), exp := 2 * (q - 1) }

theorem midSq_toRat (m : Nat) (q : Int) :
    (midSq m q).toRat = (2 * (m : ℚ) + 1) ^ 2 * (((10 : ℚ) ^ q) ^ 2 / 4) := by
  rw [toRat_pos _ rfl]
  unfold magQ midSq
  simp only []
  rw [show 2 * (q - 1) = 2 * q + -2 by ring, zpow_add₀ ten_ne, ← sq_zpow, show (10 : ℚ) ^ (-2 : ℤ) = 1 / 100 by norm_num]
  push_cast
  ring

theorem midSq_cmp (m : Nat) (q : Int) (x : Dec) (hx : x.form = .finite) (hn : x.neg = false) :
    ((midSq m q).cmp x ≤ 0 ↔ (2 * (m : ℚ) + 1) ^ 2 ≤ 4 * (magQ x / ((10 : ℚ) ^ q) ^ 2)) ∧
    ((midSq m q).cmp x = 0 ↔ (2 * (m : ℚ) + 1) ^ 2 = 4 * (magQ x / ((10 : ℚ) ^ q) ^ 2)) := by
  have hu : (0 : ℚ) < ((10 : ℚ) ^ q) ^ 2 / 4 := div_pos (pow_pos (tp q) 2) (by norm_num)
  have e : 4 * (magQ x / ((10 : ℚ) ^ q) ^ 2) = magQ x / (((10 : ℚ) ^ q) ^ 2 / 4) := by ring
  rw [e, le_div_iff₀ hu, eq_div_iff hu.ne', ← midSq_toRat, ← toRat_pos x hn]
  exact cmp_toRat (midSq m q) x rfl hx

theorem ndigits_div_le (a p : Nat) : ndigits (a / p) ≤ ndigits a := by
  rcases Nat.eq_zero_or_pos (a / p) with h | h
  · rw [h]; exact ndigits_pos a
  · exact ndigits_mono h (Nat.div_le_self a p)

theorem setExponent_down_coeff (c : Ctx) (d : Dec) (res : Cond) (xs : List Int) (hm : c.mode = .down) :
    (setExponent c d res xs).1.coeff = d.coeff ∨ ∃ k, (setExponent c d res xs).1.coeff = d.coeff / 10 ^ k := by
  unfold setExponent
  cases checkXs xs with
  | some fl => exact Or.inl rfl
  | none =>
    dsimp only
    by_cases a1 : sumInts xs + (ndigits d.coeff : Int) - 1 > MaxExponent
    · rw [if_pos a1]; exact Or.inl rfl
    rw [if_neg a1]
    by_cases a2 : sumInts xs + (ndigits d.coeff : Int) - 1 < MinExponent
    · rw [if_pos a2]; exact Or.inl rfl
    rw [if_neg a2]
    by_cases a3 : sumInts xs + (ndigits d.coeff : Int) - 1 < c.emin
    · rw [if_pos a3]
      by_cases a4 : sumInts xs < c.emin - ((c.prec : Int) - 1)
      · rw [if_pos a4, seFinish_coeff, hm]
        simp only [shouldAddOne, Bool.and_false, Bool.false_eq_true, if_false]
        exact Or.inr ⟨_, rfl⟩
      · rw [if_neg a4]; exact Or.inl rfl
    rw [if_neg a3]
    by_cases a5 : sumInts xs + (ndigits d.coeff : Int) - 1 > c.emax
    · rw [if_pos a5]
      by_cases a6 : d.isZero = true
      · rw [if_pos a6]; exact Or.inl rfl
      · rw [if_neg a6]; exact Or.inl rfl
    · rw [if_neg a5]; exact Or.inl rfl

theorem setExponent_down_digits (c : Ctx) (d : Dec) (res : Cond) (xs : List Int) (hm : c.mode = .down)
    (P : Nat) (h : ndigits d.coeff ≤ P) : ndigits (setExponent c d res xs).1.coeff ≤ P := by
  rcases setExponent_down_coeff c d res xs hm with e | ⟨k, e⟩ <;> rw [e]
  · exact h
  · exact Nat.le_trans (ndigits_div_le _ _) h

/-- digits left by a truncation at `Etiny` of a subnormal value -/
theorem sub_trunc_digits (n P : Nat) (r emin : Int) (hP : 1 ≤ P) (hadj : r + (ndigits n : Int) - 1 < emin) :
    ndigits (n / 10 ^ (emin - ((P : Int) - 1) - r).toNat) ≤ P := by
  apply ndigits_le_of_lt_pow _ _ hP
  have hpos : 0 < 10 ^ (emin - ((P : Int) - 1) - r).toNat := Nat.pow_pos (by decide)
  rw [Nat.div_lt_iff_lt_mul hpos, ← Nat.pow_add]
  have h1 := lt_pow_of_ndigits_le n (ndigits n) (Nat.le_refl _)
  have h2 : 10 ^ ndigits n ≤ 10 ^ (P + (emin - ((P : Int) - 1) - r).toNat) :=
    Nat.pow_le_pow_right (by decide) (by omega)
  omega

theorem setExponent_sub_digits (c : Ctx) (d : Dec) (res : Cond) (xs : List Int) (hm : c.mode = .down)
    (hp : 1 ≤ c.prec) (hres : res.inexact = false)
    (hadj : sumInts xs + (ndigits d.coeff : Int) - 1 < c.emin)
    (hin : (setExponent c d res xs).2.inexact = true) :
    ndigits (setExponent c d res xs).1.coeff ≤ c.prec := by
  unfold setExponent at hin ⊢
  cases hck : checkXs xs with
  | some fl =>
    rw [hck] at hin
    rcases checkXs_some_exit hck with ⟨rfl, -⟩ | ⟨rfl, -⟩ <;> cases hin
  | none =>
    rw [hck] at hin
    simp only [] at hin ⊢
    by_cases a1 : sumInts xs + (ndigits d.coeff : Int) - 1 > MaxExponent
    · simp only [a1, if_true] at hin
      exact absurd hin (by decide)
    by_cases a2 : sumInts xs + (ndigits d.coeff : Int) - 1 < MinExponent
    · simp only [a1, a2, if_true, if_false] at hin
      exact absurd hin (by decide)
    simp only [a1, a2, hadj, if_true, if_false] at hin ⊢
    by_cases a4 : sumInts xs < c.emin - ((c.prec : Int) - 1)
    · simp only [a4, if_true, seFinish, hm, shouldAddOne, Bool.and_false, Bool.false_eq_true, if_false]
      exact sub_trunc_digits _ _ _ _ hp hadj
    · simp only [a4, if_false, seFinish] at hin
      exfalso
      revert hin
      cases d.isZero <;> simp [hres, cSubnormal]

theorem roundDown_digits (c : Ctx) (x : Dec) (hm : c.mode = .down) (hp : 1 ≤ c.prec)
    (hin : (ctxRound c x).2.inexact = true) : ndigits (ctxRound c x).1.coeff ≤ c.prec := by
  by_cases hx : x.form = .finite
  swap
  · rw [ctxRound_nonfinite c x hx] at hin
    simp at hin
  rw [ctxRound_finite c x hx] at hin ⊢
  unfold ctxRoundFin at hin ⊢
  rcases roundX_path c x hx hp with ⟨-, e⟩ | ⟨d, res, δ, P, e⟩
  · rw [e] at hin; simp [cSysOverflow, cOverflow] at hin
  rw [e] at hin ⊢
  -- `setExponent` truncates too: what it is handed has at most `prec` digits, or it cuts at Etiny below `emin`
  cases P with
  | sub h0 hadj =>
    exact setExponent_sub_digits c x cSubnormal _ hm hp rfl (by rw [sumInts_pair]; omega)
      (by simpa [cSubnormal] using hin)
  | short hnd => exact setExponent_down_digits c _ _ _ hm _ hnd
  | long y δ _ _ _ _ hyd => exact setExponent_down_digits c _ _ _ hm _ hyd.le

end Apd.C11S

namespace Apd.Props
open Apd.C11S

/-- the coefficient `sqrtSettle` selects at exponent `t.exp`: `t.coeff` or its successor -/
def sqrtChoice (t x : Dec) : Nat :=
  let mid : Dec := { t with coeff := t.coeff * 10 + 5, exp := t.exp - 1 }
  let sq : Dec := { coeff := mid.coeff * mid.coeff, exp := 2 * mid.exp }
  let cmp := sq.cmp x
  if cmp < 0 || (cmp == 0 && t.coeff % 2 == 1) then t.coeff + 1 else t.coeff

/-- `x / 10^(2q)` as a fraction `num/den` (the frame of `C11_specSqrt_nearest`) -/
def sqrtNum (x : Dec) (q : Int) : Nat := if x.exp - 2 * q ≥ 0 then x.coeff * 10 ^ (x.exp - 2 * q).toNat else x.coeff
def sqrtDen (x : Dec) (q : Int) : Nat := if x.exp - 2 * q ≥ 0 then 1 else 10 ^ (-(x.exp - 2 * q)).toNat

theorem sqrtDen_pos (x : Dec) (q : Int) : 0 < sqrtDen x q := by
  unfold sqrtDen; split
  · exact Nat.one_pos
  · exact Nat.pow_pos (by decide)

theorem sqrtChoice_eq (t x : Dec) :
    sqrtChoice t x =
      if (midSq t.coeff t.exp).cmp x < 0 || ((midSq t.coeff t.exp).cmp x == 0 && t.coeff % 2 == 1)
      then t.coeff + 1 else t.coeff := rfl

open Apd.C11Q Apd.C20L in
theorem frame_rat (x : Dec) (q : ℤ) :
    (sqrtNum x q : ℚ) / (sqrtDen x q : ℚ) = magQ x / ((10 : ℚ) ^ q) ^ 2 := by
  unfold sqrtNum sqrtDen magQ
  rw [sq_zpow]
  have h2 := (tp (2 * q)).ne'
  by_cases hs : x.exp - 2 * q ≥ 0
  · rw [if_pos hs, if_pos hs]
    rw [Nat.cast_mul, zpow_toNat _ hs, zpow_sub₀ ten_ne, Nat.cast_one, div_one, mul_div_assoc]
  · rw [if_neg hs, if_neg hs]
    rw [zpow_toNat _ (by omega), neg_sub, zpow_sub₀ ten_ne]
    have := (tp x.exp).ne'
    field_simp

open Apd.C11Q in
theorem sqrtChoice_rat (t x : Dec) (hx : x.form = .finite) (hxn : x.neg = false) :
    sqrtChoice t x = choice t.coeff (magQ x / ((10 : ℚ) ^ t.exp) ^ 2) := by
  obtain ⟨c1, c2⟩ := midSq_cmp t.coeff t.exp x hx hxn
  rw [sqrtChoice_eq]
  unfold choice
  have hlt : (midSq t.coeff t.exp).cmp x < 0 ↔
      (2 * (t.coeff : ℚ) + 1) ^ 2 < 4 * (magQ x / ((10 : ℚ) ^ t.exp) ^ 2) := by
    rw [lt_iff_le_and_ne (a := (2 * (t.coeff : ℚ) + 1) ^ 2), ← c1, ne_eq, ← c2]; omega
  exact if_congr (by simp only [Bool.or_eq_true, Bool.and_eq_true, decide_eq_true_eq, beq_iff_eq, hlt, c2]) rfl rfl

/-- the decimal `sqrtSettle` rounds: `t` or its successor, renormalised after a carry -/
def settleT (nc : Ctx) (t x : Dec) : Dec :=
  if (midSq t.coeff t.exp).cmp x < 0 || ((midSq t.coeff t.exp).cmp x == 0 && t.coeff % 2 == 1) then
    if ndigits (t.coeff + 1) > nc.prec then { t with coeff := (t.coeff + 1) / 10, exp := t.exp + 1 }
    else { t with coeff := t.coeff + 1 }
  else t

theorem sqrtSettle_eq (nc : Ctx) (d approx x : Dec) :
    sqrtSettle nc d approx x =
      (let dn := ctxRound { nc with mode := .down } approx
       if !dn.2.inexact || dn.1.form != .finite || (ndigits dn.1.coeff != nc.prec && !dn.2.subnormal) then (d, {})
       else if (settleT nc dn.1 x).cmp d == 0 then (d, {}) else ctxRound nc (settleT nc dn.1 x)) := rfl

theorem settleT_eq (nc : Ctx) (t x : Dec) :
    settleT nc t x =
      if sqrtChoice t x ≠ t.coeff ∧ ndigits (sqrtChoice t x) > nc.prec then
        { t with coeff := sqrtChoice t x / 10, exp := t.exp + 1 }
      else { t with coeff := sqrtChoice t x } := by
  unfold settleT
  rw [sqrtChoice_eq]
  by_cases h : ((midSq t.coeff t.exp).cmp x < 0 || ((midSq t.coeff t.exp).cmp x == 0 && t.coeff % 2 == 1)) = true
  · rw [if_pos h, if_pos h]
    have : t.coeff + 1 ≠ t.coeff := by omega
    by_cases h2 : ndigits (t.coeff + 1) > nc.prec
    · rw [if_pos h2, if_pos ⟨this, h2⟩]
    · rw [if_neg h2, if_neg (fun hh => h2 hh.2)]
  · rw [if_neg h, if_neg h, if_neg (fun hh => hh.1 rfl)]

theorem settleT_eq' (nc : Ctx) (t x : Dec) (hd : ndigits t.coeff ≤ nc.prec) :
    settleT nc t x =
      if ndigits (sqrtChoice t x) > nc.prec then { t with coeff := sqrtChoice t x / 10, exp := t.exp + 1 }
      else { t with coeff := sqrtChoice t x } := by
  rw [settleT_eq]
  by_cases hm : sqrtChoice t x = t.coeff
  · rw [if_neg (fun hh => hh.1 hm), if_neg (by rw [hm]; omega)]
  · by_cases h2 : ndigits (sqrtChoice t x) > nc.prec
    · rw [if_pos ⟨hm, h2⟩, if_pos h2]
    · rw [if_neg (fun hh => h2 hh.2), if_neg h2]

end Apd.Props
