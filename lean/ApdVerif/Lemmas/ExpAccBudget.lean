import ApdVerif.Lemmas.ExpAccLog
/-!
# The error budget of `Exp`: Horner + truncation, argument reduction, power, in one relative bound
-/
namespace Apd.ExpAcc
open Real Finset

theorem exp_one_inv_gt : (1 : ℝ) / 2.7182818286 < exp (-1) := by
  rw [exp_neg, one_div]
  exact (inv_lt_inv₀ (by norm_num) (exp_pos 1)).2 exp_one_lt_d9

theorem exp_three_quarters_lt : exp (3 / 4 : ℝ) < 2.2 := by
  by_contra h
  have h1 : (2.2 : ℝ) ≤ exp (3 / 4) := not_lt.1 h
  have h2 : (2.2 : ℝ) ^ 4 ≤ exp (3 / 4) ^ 4 := pow_le_pow_left₀ (by norm_num) h1 4
  have h3 : exp (3 / 4 : ℝ) ^ 4 = exp 1 ^ 3 := by
    rw [← exp_nat_mul, ← exp_nat_mul]; norm_num
  have h4 : exp 1 ^ 3 < (2.7182818286 : ℝ) ^ 3 := pow_lt_pow_left₀ exp_one_lt_d9 (exp_pos 1).le (by norm_num)
  rw [h3] at h2
  norm_num at h2 h4
  linarith

theorem near_of_parts (sh P e u G τ A L : ℝ) (hu : 0 ≤ u) (hA : 0 ≤ A) (h1 : |sh - P| ≤ u * G)
    (h2 : |e - P| ≤ τ * u) (hL : L ≤ e) (hG : G + τ ≤ A * L) : |sh - e| ≤ A * u * e := by
  have tri : |sh - e| ≤ |sh - P| + |e - P| := by rw [abs_sub_comm e P]; exact abs_sub_le sh P e
  have g := mul_le_mul_of_nonneg_left hG hu
  have l := mul_le_mul_of_nonneg_left hL (mul_nonneg hA hu)
  linarith only [tri, h1, h2, g, l]

theorem exp_near_pos (r u sh : ℝ) (n : ℕ) (hn : 1 ≤ n) (hr0 : 0 ≤ r) (hr1 : r ≤ 1) (hu : 0 ≤ u)
    (hE : |sh - ∑ j ∈ range n, r ^ j / (j.factorial : ℝ)| ≤
      u * (1 + 30151 / 10000 * r + 70552 / 10000 * r ^ 2))
    (htr : |r| ^ n / (n.factorial : ℝ) * (((n : ℝ) + 1) / (n : ℝ)) ≤ 6 / 5 * u) :
    |sh - exp r| ≤ 62 / 10 * u * exp r := by
  have tr := (exp_series_trunc r (abs_le.2 ⟨by linarith only [hr0], hr1⟩) n hn).trans htr
  have h2 : r ^ 2 ≤ r := by rw [sq]; exact mul_le_of_le_one_left hr0 hr1
  exact near_of_parts sh _ (exp r) u _ (6 / 5) _ (1 + r) hu (by norm_num) hE tr
    (by linarith only [add_one_le_exp r]) (by linarith only [h2, hr1])

/-- Horner rounding error + truncation error, relative to `exp r`.  For `r < 0` `exp r` is as small as `1/e`:
the truncation term may be `6·10^-p = 1.2u` for `|r| ≤ 3/4` and `2·10^-p = 0.4u` beyond. -/
theorem exp_near (r u sh : ℝ) (n : ℕ) (hn : 1 ≤ n) (hr : |r| ≤ 1) (hu : 0 ≤ u)
    (hE : |sh - ∑ j ∈ range n, r ^ j / (j.factorial : ℝ)| ≤ HF r u)
    (htr : (-r ≤ 3 / 4 ∧ |r| ^ n / (n.factorial : ℝ) * (((n : ℝ) + 1) / (n : ℝ)) ≤ 6 / 5 * u) ∨
      |r| ^ n / (n.factorial : ℝ) * (((n : ℝ) + 1) / (n : ℝ)) ≤ 2 / 5 * u) :
    |sh - exp r| ≤ 1083 / 100 * u * exp r := by
  obtain ⟨hr1, hr2⟩ := abs_le.1 hr
  have tr := exp_series_trunc r hr n hn
  by_cases hneg : r ≤ 0
  · rw [HF_of_nonpos hneg] at hE
    have ha0 : 0 ≤ -r := by linarith only [hneg]
    rcases htr with ⟨h34, ht⟩ | ht
    · have hex : (5 / 11 : ℝ) ≤ exp r := by
        refine le_trans ?_ (exp_le_exp.2 (by linarith only [h34] : -(3 / 4 : ℝ) ≤ r))
        rw [exp_neg, le_inv_comm₀ (by norm_num) (exp_pos _)]
        exact exp_three_quarters_lt.le.trans (by norm_num)
      have h2 : (-r) ^ 2 ≤ 9 / 16 := by
        rw [sq]; exact (mul_le_mul h34 h34 ha0 (by norm_num)).trans_eq (by norm_num)
      exact near_of_parts sh _ (exp r) u _ (6 / 5) _ _ hu (by norm_num) hE (tr.trans ht) hex
        (by linarith only [h2, h34])
    · have hex : (3676 / 10000 : ℝ) ≤ exp r :=
        (le_trans (by norm_num) exp_one_inv_gt.le).trans (exp_le_exp.2 hr1)
      have h2 : (-r) ^ 2 ≤ 1 := pow_le_one₀ ha0 (by linarith only [hr1])
      exact near_of_parts sh _ (exp r) u _ (2 / 5) _ _ hu (by norm_num) hE (tr.trans ht) hex
        (by linarith only [h2, hr1])
  · rw [HF_of_pos hneg] at hE
    have h65 : |r| ^ n / (n.factorial : ℝ) * (((n : ℝ) + 1) / (n : ℝ)) ≤ 6 / 5 * u := by
      rcases htr with ⟨_, h⟩ | h
      · exact h
      · linarith only [h, hu]
    refine (exp_near_pos r u sh n hn (le_of_not_ge hneg) hr2 hu hE h65).trans ?_
    exact mul_le_mul_of_nonneg_right (mul_le_mul_of_nonneg_right (by norm_num) hu) (exp_pos r).le

theorem exp_total_gen (A B x rh sh z u : ℝ) (K : ℕ) (hA0 : 0 ≤ A) (hA : A ≤ 11)
    (hB : 1 + A / (1 - A / 200) + 1005026 / 1000000 ≤ B)
    (hK : 1 ≤ K) (hu : 0 ≤ u) (hν : (K : ℝ) * u ≤ 1 / 200)
    (hr : |(K : ℝ) * rh - x| ≤ (K : ℝ) * u)
    (hs : |sh - exp rh| ≤ (A * u) * exp rh)
    (hz : LogNear ((K : ℝ) * (u / (1 - u))) (sh ^ K) z) :
    LogNear (B * ((K : ℝ) * u)) (exp x) z := by
  have hK' : (1 : ℝ) ≤ K := by exact_mod_cast hK
  have hK0 : (0 : ℝ) ≤ K := zero_le_one.trans hK'
  have hu1 : u ≤ 1 / 200 := (le_mul_of_one_le_left hu hK').trans hν
  have hρ0 : 0 ≤ A * u := mul_nonneg hA0 hu
  have hρ : A * u ≤ A / 200 := by
    rw [div_eq_mul_one_div]; exact mul_le_mul_of_nonneg_left hu1 hA0
  have hA1 : A / 200 < 1 := by linarith only [hA]
  have h2 := (LogNear.of_abs (exp rh) sh _ (exp_pos _) (hρ.trans_lt hA1) hs).pow (exp_pos _) K
  rw [← exp_nat_mul] at h2
  have h3 : LogNear ((K : ℝ) * u) (exp x) (exp ((K : ℝ) * rh)) := by
    obtain ⟨d1, d2⟩ := abs_le.1 hr
    constructor <;> rw [← exp_add] <;> apply exp_le_exp.2
    · linarith only [d1]
    · linarith only [d2]
  refine ((h3.trans h2 (exp_pos _)).trans hz (exp_pos _)).mono (exp_pos _) ?_
  have b1 : (A * u) / (1 - A * u) ≤ (A * u) / (1 - A / 200) :=
    div_le_div_of_nonneg_left hρ0 (sub_pos.2 hA1) (sub_le_sub_left hρ 1)
  have b2 : u / (1 - u) ≤ u / (1 - 1 / 200) :=
    div_le_div_of_nonneg_left hu (by norm_num) (sub_le_sub_left hu1 1)
  have hKu := mul_nonneg hK0 hu
  calc (K : ℝ) * u + K * (A * u / (1 - A * u)) + K * (u / (1 - u))
      ≤ K * u + K * (A * u / (1 - A / 200)) + K * (u / (1 - 1 / 200)) :=
        add_le_add (add_le_add le_rfl (mul_le_mul_of_nonneg_left b1 hK0)) (mul_le_mul_of_nonneg_left b2 hK0)
    _ = (1 + A / (1 - A / 200) + 200 / 199) * (K * u) := by ring
    _ ≤ (1 + A / (1 - A / 200) + 1005026 / 1000000) * (K * u) :=
        mul_le_mul_of_nonneg_right (by norm_num) hKu
    _ ≤ B * (K * u) := mul_le_mul_of_nonneg_right hB hKu

theorem exp_total (x rh sh z u : ℝ) (K : ℕ) (hK : 1 ≤ K) (hu : 0 ≤ u) (hν : (K : ℝ) * u ≤ 1 / 200)
    (hr : |(K : ℝ) * rh - x| ≤ (K : ℝ) * u)
    (hs : |sh - exp rh| ≤ (1083 / 100 * u) * exp rh)
    (hz : LogNear ((K : ℝ) * (u / (1 - u))) (sh ^ K) z) :
    LogNear (134551 / 10000 * ((K : ℝ) * u)) (exp x) z :=
  exp_total_gen _ _ x rh sh z u K (by norm_num) (by norm_num) (by norm_num) hK hu hν hr hs hz

/-- the budget in units of `y = 10^-cp ≤ 1/10`; `hη` is `exp_sub_one_le` at `c·y`, `c = B/20 ≤ 1` -/
theorem exp_budget_gen (B η Ω y : ℝ) (hB0 : 0 ≤ B) (hB : B ≤ 20)
    (hη : B / 20 + (B / 20) ^ 2 / 20 + 2 / 9 * (B / 20) ^ 3 / 100 ≤ η)
    (hΩ0 : 0 ≤ Ω) (hy0 : 0 ≤ y) (hy : y ≤ 1 / 10) (hΩ : Ω ≤ B * (y / 20)) :
    exp Ω - 1 ≤ η * y := by
  have hc0 : 0 ≤ B / 20 := div_nonneg hB0 (by norm_num)
  have hm : B / 20 * y ≤ B / 20 / 10 := by
    rw [div_eq_mul_one_div (B / 20) 10]; exact mul_le_mul_of_nonneg_left hy hc0
  have hΩc : Ω ≤ B / 20 * y := by linarith only [hΩ]
  have hf0 : 0 ≤ 1 + B / 20 / 10 / 2 + 2 / 9 * (B / 20 / 10) ^ 2 :=
    add_nonneg (add_nonneg zero_le_one (by linarith only [hc0])) (mul_nonneg (by norm_num) (sq_nonneg _))
  calc exp Ω - 1 ≤ Ω * (1 + B / 20 / 10 / 2 + 2 / 9 * (B / 20 / 10) ^ 2) :=
        exp_sub_one_le Ω _ hΩ0 (hΩc.trans hm) (by linarith only [hB])
    _ ≤ B / 20 * y * (1 + B / 20 / 10 / 2 + 2 / 9 * (B / 20 / 10) ^ 2) :=
        mul_le_mul_of_nonneg_right hΩc hf0
    _ = (B / 20 + (B / 20) ^ 2 / 20 + 2 / 9 * (B / 20) ^ 3 / 100) * y := by ring
    _ ≤ η * y := mul_le_mul_of_nonneg_right hη hy0

theorem exp_budget (Ω y : ℝ) (hΩ0 : 0 ≤ Ω) (hy : y ≤ 1 / 10) (hΩ : Ω ≤ 134551 / 10000 * (y / 20)) :
    exp Ω - 1 ≤ 7 / 10 * y :=
  exp_budget_gen _ _ Ω y (by norm_num) (by norm_num) (by norm_num) hΩ0 (by linarith only [hΩ0, hΩ]) hy hΩ

end Apd.ExpAcc
