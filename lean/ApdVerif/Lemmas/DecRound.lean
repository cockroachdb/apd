import ApdVerif.Model.Trans
import ApdVerif.Props.Rational
import ApdVerif.Props.RoundCore
import ApdVerif.Props.Mul
import ApdVerif.Lemmas.QuoLemmas
import ApdVerif.Lemmas.C15Lemmas
import ApdVerif.Lemmas.ErrExits
import Mathlib.Tactic.Ring
import Mathlib.Tactic.Linarith
import Mathlib.Tactic.NormNum
import Mathlib.Tactic.Positivity
import Mathlib.Tactic.FieldSimp
import Mathlib.Tactic.SplitIfs
/-!
# Positive decimals and the model's operations inside the package limits, shared by Sqrt, Cbrt, Exp and Ln

`Decimal.Cmp` on finite operands is the order of the values, and with it the test of `loop.done` in rationals
(`stop_iff`).  `SqrtL`: a positive finite decimal (`Pos`) bracketed by its adjusted exponent; "no system flag" for a
rounding, a product and a quotient inside the package's exponent limits; `Context.add` on finite operands whose exponents
are at most 100000 apart as one rounding of the exact sum; and the small change the root loops share: the powers of ten
of their working range `[10^-3, 10^2)`, its widening to the package limits, the unit roundoff at four digits or more.  Last, `C11Q.fits_digits`: a finite decimal that `fits` a context has at most
`prec` digits.
-/
namespace Apd

theorem signedScaled_toRat (d : Dec) (e : Int) (h : e ≤ d.exp) :
    ((signedScaled d e : ℤ) : ℚ) * (10 : ℚ) ^ e = d.toRat := by
  unfold signedScaled Dec.toRat
  have := RatSpec.align d.coeff d.exp e h
  push_cast at this ⊢
  rw [mul_assoc, this]
  cases d.neg <;> simp

open Apd.C15L in
theorem cmp_toRat (d x : Dec) (hd : d.form = .finite) (hx : x.form = .finite) :
    (d.cmp x ≤ 0 ↔ d.toRat ≤ x.toRat) ∧ (d.cmp x = 0 ↔ d.toRat = x.toRat) := by
  rw [cmp_finite d x hd hx, cmpInt_le_zero_iff, cmpInt_eq_zero_iff,
    ← signedScaled_toRat d (min d.exp x.exp) (min_le_left _ _),
    ← signedScaled_toRat x (min d.exp x.exp) (min_le_right _ _)]
  have hp : (0 : ℚ) < (10 : ℚ) ^ (min d.exp x.exp) := zpow_pos (by norm_num) _
  constructor
  · rw [mul_le_mul_iff_left₀ hp]; exact Int.cast_le.symm
  · rw [mul_left_inj' hp.ne']; exact Int.cast_inj.symm

theorem cmp_toRat_lt (d x : Dec) (hd : d.form = .finite) (hx : x.form = .finite) :
    (d.cmp x < 0 ↔ d.toRat < x.toRat) ∧ (0 < d.cmp x ↔ x.toRat < d.toRat) := by
  obtain ⟨h1, h2⟩ := cmp_toRat d x hd hx
  constructor
  · rw [lt_iff_le_and_ne, lt_iff_le_and_ne, h1, Ne, Ne, h2]
  · rw [← not_le, ← not_le, h1]

theorem negD_toRat (d : Dec) : d.negD.toRat = - d.toRat := by
  unfold Dec.negD Dec.isZero Dec.toRat
  by_cases h0 : d.coeff = 0
  · split_ifs <;> simp [h0]
  · have : (d.form == Form.finite && d.coeff == 0) = false := by simp [h0]
    rw [this]
    cases d.neg <;> simp

theorem negD_form (d : Dec) : d.negD.form = d.form := by
  unfold Dec.negD; split_ifs <;> rfl

open Apd.C15L Apd.C20L in
/-- the absolute value `loop.done` takes of the difference -/
theorem abs_of_sign (d : Dec) (hf : d.form = .finite) :
    (if d.sign < 0 then d.negD else d).form = .finite ∧ (if d.sign < 0 then d.negD else d).toRat = |d.toRat| := by
  have hm : (0 : ℚ) ≤ (d.coeff : ℚ) * (10 : ℚ) ^ d.exp := mul_nonneg (Nat.cast_nonneg _) (tp _).le
  have hv : d.toRat = (if d.neg then -1 else 1) * ((d.coeff : ℚ) * (10 : ℚ) ^ d.exp) := by
    unfold Dec.toRat; ring
  rw [sign_finite d hf]
  by_cases h0 : d.coeff = 0
  · rw [if_pos h0, if_neg (lt_irrefl 0), hv, h0]; exact ⟨hf, by simp⟩
  · rw [if_neg h0]
    cases hn : d.neg
    · rw [if_neg Bool.false_ne_true, if_neg (by decide), hv, hn, if_neg Bool.false_ne_true, one_mul, abs_of_nonneg hm]
      exact ⟨hf, rfl⟩
    · rw [if_pos rfl, if_pos (by decide), negD_form, negD_toRat, hv, hn, if_pos rfl, neg_one_mul, abs_neg,
        abs_of_nonneg hm, neg_neg]
      exact ⟨hf, rfl⟩

open Apd.C15L in
/-- **the test of `loop.done` in rationals** -/
theorem stop_iff (prec : Int) (z δ : Dec) (hδ : δ.form = .finite) :
    Stop prec z δ ↔ |δ.toRat| ≤ (10 : ℚ) ^ (-prec + (ndigits z.coeff : ℤ) + z.exp) := by
  have heps : ({ coeff := 1, exp := -prec + (ndigits z.coeff : Int) + z.exp } : Dec).toRat =
      (10 : ℚ) ^ (-prec + (ndigits z.coeff : ℤ) + z.exp) := by unfold Dec.toRat; simp
  obtain ⟨hf, hv⟩ := abs_of_sign δ hδ
  unfold Stop
  rw [(cmp_toRat _ _ hf rfl).1, hv, heps, sign_finite δ hδ]
  by_cases h0 : δ.coeff = 0
  · have : δ.toRat = 0 := by unfold Dec.toRat; rw [h0]; simp
    rw [this, abs_zero]; simp only [h0, if_true, beq_self_eq_true, true_or, true_iff]; positivity
  · have : ((if δ.neg = true then (-1 : Int) else 1) == 0) = false := by cases δ.neg <;> rfl
    rw [if_neg h0, this]; simp

end Apd

namespace Apd.SqrtL
open Apd Apd.Oracle Apd.RatSpec Apd.C20L

structure Pos (d : Dec) : Prop where
  hf : d.form = .finite
  hn : d.neg = false
  h0 : 0 < d.coeff

theorem Pos.toRat_eq {d : Dec} (h : Pos d) : d.toRat = (d.coeff : ℚ) * (10 : ℚ) ^ d.exp := by
  unfold Dec.toRat; rw [h.hn]; simp

theorem Pos.toRat_pos {d : Dec} (h : Pos d) : 0 < d.toRat := by
  rw [h.toRat_eq]
  have : (0 : ℚ) < d.coeff := by exact_mod_cast h.h0
  have := tp d.exp
  positivity

theorem Pos.isAdj {d : Dec} (h : Pos d) : IsAdj d.toRat (d.exp + (ndigits d.coeff : ℤ) - 1) :=
  abs_of_pos h.toRat_pos ▸ abs_toRat_isAdj d h.h0

theorem toRat_bounds {d : Dec} (h : Pos d) :
    (10 : ℚ) ^ (d.exp + (ndigits d.coeff : ℤ) - 1) ≤ d.toRat ∧ d.toRat < (10 : ℚ) ^ (d.exp + (ndigits d.coeff : ℤ)) := by
  have := h.isAdj
  rwa [IsAdj, sub_add_cancel] at this

theorem adj_le {d : Dec} (h : Pos d) {k : ℤ} (hk : d.toRat < (10 : ℚ) ^ k) :
    d.exp + (ndigits d.coeff : ℤ) ≤ k := by
  have := h.isAdj.lt_of_lt hk
  omega

theorem adj_gt {d : Dec} (h : Pos d) {k : ℤ} (hk : (10 : ℚ) ^ k ≤ d.toRat) :
    k < d.exp + (ndigits d.coeff : ℤ) := by
  have := h.isAdj.le_of_le hk
  omega

open Cond

theorem noSys_or' {a b : Cond} (ha : NoSys a) (hb : NoSys b) : NoSys (a ||| b) := NoSys.or ha hb

theorem round_noSys (c : Ctx) (hc : c.WF) (x : Dec) (hx : x.form = .finite)
    (w1 : -100000 ≤ x.exp) (w2 : x.exp ≤ 100000)
    (h1 : ndigits x.coeff ≤ 99999 + c.prec) (h2 : x.exp + (ndigits x.coeff : Int) - 1 < 100000) :
    NoSys (ctxRound c x).2 :=
  ctxRound_noSys_of c hc.1 x hx w1 w2 h1 (by omega) (fun _ => h2)

theorem seFinish_empty (d : Dec) (r : Int) : seFinish d r {} = ({ d with exp := r }, {}) := by
  simp [seFinish]

theorem mul_noSys (c : Ctx) (hc : c.WF) (hemin : c.emin = -100000) (hemax : c.emax = 100000)
    (x y : Dec) (hx : x.form = .finite) (hy : y.form = .finite)
    (e1 : -100000 ≤ x.exp) (e2 : x.exp ≤ 100000) (e3 : -100000 ≤ y.exp) (e4 : y.exp ≤ 100000)
    (e5 : -100000 ≤ x.exp + y.exp)
    (h1 : ndigits (x.coeff * y.coeff) ≤ 99999 + c.prec)
    (h2 : x.exp + y.exp + (ndigits (x.coeff * y.coeff) : Int) - 1 < 100000) :
    NoSys (mulOp c x y).fl := by
  have hnp := ndigits_pos (x.coeff * y.coeff)
  rw [Props.mulOp_eq_round c hemin hemax x y hx hy (checkXs_pair _ _ e1 e2 e3 e4) (by omega) (by omega)]
  exact round_noSys c hc _ rfl e5 (by show x.exp + y.exp ≤ 100000; omega) h1 h2

/-- `Context.add` on finite operands whose exponents are at most 100000 apart: one rounding of a decimal
(`Props.add_core` without the system-limit exit) -/
theorem add_core' (c : Ctx) (x y : Dec) (sub : Bool) (hx : x.form = .finite) (hy : y.form = .finite)
    (g1 : x.exp - y.exp ≤ 100000) (g2 : y.exp - x.exp ≤ 100000) :
    ∃ d : Dec, d.form = .finite ∧ addOp c x y sub = finish c (ctxRound c d) ∧
        exactAdd c x y sub = exactRound d :=
  Props.add_core_some c x y sub hx hy _ _ _ (upscale_eq x y ⟨g1, g2⟩)

/-- the exact sum of two non-negative finite decimals, as the decimal `Context.add` rounds -/
def sumDec (x y : Dec) : Dec :=
  { form := .finite, neg := false, exp := min x.exp y.exp,
    coeff := x.coeff * 10 ^ (x.exp - min x.exp y.exp).toNat + y.coeff * 10 ^ (y.exp - min x.exp y.exp).toNat }

theorem addOp_pos (c : Ctx) (x y : Dec) (hx : x.form = .finite) (hy : y.form = .finite)
    (hxn : x.neg = false) (hyn : y.neg = false)
    (g1 : x.exp - y.exp ≤ 100000) (g2 : y.exp - x.exp ≤ 100000) :
    addOp c x y false = finish c (ctxRound c (sumDec x y)) := by
  unfold addOp
  rw [shouldSetAsNaN_finite x y hx hy, upscale_eq x y ⟨g1, g2⟩]
  simp [hx, hy, hxn, hyn, sumDec]

theorem sumDec_toRat (x y : Dec) (hxn : x.neg = false) (hyn : y.neg = false) :
    (sumDec x y).toRat = x.toRat + y.toRat := by
  have hx := align x.coeff x.exp (min x.exp y.exp) (min_le_left _ _)
  have hy := align y.coeff y.exp (min x.exp y.exp) (min_le_right _ _)
  unfold Dec.toRat sumDec
  rw [hxn, hyn]
  simp only [Bool.false_eq_true, if_false, one_mul]
  push_cast at hx hy ⊢
  rw [add_mul, hx, hy]

open Apd.QuoL in
theorem quo_noSys (c : Ctx) (hc : c.WF) (hemin : c.emin = -100000)
    (x y : Dec) (hx : x.form = .finite) (hy : y.form = .finite) (hX : 0 < x.coeff) (hY : 0 < y.coeff)
    (e1 : -100000 ≤ x.exp - y.exp) (e2 : x.exp - y.exp ≤ 100000)
    (d1 : ndigits x.coeff ≤ 100000) (d2 : ndigits y.coeff ≤ 100000)
    (a1 : -100000 ≤ adjRat x.coeff y.coeff + (x.exp - y.exp))
    (a2 : adjRat x.coeff y.coeff + (x.exp - y.exp) < 100000) :
    NoSys (quoOp c x y).fl := by
  obtain ⟨hP, hPmax, hmax, -⟩ := hc
  obtain ⟨cf, δ, res, e, -, hres, -, hsh⟩ := quoOp_shape c x y hx hy (by omega) hP (by omega)
  have hd1 := ndigits_pos x.coeff
  have hd2 := ndigits_pos y.coeff
  have ha : -100000 ≤ adjRat x.coeff y.coeff ∧ adjRat x.coeff y.coeff ≤ 100000 := by
    rw [quo_adj]; unfold qAdjCoeffs qNdDiff; split <;> omega
  rw [e]
  refine NoSys.or hres (Apd.setExponent_noSys_of c _ res _ (sumInts_quo _ _ _ _) ?_ ?_ ?_ hres)
  · rw [checkXs_none_iff]; simp; omega
  · dsimp only; omega
  · dsimp only; omega

theorem goError_empty (fl : Cond) (h : NoSys fl) : goError {} fl = .none :=
  (goError_none_iff {} fl).2 ⟨h, and_noTraps_any fl⟩

theorem t3 : (10 : ℚ) ^ (-3 : ℤ) = 1 / 1000 := by norm_num
theorem t2 : (10 : ℚ) ^ (2 : ℤ) = 100 := by norm_num
theorem tm2 : (10 : ℚ) ^ (-2 : ℤ) = 1 / 100 := by norm_num
theorem tm1 : (10 : ℚ) ^ (-1 : ℤ) = 1 / 10 := by norm_num
theorem t1 : (10 : ℚ) ^ (1 : ℤ) = 10 := by norm_num
theorem t0 : (10 : ℚ) ^ (0 : ℤ) = 1 := by norm_num

theorem widen_lo {v : ℚ} (h : (10 : ℚ) ^ (-3 : ℤ) ≤ v) : (10 : ℚ) ^ (-100000 : ℤ) ≤ v :=
  le_trans (zpow_le_zpow_right₀ ten_gt.le (by norm_num)) h

theorem widen_hi {v : ℚ} (h : v < (10 : ℚ) ^ (2 : ℤ)) : v < (10 : ℚ) ^ (99999 : ℤ) :=
  lt_of_lt_of_le h (zpow_le_zpow_right₀ ten_gt.le (by norm_num))

theorem rel_of_val {r v ε : ℚ} (hv : 0 < v) (h : |r - v| ≤ ε * v) : ∃ e : ℚ, |e| ≤ ε ∧ r = v * (1 + e) := by
  refine ⟨(r - v) / v, ?_, ?_⟩
  · rw [abs_div, abs_of_pos hv, div_le_iff₀ hv]; exact h
  · field_simp; ring

theorem exp_bounds {d : Dec} (h : Pos d) {n : Nat} (hn : ndigits d.coeff ≤ n) {k m : ℤ}
    (lo : (10 : ℚ) ^ k ≤ d.toRat) (hi : d.toRat < (10 : ℚ) ^ m) : k - (n : ℤ) < d.exp ∧ d.exp ≤ m - 1 := by
  have h1 := adj_gt h lo
  have h2 := adj_le h hi
  have := ndigits_pos d.coeff
  omega

theorem eps_le (P : Nat) (hP : 4 ≤ P) : 5 * (10 : ℚ) ^ (-(P : ℤ)) ≤ 1 / 2000 := by
  have : (10 : ℚ) ^ (-(P : ℤ)) ≤ (10 : ℚ) ^ (-4 : ℤ) := zpow_le_zpow_right₀ ten_gt.le (by omega)
  have e : (10 : ℚ) ^ (-4 : ℤ) = 1 / 10000 := by norm_num
  rw [e] at this; linarith

theorem decHalf_pos : Pos decHalf := ⟨rfl, rfl, by decide⟩
theorem decHalf_toRat : decHalf.toRat = 1 / 2 := by
  norm_num [Dec.toRat, decHalf]

end Apd.SqrtL

namespace Apd.C11Q
open Apd Apd.Oracle

theorem fits_digits (cc : Ctx) (w : Dec) (hp : 1 ≤ cc.prec) (hf : w.form = .finite) (h : fits cc w = true) :
    ndigits w.coeff ≤ cc.prec := by
  unfold fits at h
  rw [hf] at h
  simp only [Bool.and_eq_true, Bool.or_eq_true, beq_iff_eq, decide_eq_true_eq] at h
  rcases h.1.1 with h1 | h1
  · omega
  · exact_mod_cast h1

end Apd.C11Q
