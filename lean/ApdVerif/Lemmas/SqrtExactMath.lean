import ApdVerif.Lemmas.SqrtExactRnd
import ApdVerif.Lemmas.SqrtStep
/-!
# One round of the Sqrt loop with nearest roundings: absolute error analysis over `ℚ`

The root is `r`, the operand `r²`, the iterate `A`; `(A - r)²/A` is twice the overshoot of the exact Newton step
(`SqrtN.newton_id`); a round adds three rounding errors to it (`SqrtN.round_err`).  `err_c10`, `err_c3`, `err_c1`: the rounding
constants by how many roundings may cross 1; `lock_sum`: near enough to a root on the grid the rounded sum is `2r`.
-/
namespace Apd.SqrtX
open Apd.C20L Apd.SqrtN

/-- the Newton term under the invariant of `SqrtI.Inv` -/
theorem theta_inv (r A : ℚ) (hr : 0 < r) (h1 : 9 / 10 * r ≤ A) (h2 : A ≤ 11 / 10 * r) :
    (A - r) ^ 2 / A ≤ r / 90 := by
  have h := newton_term_le r A (r / 10) (9 / 10) (by positivity) h1 (abs_le.2 ⟨by linarith, by linarith⟩)
  have e : (r / 10) ^ 2 / (9 / 10 * r) = r / 90 := by field_simp; ring
  rwa [e] at h

/-- every rounding of the round may cross 1: half quanta `5u`, `5u`, `5u` -/
theorem err_c10 {p : ℕ} {r A qh sh A' : ℚ} (h : Rd p (r ^ 2) A qh sh A') (hr1 : 1 / 10 ≤ r) (hr2 : r < 1)
    (hA1 : 9 / 10 * r ≤ A) (hA2 : A ≤ 11 / 10 * r) (hu : (10 : ℚ) ^ (-(p : ℤ)) ≤ 1 / 10000) :
    |A' - r| ≤ (A - r) ^ 2 / A / 2 + 10 * (10 : ℚ) ^ (-(p : ℤ)) := by
  have hq := quo_le r A (by linarith only [hr1]) hA1
  have e1 := h.rq.err10 (by linarith only [hq, hr2])
  have e2 := h.rs.err10 (by linarith only [(abs_le.1 e1).2, hq, hr2, hA2, hu])
  have e3 := h.rh.err10 (by linarith only [(abs_le.1 e1).2, (abs_le.1 e2).2, hq, hr2, hA2, hu])
  exact (round_err (by linarith only [hA1, hr1]) e1 e2 e3).trans (le_of_eq (by ring))

/-- only the sum may cross 1 (`r ≤ 0.89`): half quanta `u/2`, `5u`, `u/2` -/
theorem err_c3 {p : ℕ} {r A qh sh A' : ℚ} (h : Rd p (r ^ 2) A qh sh A') (hr1 : 1 / 10 ≤ r) (hr2 : r ≤ 89 / 100)
    (hA1 : 9 / 10 * r ≤ A) (hA2 : A ≤ 11 / 10 * r) (hu : (10 : ℚ) ^ (-(p : ℤ)) ≤ 1 / 10000) :
    |A' - r| ≤ (A - r) ^ 2 / A / 2 + 13 / 4 * (10 : ℚ) ^ (-(p : ℤ)) := by
  have hq := quo_le r A (by linarith only [hr1]) hA1
  have e1 := h.rq.err1 (by linarith only [hq, hr2])
  have e2 := h.rs.err10 (by linarith only [(abs_le.1 e1).2, hq, hr2, hA2, hu])
  have e3 := h.rh.err1 (by linarith only [(abs_le.1 e1).2, (abs_le.1 e2).2, hq, hr2, hA2, hu])
  exact (round_err (by linarith only [hA1, hr1]) e1 e2 e3).trans (le_of_eq (by ring))

/-- no rounding crosses 1 (`hs`: the sum stays below 1): half quanta `u/2` thrice -/
theorem err_c1 {p : ℕ} {r A qh sh A' : ℚ} (h : Rd p (r ^ 2) A qh sh A') (hr1 : 1 / 10 ≤ r) (hr2 : r ≤ 89 / 100)
    (hA1 : 9 / 10 * r ≤ A) (hu : (10 : ℚ) ^ (-(p : ℤ)) ≤ 1 / 10000)
    (hs : 2 * r + (A - r) ^ 2 / A + (10 : ℚ) ^ (-(p : ℤ)) / 2 < 1) :
    |A' - r| ≤ (A - r) ^ 2 / A / 2 + (10 : ℚ) ^ (-(p : ℤ)) := by
  have hA : 0 < A := by linarith only [hA1, hr1]
  have hq := quo_le r A (by linarith only [hr1]) hA1
  have hid := newton_id r A hA.ne'
  have e1 := h.rq.err1 (by linarith only [hq, hr2])
  have e2 := h.rs.err1 (by linarith only [(abs_le.1 e1).2, hid, hs])
  have e3 := h.rh.err1 (by linarith only [(abs_le.1 e1).2, (abs_le.1 e2).2, hid, hs, hu])
  exact (round_err hA e1 e2 e3).trans (le_of_eq (by ring))

theorem theta_le (r A D κ v u : ℚ) (hr : 0 < r) (hκ : 0 < κ) (hA : κ * r ≤ A)
    (hd : |A - r| ≤ D * v) (hvu : v ^ 2 ≤ u / 100) :
    (A - r) ^ 2 / A ≤ D ^ 2 / (100 * κ * r) * u := by
  have hκr : 0 < κ * r := mul_pos hκ hr
  refine (newton_term_le r A (D * v) κ hκr hA hd).trans ?_
  rw [mul_pow, div_le_iff₀ hκr]
  have e : D ^ 2 / (100 * κ * r) * u * (κ * r) = D ^ 2 * (u / 100) := by field_simp
  rw [e]
  exact mul_le_mul_of_nonneg_left hvu (sq_nonneg D)

theorem grid_eq (u : ℚ) (hu : 0 < u) (a b : ℤ) (h : |(a : ℚ) * u - (b : ℚ) * u| < u) : a = b := by
  rw [← sub_mul, abs_mul, abs_of_pos hu] at h
  have h1 : |((a - b : ℤ) : ℚ)| < 1 := by
    push_cast
    by_contra hc
    rw [not_lt] at hc
    have := mul_le_mul_of_nonneg_right hc hu.le
    linarith
  have h2 : |a - b| < 1 := by exact_mod_cast h1
  rw [abs_lt] at h2
  omega

theorem pow_neg_split (g p : ℕ) (h : g ≤ p) :
    (10 : ℚ) ^ (-(g : ℤ)) = ((10 ^ (p - g) : ℤ) : ℚ) * (10 : ℚ) ^ (-(p : ℤ)) := by
  push_cast
  rw [← zpow_natCast, ← zpow_add₀ ten_ne]
  congr 1
  push_cast [Nat.cast_sub h]
  ring

theorem frac_le (g : ℕ) (k : ℤ) (h : (k : ℚ) * (10 : ℚ) ^ (-(g : ℤ)) < 1) :
    (k : ℚ) * (10 : ℚ) ^ (-(g : ℤ)) ≤ 1 - (10 : ℚ) ^ (-(g : ℤ)) := by
  have hG := tp (-(g : ℤ))
  have e1 : (1 : ℚ) = ((10 ^ g : ℤ) : ℚ) * (10 : ℚ) ^ (-(g : ℤ)) := by
    push_cast
    rw [← zpow_natCast, ← zpow_add₀ ten_ne]; simp
  have h1 : (k : ℚ) < ((10 ^ g : ℤ) : ℚ) := by
    by_contra hc
    rw [not_lt] at hc
    have := mul_le_mul_of_nonneg_right hc hG.le
    rw [← e1] at this
    linarith
  have h2 : k < 10 ^ g := by exact_mod_cast h1
  have h3 : (k : ℚ) ≤ ((10 ^ g - 1 : ℤ) : ℚ) := by exact_mod_cast (by omega : k ≤ 10 ^ g - 1)
  have := mul_le_mul_of_nonneg_right h3 hG.le
  push_cast at this e1
  rw [sub_mul, ← e1] at this
  linarith

theorem pow_gap (g p : ℕ) (h : g + 3 ≤ p) : (10 : ℚ) ^ (-(p : ℤ)) ≤ (10 : ℚ) ^ (-(g : ℤ)) / 1000 := by
  have h1 : (10 : ℚ) ^ (-(p : ℤ)) ≤ (10 : ℚ) ^ (-(g : ℤ) - 3) := zpow_le_zpow_right₀ ten_ge (by omega)
  have h2 : (10 : ℚ) ^ (-(g : ℤ) - 3) = (10 : ℚ) ^ (-(g : ℤ)) / 1000 := by
    rw [zpow_sub₀ ten_ne]; norm_num
  linarith

theorem lock_sum {p g : ℕ} {r A qh sh A' : ℚ} (h : Rd p (r ^ 2) A qh sh A') (k : ℤ)
    (hk : r = (k : ℚ) * (10 : ℚ) ^ (-(g : ℤ))) (hg : g + 3 ≤ p) (hr1 : 1 / 10 ≤ r) (hr2 : r < 1)
    (m : ℤ) (hm : A = (m : ℚ) * (10 : ℚ) ^ (-(p : ℤ))) (hd : |A - r| ≤ (10 : ℚ) ^ (-(g : ℤ)) / 20)
    (hθ1 : r < 1 / 2 → (A - r) ^ 2 / A ≤ 2 / 5 * (10 : ℚ) ^ (-(p : ℤ)))
    (hθ2 : (A - r) ^ 2 / A ≤ 22 / 5 * (10 : ℚ) ^ (-(p : ℤ))) : sh = 2 * r := by
  have hu0 := tp (-(p : ℤ))
  have hG0 := tp (-(g : ℤ))
  have hGu := pow_gap g p hg
  have hG1 : (10 : ℚ) ^ (-(g : ℤ)) ≤ 1 := zpow_le_one_of_nonpos₀ ten_ge (by omega)
  obtain ⟨d1, d2⟩ := abs_le.1 hd
  have hr3 : r ≤ 1 - (10 : ℚ) ^ (-(g : ℤ)) := by rw [hk]; apply frac_le; rw [← hk]; exact hr2
  have hr0 : 0 ≤ r := by linarith only [hr1]
  have hA : 0 < A := by linarith only [d1, hr1, hG1]
  have hth0 := newton_term_nonneg r A hA
  have hid := newton_id r A hA.ne'
  -- 2r on the grids
  have h2r : 2 * r = ((2 * k : ℤ) : ℚ) * (10 : ℚ) ^ (-(g : ℤ)) := by rw [hk]; push_cast; ring
  have h2ru : 2 * r = ((2 * k * 10 ^ (p - g) : ℤ) : ℚ) * (10 : ℚ) ^ (-(p : ℤ)) := by
    rw [h2r, pow_neg_split g p (by omega)]; push_cast; ring
  have hr4 : 2 * r < 1 → 2 * r ≤ 1 - (10 : ℚ) ^ (-(g : ℤ)) := fun h1 => by
    rw [h2r]; apply frac_le; rw [← h2r]; exact h1
  -- the quotient is below 1, and at least 1/10 unless `r < 1/2`
  have hq1 : r ^ 2 / A < 1 := by
    rw [div_lt_one hA]
    linarith only [mul_le_mul_of_nonneg_left hr3 hr0, mul_le_mul_of_nonneg_right hr1 hG0.le, d1, hG0]
  have hq01 : r ^ 2 / A < 1 / 10 → r < 1 / 2 := fun hq => by
    by_contra hc; rw [not_lt] at hc
    refine absurd hq (not_lt.2 ?_)
    rw [le_div_iff₀ hA]
    linarith only [mul_le_mul_of_nonneg_left hc hr0, d2, hG1, hc]
  -- from here on the quotient and the Newton term are two numbers `q`, `θ` with `q + A - 2r = θ`
  have hRq := h.rq
  generalize r ^ 2 / A = q at hq1 hq01 hid hRq
  generalize (A - r) ^ 2 / A = θ at hθ1 hθ2 hth0 hid
  generalize (10 : ℚ) ^ (-(g : ℤ)) = G at hG0 hGu hG1 hr3 hr4 d1 d2
  obtain ⟨e1a, e1b⟩ := abs_le.1 (hRq.err1 hq1)
  by_cases hq : q < 1 / 10
  · have hrs := hq01 hq
    obtain ⟨f1, f2⟩ := abs_le.1 (hRq.err01 hq)
    have hθ := hθ1 hrs
    have hr4' := hr4 (by linarith only [hrs])
    apply h.rs.snap (b := -1) (z := -(g : ℤ)) (by norm_num; linarith only [f1, hid, hth0, hr1, hGu, hG1])
      (by norm_num; linarith only [f2, hid, hθ, hr4', hGu, hG0]) _ _ h2r (by omega)
    rw [q1, abs_lt]
    constructor
    · linarith only [f1, hid, hth0, hu0]
    · linarith only [f2, hid, hθ, hu0]
  · rw [not_lt] at hq
    obtain ⟨n, hn⟩ := hRq.mult (b := -1) (by norm_num; exact hq)
    rw [q1] at hn
    have hs : qh + A = ((n + m : ℤ) : ℚ) * (10 : ℚ) ^ (-(p : ℤ)) := by rw [hn, hm]; push_cast; ring
    by_cases hs1 : qh + A < 1
    · -- the sum is a multiple of `u` within `u` of `2r`: it is `2r`
      have hclose : |qh + A - 2 * r| < (10 : ℚ) ^ (-(p : ℤ)) := by
        rw [abs_lt]
        refine ⟨by linarith only [e1a, hid, hth0, hu0], ?_⟩
        by_cases hrs : r < 1 / 2
        · linarith only [e1b, hid, hθ1 hrs, hu0]
        · linarith only [hs1, hrs, hu0]
      rw [hs, h2ru] at hclose
      have hs2 : qh + A = 2 * r := by rw [hs, h2ru, grid_eq _ hu0 _ _ hclose]
      have := h.rs.exact (b := -1) (z := -(g : ℤ)) (by norm_num; exact hs1) (2 * k) (by rw [hs2, h2r]) (by omega)
      rw [this, hs2]
    · rw [not_lt] at hs1
      apply h.rs.snap (b := 0) (z := -(g : ℤ)) (by norm_num; exact hs1)
        (by norm_num; linarith only [e1b, hq1, d2, hr2, hG1, hGu]) _ _ h2r (by omega)
      rw [q0, abs_lt]
      constructor
      · linarith only [e1a, hid, hth0, hu0]
      · linarith only [e1b, hid, hθ2, hu0]

theorem lock {p g : ℕ} {r A qh sh A' : ℚ} (h : Rd p (r ^ 2) A qh sh A') (k : ℤ)
    (hk : r = (k : ℚ) * (10 : ℚ) ^ (-(g : ℤ))) (hg : g + 3 ≤ p) (hr1 : 1 / 10 ≤ r) (hr2 : r < 1)
    (m : ℤ) (hm : A = (m : ℚ) * (10 : ℚ) ^ (-(p : ℤ))) (hd : |A - r| ≤ (10 : ℚ) ^ (-(g : ℤ)) / 20)
    (hθ1 : r < 1 / 2 → (A - r) ^ 2 / A ≤ 2 / 5 * (10 : ℚ) ^ (-(p : ℤ)))
    (hθ2 : (A - r) ^ 2 / A ≤ 22 / 5 * (10 : ℚ) ^ (-(p : ℤ))) : A' = r := by
  have hs := lock_sum h k hk hg hr1 hr2 m hm hd hθ1 hθ2
  have e : sh * (1 / 2) = r := by rw [hs]; ring
  have := h.rh.exact (b := -1) (z := -(g : ℤ)) (by norm_num; rw [e]; exact hr2) k (by rw [e]; exact hk) (by omega)
  rw [this, e]

end Apd.SqrtX
