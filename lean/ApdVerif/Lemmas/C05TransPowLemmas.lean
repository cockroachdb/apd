import ApdVerif.Lemmas.C05TransLogLemmas
/-!
# Run lemmas for `powP` (`Imp/TransOps.lean`)

`powT_eq` cuts `powT` into its special cases, `powMainV` (integer power) and `powFracV` (`x**frac(y)`); `SRes`/`STRes`
is the contract without the `Aborted` exclusion, which `powP_run` establishes; `powMid_sim` carries the simulation
`EDSim` through the `Ln`/`Mul`/`Exp` block on the local `tmp`.
-/
namespace Apd.Imp
open Apd.Cond

/-- `x**frac(y)` and the final multiplication (the text of `powT`) -/
def powFracV (c nc : Ctx) (x z frac : Dec) (res : Cond) (tape : Tape) : Option (Out × Tape) :=
  let ed : ED := { c := nc }
  let s1 := ed.step decZero (fun c => absOp c x)
  match powMid nc s1 frac tape with
  | none => none
  | some (e4, tmp, tape) =>
    let s5 := e4.step tmp (fun c => mulOp c z tmp)
    if s5.1.failed then some ({ d := decNaN, fl := s5.1.fl, err := s5.1.errOf }, tape) else
    let rr := ctxRound c s5.2
    let res := res ||| rr.2 ||| cInexact ||| cRounded
    some ({ d := { rr.1 with neg := false }, fl := res, err := goError c.traps res }, tape)

/-- `powT` after the integer power (its text) -/
def powRestV (c nc : Ctx) (x : Dec) (ip : Dec × Cond × ErrKind) (qfl : Cond) (y : Dec) (tape : Tape) :
    Option (Out × Tape) :=
  let res := qfl ||| ip.2.1
  if ip.2.2 != .none then some ({ d := decNaN, fl := res, err := ip.2.2 }, tape) else
  if (modf y).2.isZero then
    let r := ctxRound c ip.1
    some (finish c (r.1, res ||| r.2), tape)
  else powFracV c nc x ip.1 (modf y).2 res tape

/-- `powT` when no special case applies (its text) -/
def powMainV (c : Ctx) (x y : Dec) (tape : Tape) : Option (Out × Tape) :=
  let nd := ndigits x.coeff
  let p := (if c.prec < nd then nd else c.prec) + 10
  let nc : Ctx := { baseCtx with prec := p }
  let qi := quantizeCore c (modf y).1 0
  let integ : Int := if qi.1.neg then -(qi.1.coeff : Int) else (qi.1.coeff : Int)
  powRestV c nc x (integerPower nc x integ) qi.2 y tape

/-- `SRes` with a decision tape.  `Context.Pow` sets `d` to NaN on the error exit of the fractional part (DESIGN §7), so
every outcome of `powT` has a definite destination and `Pow` meets this contract, without the `Aborted` exclusion of
`TTRes`, for every aliasing. -/
def STRes (r : Option (Res × Tape) × Heap) (d : Cell) (h : Heap) (m : Option (Out × Tape)) : Prop :=
  match m with
  | none => r.1 = none ∧ ∃ v, r.2 = h.set d v
  | some (m, t) => ∃ res, r.1 = some (res, t) ∧ SRes (res, r.2) d h m

theorem STRes.mk {res : Res} {t : Tape} {hp : Heap} {d : Cell} {h : Heap} {m : Out}
    (hr : SRes (res, hp) d h m) : STRes (Option.some (res, t), hp) d h (Option.some (m, t)) := ⟨res, rfl, hr⟩

theorem STRes.reject' (d : Cell) (h : Heap) (v : Dec) : STRes (Option.none, h.set d v) d h Option.none :=
  ⟨rfl, v, rfl⟩

theorem STRes.toT {r : Option (Res × Tape) × Heap} {d : Cell} {h : Heap} {m : Option (Out × Tape)}
    (hr : STRes r d h m) : TTRes r d h m := by
  cases m with
  | none => exact hr
  | some mt =>
    obtain ⟨m, t⟩ := mt
    obtain ⟨res, h1, hs⟩ := hr
    exact ⟨res, h1, TRes.ofOp hs⟩

def powTV (c : Ctx) (x y : Dec) (tape : Tape) : Option (Out × Tape) :=
  match powSpecials c x y with
  | some o => some (o, tape)
  | none => powMainV c x y tape

theorem powMid_eq (nc : Ctx) (s1 : ED × Dec) (frac : Dec) (tape : Tape) :
    powMid nc s1 frac tape =
      match (if s1.1.failed then some (s1.1, s1.2, tape) else
              match lnT nc s1.2 tape with
              | none => none
              | some (o, tape) => some ({ s1.1 with fl := s1.1.fl ||| o.fl, err := o.err }, o.d, tape) :
              Option (ED × Dec × Tape)) with
      | none => none
      | some (e2, tmp, tape) =>
        let s3 := e2.step tmp (fun c => mulOp c tmp frac)
        if s3.1.failed then some (s3.1, s3.2, tape) else
        match expT nc s3.2 tape with
        | none => none
        | some (o, tape) => some ({ s3.1 with fl := s3.1.fl ||| o.fl, err := o.err }, o.d, tape) := rfl

theorem powT_eq (c : Ctx) (x y : Dec) (tape : Tape) : powT c x y tape = powTV c x y tape := by
  unfold powT powTV
  cases hsp : powSpecials c x y with
  | some o => rfl
  | none =>
    simp only []
    unfold powMainV powRestV powIntOp powFracV
    rw [hsp]
    simp only []
    generalize quantizeCore c (modf y).1 0 = qi
    generalize integerPower _ x _ = ip
    by_cases hz : (modf y).2.isZero = true
    · simp only [hz, if_true, Bool.not_true, Bool.false_eq_true, if_false]
      by_cases h1 : (ip.2.2 != ErrKind.none) = true
      · simp only [h1, if_true, Option.map_some]
      · simp only [h1, if_false, Bool.false_eq_true, Option.map_some]
    · simp only [hz, if_false, Bool.false_eq_true]
      by_cases h1 : (ip.2.2 != ErrKind.none) = true
      · simp only [h1, if_true]
      · simp only [h1, if_false, Bool.false_eq_true]
        unfold powMid
        simp only []
        generalize ED.step _ decZero _ = s1
        by_cases hf1 : s1.1.failed = true
        · simp only [hf1, if_true]
          rfl
        · simp only [hf1, if_false, Bool.false_eq_true]
          cases lnT _ s1.2 tape with
          | none => rfl
          | some ot => rfl

@[simp, prog_run] theorem run_modfLoc2 (y : Src) (h : Heap) : run (modfLoc2 y) h = (modf (y.val h), h) := by
  unfold modfLoc2 modf
  simp only [prog_run]
  by_cases h1 : (y.val h).exp > 0
  · simp only [h1, if_true]
  · simp only [h1, if_false]
    by_cases h2 : -(y.val h).exp > (ndigits (y.val h).coeff : Int)
    · simp only [h2, if_true]
    · simp only [h2, if_false]

theorem ED.step_cur {e : ED} (hf : e.failed = false) (a b : Dec) (op : Ctx → Out) : e.step a op = e.step b op := by
  rw [ED.step_of_ok hf, ED.step_of_ok hf]

theorem powMid_failed (nc : Ctx) (s : ED × Dec) (frac : Dec) (tape : Tape) (hf : s.1.failed = true) :
    powMid nc s frac tape = some (s.1, s.2, tape) := by
  unfold powMid
  simp only [hf, if_true, ED.step_of_failed hf]

theorem powMid_sim (nc : Ctx) {e' em : ED} {z' zm : Dec} (hs : EDSim e' z' em zm) (frac : Dec) (tape : Tape) :
    (powMid nc (e', z') frac tape = none ∧ powMid nc (em, zm) frac tape = none) ∨
    ∃ e2 z2 e2m z2m tp, powMid nc (e', z') frac tape = some (e2, z2, tp) ∧
      powMid nc (em, zm) frac tape = some (e2m, z2m, tp) ∧ EDSim e2 z2 e2m z2m := by
  rcases hs with ⟨rfl, rfl⟩ | ⟨hnd, he, hc⟩
  · cases hp : powMid nc (e', z') frac tape with
    | none => exact Or.inl ⟨rfl, rfl⟩
    | some r =>
      obtain ⟨e2, z2, tp⟩ := r
      exact Or.inr ⟨e2, z2, e2, z2, tp, rfl, rfl, EDSim.refl _ _⟩
  · have h1 : em.failed = true := ED.failed_of_not_delivered hnd
    have h2 : e'.failed = true := ED.failed_of_not_delivered (by rw [he]; exact hnd)
    rw [powMid_failed nc (e', z') frac tape h2, powMid_failed nc (em, zm) frac tape h1]
    exact Or.inr ⟨e', z', em, zm, tape, rfl, rfl, Or.inr ⟨hnd, he, hc⟩⟩

/-- `powFracP_run` and `powRestP_run` run from a heap `h'` in which `d` may already have been overwritten (`hh`, `hh'`)
and state the contract against the heap `h` of the call, as `OpRun.after_set` does -/
theorem powFracP_run (c nc : Ctx) (d : Cell) (x zs : Src) (frac tmp0 : Dec) (res : Cond) (tape : Tape)
    (h h' : Heap) (hh : ∃ v0, h' = h.set d v0) :
    STRes (run (powFracP c nc d x zs frac tmp0 false res tape) h') d h
      (powFracV c nc (x.val h') (zs.val h') frac res tape) := by
  obtain ⟨v0, hv0⟩ := hh
  have hxL : x ≠ .cell (freshCell d x.addr zs.addr) := Src.ne_cell_fresh x d zs.addr
  have hzL : zs ≠ .cell (freshCell d x.addr zs.addr) := Src.ne_cell_fresh3 zs d x.addr
  unfold powFracP powFracV
  simp only [run_bind]
  rw [ED.step_cur (ED.fresh_not_failed nc) decZero tmp0]
  obtain ⟨e1, z1, hr1, hs1⟩ := edStepP_sim (EDSim.refl ({ c := nc } : ED) tmp0)
    (fun cc => localize (freshCell d x.addr zs.addr) (absP cc (freshCell d x.addr zs.addr) x) tmp0)
    (fun cc => absOp cc (x.val h')) h'
    (fun _ _ => by
      have := (absP_run nc (freshCell d x.addr zs.addr) x (h'.set (freshCell d x.addr zs.addr) tmp0)).localize
      rw [Src.val_set_of_ne hxL] at this
      exact this)
  rw [hr1]
  simp only []
  rcases powMid_sim nc hs1 frac tape with ⟨hp1, hp2⟩ | ⟨e2, z2, e2m, z2m, tp, hp1, hp2, hs2⟩
  · rw [hp1, hp2, hv0]
    exact STRes.reject' d h v0
  · rw [hp1, hp2]
    simp only [run_bind]
    obtain ⟨e5, z5, hr5, hs5⟩ := edStepP_sim hs2
      (fun cc => localize (freshCell d x.addr zs.addr)
        (mulP cc (freshCell d x.addr zs.addr) zs (.cell (freshCell d x.addr zs.addr))) z2)
      (fun cc => mulOp cc (zs.val h') z2m) h'
      (fun _ hz => by
        have := run_mulLoc e2m.c (freshCell d x.addr zs.addr) zs (.cell (freshCell d x.addr zs.addr)) z2 h'
        rw [Src.val_set_of_ne hzL] at this
        simpa [hz] using this)
    rw [hr5]
    simp only [run_ite, hs5.failed]
    generalize e2m.step z2m (fun cc => mulOp cc (zs.val h') z2m) = s5 at hs5 ⊢
    by_cases hf : s5.1.failed = true
    · simp only [prog_run, hf, if_true, hv0]
      refine STRes.mk ⟨e5.fl, 0, decNaN, by rw [hs5.errOf], fun hd => ?_⟩
      obtain ⟨rfl, _⟩ := hs5.eq_of_delivered hd
      exact ⟨rfl, rfl, rfl⟩
    · simp only [hf, if_false, Bool.false_eq_true]
      obtain ⟨rfl, rfl⟩ := hs5.cases.resolve_left hf
      simp only [prog_run, ctxRound, hv0]
      exact STRes.mk (SRes.exact d h { d := _, fl := _, err := _ })

/-- `nc.integerPower(z, x, y)` with `z` a fresh local at the virtual address `L` -/
theorem integerPowerP_loc (c : Ctx) (L : Cell) (x : Src) (y : Int) (z : Dec) (h : Heap) (hx : x ≠ .cell L) :
    ∃ fl v, run (localize L (integerPowerP c L x y) z) h = (((fl, (integerPower c (x.val h) y).2.2), v), h) ∧
      (Delivered (integerPower c (x.val h) y).2.2 →
        fl = (integerPower c (x.val h) y).2.1 ∧ v = (integerPower c (x.val h) y).1) := by
  obtain ⟨fl, v, hr, hd⟩ := integerPowerP_run c L x y (h.set L z)
  rw [Src.val_set_of_ne hx] at hr hd
  refine ⟨fl, v, ?_, hd⟩
  rw [run_localize, hr]; simp

theorem powRestP_run (c nc : Ctx) (d : Cell) (x zs : Src) (fl : Cond) (ip : Dec × Cond × ErrKind) (qfl : Cond)
    (Y tmp0 : Dec) (neg : Bool) (tape : Tape) (h h' : Heap) (hh' : ∃ v0, h' = h.set d v0) (v : Dec)
    (hzv : zs.val h' = v) (hd : Delivered ip.2.2 → fl = ip.2.1 ∧ v = ip.1)
    (hneg : (modf Y).2.isZero = false → neg = false) :
    STRes (run (powRestP c nc d x zs (fl, ip.2.2) qfl (modf Y).2 tmp0 (modf Y).2.isZero neg tape) h') d h
      (powRestV c nc (x.val h') ip qfl Y tape) := by
  unfold powRestP powRestV
  simp only [run_ite]
  by_cases he : (ip.2.2 != ErrKind.none) = true
  · simp only [prog_run, he, if_true]
    obtain ⟨v0, rfl⟩ := hh'
    refine STRes.mk ⟨qfl ||| fl, 0, decNaN, by simp, fun hdel => ?_⟩
    obtain ⟨rfl, _⟩ := hd hdel
    exact ⟨rfl, rfl, rfl⟩
  · simp only [he, if_false, Bool.false_eq_true]
    have hnone : ip.2.2 = .none := by simpa using he
    obtain ⟨rfl, rfl⟩ := hd (Or.inl hnone)
    by_cases hz : (modf Y).2.isZero = true
    · simp only [prog_run, hz, if_true, hzv, finish, ctxRound]
      obtain ⟨v0, rfl⟩ := hh'
      simp only [Heap.set_set]
      exact STRes.mk (SRes.exact d h { d := _, fl := _, err := _ })
    · simp only [hz, if_false, Bool.false_eq_true]
      have hnf : neg = false := hneg (by simpa using hz)
      subst hnf
      have := powFracP_run c nc d x zs (modf Y).2 tmp0 (qfl ||| ip.2.1) tape h h' hh'
      rw [hzv] at this
      exact this

theorem powMainP_run (c : Ctx) (d : Cell) (x : Src) (Y tmp0 : Dec) (neg : Bool) (tape : Tape) (h : Heap)
    (hneg : (modf Y).2.isZero = false → neg = false) :
    STRes (run (powMainP c d x (modf Y).1 (modf Y).2 tmp0 (modf Y).2.isZero neg tape) h) d h
      (powMainV c (x.val h) Y tape) := by
  have hmv : powMainV c (x.val h) Y tape =
      powRestV c { baseCtx with prec := (if c.prec < ndigits (x.val h).coeff then ndigits (x.val h).coeff
          else c.prec) + 10 } (x.val h)
        (integerPower { baseCtx with prec := (if c.prec < ndigits (x.val h).coeff then ndigits (x.val h).coeff
          else c.prec) + 10 } (x.val h)
          (if (quantizeCore c (modf Y).1 0).1.neg = true then -((quantizeCore c (modf Y).1 0).1.coeff : Int)
           else ((quantizeCore c (modf Y).1 0).1.coeff : Int)))
        (quantizeCore c (modf Y).1 0).2 Y tape := rfl
  rw [hmv]
  unfold powMainP
  simp only [prog_run]
  generalize ({ baseCtx with prec := (if c.prec < ndigits (x.val h).coeff then ndigits (x.val h).coeff
    else c.prec) + 10 } : Ctx) = nc
  generalize quantizeCore c (modf Y).1 0 = qi
  generalize (if qi.1.neg = true then -(qi.1.coeff : Int) else (qi.1.coeff : Int)) = integ
  by_cases ha : x = Src.cell d
  · simp only [ha, if_true]
    obtain ⟨fl, v, hr, hd⟩ := integerPowerP_loc nc (freshCell d d 0) (.cell d) integ {} h
      (by have := Src.ne_cell_fresh (.cell d) d 0; simpa [Src.addr] using this)
    simp only [Src.addr, hr]
    have := powRestP_run c nc d (.cell d) (.const v) fl (integerPower nc (h d) integ) qi.2 Y tmp0 neg tape h h
      ⟨h d, by simp⟩ v rfl (by simpa using hd) hneg
    simpa using this
  · simp only [ha, if_false]
    obtain ⟨fl, v, hr, hd⟩ := integerPowerP_run nc d x integ h
    rw [hr]
    have := powRestP_run c nc d x (.cell d) fl (integerPower nc (x.val h) integ) qi.2 Y tmp0 neg tape h (h.set d v)
      ⟨v, rfl⟩ v (by simp) hd hneg
    rw [Src.val_set_of_ne ha] at this
    exact this

/-- runs the writes left at a leaf of `powP_run` (setDec/wrNeg/retT), then `rfl` -/
macro "pow_leaf" : tactic =>
  `(tactic| (simp only [prog_run, goError_noFlags]
             exact STRes.mk ⟨_, _, _, rfl, fun _ => ⟨rfl, rfl, rfl⟩⟩))

theorem and_ite_self (a b : Bool) : (a && (if a = true then b else false)) = (a && b) := by
  cases a <;> simp

theorem powP_run (c : Ctx) (d : Cell) (x y : Src) (tape : Tape) (h : Heap) :
    STRes (run (powP c d x y tape) h) d h (powT c (x.val h) (y.val h) tape) := by
  rw [powT_eq]
  unfold powP powTV powSpecials
  simp only [run_bind, run_shouldSetAsNaNP, Option.map_some, run_ite, run_modfLoc2, run_rdNeg, run_rdForm, run_pure,
    ite_pair_heap, run_signP, run_snapP]
  by_cases hn : shouldSetAsNaN (x.val h) (some (y.val h)) = true
  · simp only [hn, if_true, run_setAsNaNP c d x (some y) h hn, Option.map_some, run_retT]
    exact STRes.mk ⟨_, _, _, rfl, fun _ => ⟨rfl, by simp, rfl⟩⟩
  bsimp [hn]
  simp only [Bool.if_false_right, Bool.decide_eq_true, Bool.and_self_left]
  cases hxi : ((x.val h).form == Form.infinite) <;> bsimp [hxi]
  rotate_left
  · cases hys : ((y.val h).sign == 0) <;> bsimp [hys]
    · cases hbad : ((x.val h).neg && ((y.val h).form == Form.infinite || !(modf (y.val h)).snd.isZero)) <;>
        bsimp [hbad]
      · cases hyn : (y.val h).neg <;> bsimp [hyn] <;> pow_leaf
      · pow_leaf
    · pow_leaf
  cases hxs : ((x.val h).sign == 0) <;> bsimp [hxs]
  rotate_left
  · cases hys : ((y.val h).sign == 0) <;> bsimp [hys]
    · cases hys1 : ((y.val h).sign == 1) <;> bsimp [hys1] <;> pow_leaf
    · pow_leaf
  cases hys : ((y.val h).sign == 0) <;> bsimp [hys]
  rotate_left
  · pow_leaf
  cases hyi : ((y.val h).form == Form.infinite) <;> bsimp [hyi]
  rotate_left
  · simp only [run_cmpP, Src.val_const]
    by_cases hneg : (x.val h).sign < 0
    · simp only [hneg, if_true]
      unfold invalidNaN
      pow_leaf
    · simp only [hneg, if_false]
      cases hc0 : ((x.val h).cmp decOne == 0) <;> bsimp [hc0]
      · cases hcy : (decide ((x.val h).cmp decOne > 0) != (y.val h).neg) <;> bsimp [hcy] <;> pow_leaf
      · pow_leaf
  cases hni : (decide ((x.val h).sign < 0) && !(modf (y.val h)).snd.isZero) <;> bsimp [hni]
  rotate_left
  · unfold invalidNaN
    pow_leaf
  exact powMainP_run c d x (y.val h) _ _ tape h (fun hz => by simp [hz])
end Apd.Imp
