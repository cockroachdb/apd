import Mathlib.Analysis.Complex.Exponential
import Mathlib.Tactic.Ring
import Mathlib.Tactic.Linarith
import Mathlib.Tactic.NormNum
import Mathlib.Tactic.Positivity
/-!
# Errors of rounded operations over ℝ: one factor `(1+δ)`, `|δ| ≤ u`, per rounding

Absolute error bounds are carried through a product, a rounded sum and one more rounding directly.  For chains of
products, quotients and powers, `RelW ω X X̂` says `X̂ = X·W` with `e^{-ω} ≤ W ≤ e^{ω}`, for `X` of either sign: the
`ω`s add, one rounding costs `v = u/(1-u)` (`RelW.one_add`), and a product of `k` rounding factors leaves the
logarithmic scale through `RelW.abs_sub_one_le` and `gamma_le` as `|Θ - 1| ≤ c·u`.
-/
namespace Apd.ExpAcc
open Real

theorem abs_one_add_le {δ u : ℝ} (h : |δ| ≤ u) : |1 + δ| ≤ 1 + u :=
  (abs_add_le 1 δ).trans (by rw [abs_one]; linarith)

theorem mul_err {a ah b bh : ℝ} : |ah * bh - a * b| ≤ |ah| * |bh - b| + |ah - a| * |b| := by
  rw [show ah * bh - a * b = ah * (bh - b) + (ah - a) * b by ring, ← abs_mul, ← abs_mul]
  exact abs_add_le _ _

theorem sum_err {t A F L B R δ u a b : ℝ} (hF : F = (t + A) * (1 + δ)) (hR : R = L + B)
    (ht : |t - L| ≤ a) (hA : |A - B| ≤ b) (hδ : |δ| ≤ u) : |F - R| ≤ (a + b) * (1 + u) + u * |R| := by
  have id : F - R = ((t - L) + (A - B)) * (1 + δ) + δ * R := by rw [hF, hR]; ring
  have hab : |(t - L) + (A - B)| ≤ a + b := (abs_add_le _ _).trans (add_le_add ht hA)
  rw [id]
  refine (abs_add_le _ _).trans (add_le_add ?_ ?_)
  · rw [abs_mul]
    exact mul_le_mul hab (abs_one_add_le hδ) (abs_nonneg _) ((abs_nonneg _).trans hab)
  · rw [abs_mul]; exact mul_le_mul_of_nonneg_right hδ (abs_nonneg _)

theorem err_to_self {F R a k : ℝ} (h : |F - R| ≤ a + k * |R|) (hk : 0 ≤ k) : (1 - k) * |F - R| ≤ a + k * |F| := by
  have h1 : |R| ≤ |F| + |F - R| := by
    have := abs_sub_abs_le_abs_sub R F
    rw [abs_sub_comm] at this; linarith
  have h2 := mul_le_mul_of_nonneg_left h1 hk
  linarith

theorem abs_le_of_rounded {F l δ u : ℝ} (hδ : |δ| ≤ u) (hu : u ≤ 1) (hl : l = F * (1 + δ)) :
    |F| * (1 - u) ≤ |l| ∧ |l - F| ≤ u * |F| := by
  constructor
  · rw [hl, abs_mul]
    refine mul_le_mul_of_nonneg_left ?_ (abs_nonneg F)
    rw [abs_of_nonneg] <;> linarith only [(abs_le.1 hδ).1, hu]
  · rw [show l - F = δ * F by rw [hl]; ring, abs_mul]
    exact mul_le_mul_of_nonneg_right hδ (abs_nonneg F)

theorem self_rel_round {F l R a κ δ u : ℝ} (hκ : 0 ≤ κ) (hu0 : 0 ≤ u) (hu : u < 1) (hδ : |δ| ≤ u)
    (hl : l = F * (1 + δ)) (h : |F - R| ≤ a + κ * |F|) : |l - R| ≤ a + (κ + u) / (1 - u) * |l| := by
  obtain ⟨h1, h2⟩ := abs_le_of_rounded hδ hu.le hl
  have h3 : (κ + u) * |F| ≤ (κ + u) / (1 - u) * |l| := by
    rw [div_mul_eq_mul_div, le_div_iff₀ (sub_pos.2 hu), mul_assoc]
    exact mul_le_mul_of_nonneg_left h1 (add_nonneg hκ hu0)
  linarith only [abs_sub_le l F R, h2, h, h3]

theorem le_v {u : ℝ} (hu : 0 ≤ u) (hu1 : u < 1) : u ≤ u / (1 - u) := by
  rw [le_div_iff₀ (sub_pos.2 hu1)]; exact mul_le_of_le_one_right hu (by linarith only [hu])

theorem v_bounds (u : ℝ) (hu : 0 ≤ u) (hu1 : u ≤ 1 / 200) : u ≤ u / (1 - u) ∧ u / (1 - u) ≤ 200 / 199 * u := by
  have h2 : u * u ≤ 1 / 200 * u := mul_le_mul_of_nonneg_right hu1 hu
  refine ⟨le_v hu (by linarith only [hu1]), ?_⟩
  rw [div_le_iff₀ (by linarith only [hu1])]; linarith only [h2]

theorem v_nonneg (u : ℝ) (hu : 0 ≤ u) (hu1 : u ≤ 1 / 200) : 0 ≤ u / (1 - u) :=
  le_trans hu (v_bounds u hu hu1).1

theorem exp_sub_one_le (x m : ℝ) (h0 : 0 ≤ x) (hm : x ≤ m) (hm1 : m ≤ 1) :
    exp x - 1 ≤ x * (1 + m / 2 + 2 / 9 * m ^ 2) := by
  have h := Real.exp_bound' h0 (hm.trans hm1) (n := 3) (by norm_num)
  simp only [Finset.sum_range_succ, Finset.sum_range_zero, Nat.factorial] at h
  norm_num at h
  have p1 := mul_le_mul_of_nonneg_left hm h0
  have p2 := mul_le_mul_of_nonneg_left (pow_le_pow_left₀ h0 hm 2) h0
  linarith only [h, p1, p2]

/-- in `hc`, `200/199 ≥ v/u` and `k/199 ≥ kv` is the `m` of `exp_sub_one_le` -/
theorem gamma_le (k c u : ℝ) (hk : 0 ≤ k) (hk1 : k ≤ 199) (hu : 0 ≤ u) (hu1 : u ≤ 1 / 200)
    (hc : k * (200 / 199) * (1 + k / 199 / 2 + 2 / 9 * (k / 199) ^ 2) ≤ c) :
    exp (k * (u / (1 - u))) - 1 ≤ c * u := by
  have v2 := (v_bounds u hu hu1).2
  have h1 : k * (u / (1 - u)) ≤ k / 199 := by
    have := mul_le_mul_of_nonneg_left (v2.trans (mul_le_mul_of_nonneg_left hu1 (by norm_num))) hk
    linarith only [this]
  have hf : 0 ≤ 1 + k / 199 / 2 + 2 / 9 * (k / 199) ^ 2 := by positivity
  calc exp (k * (u / (1 - u))) - 1 ≤ k * (u / (1 - u)) * (1 + k / 199 / 2 + 2 / 9 * (k / 199) ^ 2) :=
        exp_sub_one_le _ _ (mul_nonneg hk (v_nonneg u hu hu1)) h1 (by linarith only [hk1])
    _ ≤ k * (200 / 199 * u) * (1 + k / 199 / 2 + 2 / 9 * (k / 199) ^ 2) :=
        mul_le_mul_of_nonneg_right (mul_le_mul_of_nonneg_left v2 hk) hf
    _ = k * (200 / 199) * (1 + k / 199 / 2 + 2 / 9 * (k / 199) ^ 2) * u := by ring
    _ ≤ c * u := mul_le_mul_of_nonneg_right hc hu

end Apd.ExpAcc

namespace Apd.LnAcc
open Real Apd.ExpAcc

def RelW (ω X Xh : ℝ) : Prop := ∃ W : ℝ, Xh = X * W ∧ exp (-ω) ≤ W ∧ W ≤ exp ω

theorem RelW.refl (X : ℝ) : RelW 0 X X := ⟨1, by ring, by simp, by simp⟩

theorem RelW.mono {ω ω' X Xh : ℝ} (h : RelW ω X Xh) (hω : ω ≤ ω') : RelW ω' X Xh := by
  obtain ⟨W, e, l, u⟩ := h
  exact ⟨W, e, le_trans (exp_le_exp.2 (by linarith)) l, le_trans u (exp_le_exp.2 hω)⟩

theorem RelW.mul {ω1 ω2 a ah b bh : ℝ} (h1 : RelW ω1 a ah) (h2 : RelW ω2 b bh) :
    RelW (ω1 + ω2) (a * b) (ah * bh) := by
  obtain ⟨W1, e1, l1, u1⟩ := h1
  obtain ⟨W2, e2, l2, u2⟩ := h2
  have p1 : 0 < W1 := lt_of_lt_of_le (exp_pos _) l1
  have p2 : 0 < W2 := lt_of_lt_of_le (exp_pos _) l2
  refine ⟨W1 * W2, by rw [e1, e2]; ring, ?_, ?_⟩
  · rw [neg_add, exp_add]; exact mul_le_mul l1 l2 (exp_pos _).le p1.le
  · rw [exp_add]; exact mul_le_mul u1 u2 p2.le (exp_pos _).le

theorem RelW.mul_exact {ω a ah : ℝ} (h : RelW ω a ah) (k : ℝ) : RelW ω (a * k) (ah * k) := by
  obtain ⟨W, e, l, u⟩ := h
  exact ⟨W, by rw [e]; ring, l, u⟩

theorem RelW.div_const {ω a ah : ℝ} (h : RelW ω a ah) (k : ℝ) : RelW ω (a / k) (ah / k) := by
  obtain ⟨W, e, l, u⟩ := h
  exact ⟨W, by rw [e]; ring, l, u⟩

theorem inv_mem {ω W : ℝ} (l : exp (-ω) ≤ W) (u : W ≤ exp ω) : exp (-ω) ≤ W⁻¹ ∧ W⁻¹ ≤ exp ω := by
  constructor
  · rw [exp_neg]; exact inv_anti₀ ((exp_pos _).trans_le l) u
  · rw [← inv_inv (exp ω), ← exp_neg]; exact inv_anti₀ (exp_pos _) l

theorem RelW.inv {ω a ah : ℝ} (h : RelW ω a ah) : RelW ω a⁻¹ ah⁻¹ := by
  obtain ⟨W, e, l, u⟩ := h
  exact ⟨W⁻¹, by rw [e, mul_inv], inv_mem l u⟩

theorem RelW.symm {ω a b : ℝ} (h : RelW ω a b) : RelW ω b a := by
  obtain ⟨W, e, l, u⟩ := h
  exact ⟨W⁻¹, by rw [e, mul_assoc, mul_inv_cancel₀ ((exp_pos _).trans_le l).ne', mul_one], inv_mem l u⟩

theorem RelW.trans {ω1 ω2 a b c : ℝ} (h1 : RelW ω1 a b) (h2 : RelW ω2 b c) : RelW (ω1 + ω2) a c := by
  obtain ⟨W2, e2, l2, u2⟩ := h2
  have := h1.mul (⟨W2, (one_mul _).symm, l2, u2⟩ : RelW ω2 1 W2)
  rwa [mul_one, ← e2] at this

theorem RelW.div {ω1 ω2 a ah b bh : ℝ} (h1 : RelW ω1 a ah) (h2 : RelW ω2 b bh) :
    RelW (ω1 + ω2) (a / b) (ah / bh) := by
  rw [div_eq_mul_inv, div_eq_mul_inv]; exact h1.mul h2.inv

theorem RelW.pow {ω a ah : ℝ} (h : RelW ω a ah) (k : ℕ) : RelW ((k : ℝ) * ω) (a ^ k) (ah ^ k) := by
  induction k with
  | zero => simpa using RelW.refl 1
  | succ k ih =>
    rw [pow_succ, pow_succ, show ((k + 1 : ℕ) : ℝ) * ω = (k : ℝ) * ω + ω by push_cast; ring]
    exact ih.mul h

/-- one rounding: `e^{-v} ≤ 1/(1+v) = 1 - u` and `1 + u ≤ 1 + v ≤ e^{v}` -/
theorem RelW.one_add (δ u : ℝ) (hδ : |δ| ≤ u) (hu : u < 1) : RelW (u / (1 - u)) 1 (1 + δ) := by
  have hu0 : 0 ≤ u := le_trans (abs_nonneg _) hδ
  have h1 : 0 < 1 - u := sub_pos.2 hu
  obtain ⟨d1, d2⟩ := abs_le.1 hδ
  have hexp := add_one_le_exp (u / (1 - u))
  refine ⟨1 + δ, (one_mul _).symm, ?_, ?_⟩
  · have h3 : u / (1 - u) + 1 = (1 - u)⁻¹ := by
      rw [← one_div, eq_div_iff h1.ne', add_mul, div_mul_cancel₀ _ h1.ne']; ring
    calc exp (-(u / (1 - u))) = (exp (u / (1 - u)))⁻¹ := exp_neg _
      _ ≤ (u / (1 - u) + 1)⁻¹ := inv_anti₀ (h3 ▸ inv_pos.2 h1) hexp
      _ = 1 - u := by rw [h3, inv_inv]
      _ ≤ 1 + δ := by linarith only [d1]
  · linarith only [le_v hu0 hu, d2, hexp]

theorem RelW.step {ω a ah : ℝ} (h : RelW ω a ah) (δ u : ℝ) (hδ : |δ| ≤ u) (hu : u < 1) :
    RelW (ω + u / (1 - u)) a (ah * (1 + δ)) := by
  have := h.mul (RelW.one_add δ u hδ hu)
  simpa using this

theorem RelW.abs_sub_le {ω a ah : ℝ} (h : RelW ω a ah) : |ah - a| ≤ |a| * (exp ω - 1) := by
  obtain ⟨W, e, l, u⟩ := h
  have e3 : 2 ≤ exp ω + exp (-ω) := by linarith only [add_one_le_exp ω, add_one_le_exp (-ω)]
  have hW : |W - 1| ≤ exp ω - 1 := by
    rw [abs_le]; constructor <;> linarith only [e3, l, u]
  have : ah - a = a * (W - 1) := by rw [e]; ring
  rw [this, abs_mul]
  exact mul_le_mul_of_nonneg_left hW (abs_nonneg _)

theorem RelW.abs_sub_one_le {ω Θ : ℝ} (h : RelW ω 1 Θ) : |Θ - 1| ≤ exp ω - 1 := by
  simpa using h.abs_sub_le

theorem RelW.abs_le {ω a ah : ℝ} (h : RelW ω a ah) : |ah| ≤ |a| * exp ω ∧ |a| ≤ |ah| * exp ω := by
  obtain ⟨W, e, l, u⟩ := h
  have p : 0 < W := lt_of_lt_of_le (exp_pos _) l
  constructor
  · rw [e, abs_mul, abs_of_pos p]; exact mul_le_mul_of_nonneg_left u (abs_nonneg _)
  · rw [e, abs_mul, abs_of_pos p, mul_assoc]
    have : 1 ≤ W * exp ω := by
      have := mul_le_mul_of_nonneg_right l (exp_pos ω).le
      rwa [← exp_add, neg_add_cancel, exp_zero] at this
    nlinarith [abs_nonneg a]

end Apd.LnAcc
