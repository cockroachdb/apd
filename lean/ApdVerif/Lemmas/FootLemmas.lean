import ApdVerif.Imp.Ops
/-!
# Footprints of the store-level programs (core Lean only)

`Foot R W p` for every program of `Imp/Ops.lean`, where the destination is in `W` and every operand pointer
is "covered" (`SrcOK`): a cell in `R ∪ W` or a constant.  Each lemma follows the text of its program (tactic `foot`)
and names the footprint lemmas of the programs it calls.
-/
namespace Apd.Imp

def SrcOK (R W : Cell → Prop) (s : Src) : Prop := ∀ c, s = .cell c → R c ∨ W c

variable {R W : Cell → Prop}

theorem SrcOK.const (v : Dec) : SrcOK R W (.const v) := fun _ e => by cases e
theorem SrcOK.dest {d : Cell} (hd : W d) : SrcOK R W (.cell d) := fun _ e => by cases e; exact Or.inr hd
theorem SrcOK.read {x : Cell} (hx : R x) : SrcOK R W (.cell x) := fun _ e => by cases e; exact Or.inl hx
theorem SrcOK.ite {a b : Src} {c : Prop} [Decidable c] (ha : SrcOK R W a) (hb : SrcOK R W b) :
    SrcOK R W (if c then a else b) := by
  split <;> assumption

theorem Foot_rdForm : ∀ {s : Src}, SrcOK R W s → Foot R W (rdForm s)
  | .cell c, hs => .getForm _ _ (hs c rfl) .ret
  | .const _, _ => .ret _
theorem Foot_rdNeg : ∀ {s : Src}, SrcOK R W s → Foot R W (rdNeg s)
  | .cell c, hs => .getNeg _ _ (hs c rfl) .ret
  | .const _, _ => .ret _
theorem Foot_rdExp : ∀ {s : Src}, SrcOK R W s → Foot R W (rdExp s)
  | .cell c, hs => .getExp _ _ (hs c rfl) .ret
  | .const _, _ => .ret _
theorem Foot_rdCoeff : ∀ {s : Src}, SrcOK R W s → Foot R W (rdCoeff s)
  | .cell c, hs => .getCoeff _ _ (hs c rfl) .ret
  | .const _, _ => .ret _

theorem Foot_wrForm {d : Cell} (hd : W d) (v : Form) : Foot R W (wrForm d v) := .setForm _ _ _ hd (.ret _)
theorem Foot_wrNeg {d : Cell} (hd : W d) (v : Bool) : Foot R W (wrNeg d v) := .setNeg _ _ _ hd (.ret _)
theorem Foot_wrExp {d : Cell} (hd : W d) (v : Int) : Foot R W (wrExp d v) := .setExp _ _ _ hd (.ret _)
theorem Foot_wrCoeff {d : Cell} (hd : W d) (v : Nat) : Foot R W (wrCoeff d v) := .setCoeff _ _ _ hd (.ret _)

theorem Foot.map {α β : Type} {p : Prog α} (hp : Foot R W p) (g : α → β) :
    Foot R W (p >>= fun a => Pure.pure (g a)) :=
  Foot.bind hp (fun _ => Foot.pure _)

/-- the premise of `Foot_localize` (`TransFootLemmas`) -/
theorem SrcOK.addLocal {s : Src} (L : Cell) (hs : SrcOK R W s) :
    SrcOK (fun c => R c ∨ c = L) (fun c => W c ∨ c = L) s :=
  fun c e => (hs c e).elim (fun h => Or.inl (Or.inl h)) (fun h => Or.inr (Or.inl h))

theorem SrcOK.local (L : Cell) : SrcOK (fun c => R c ∨ c = L) (fun c => W c ∨ c = L) (.cell L) :=
  fun c e => by cases e; exact Or.inr (Or.inr rfl)

def OSrcOK (R W : Cell → Prop) (y : Option Src) : Prop := ∀ s, y = some s → SrcOK R W s
theorem OSrcOK.none : OSrcOK R W none := fun _ e => by cases e
theorem OSrcOK.some {s : Src} (hs : SrcOK R W s) : OSrcOK R W (some s) := fun _ e => by cases e; exact hs

/-- the hypotheses of a footprint lemma: a destination in `W`, a covered operand; the last four are for a footprint
`R ∪ {L}`, `W ∪ {L}` grown by the address of a Go local (goals after `Foot_localize`) -/
syntax "foot_side" : tactic
macro_rules
  | `(tactic| foot_side) =>
    `(tactic| first
      | assumption
      | exact SrcOK.const _
      | (apply SrcOK.dest; assumption)
      | (apply SrcOK.read; assumption)
      | (apply SrcOK.ite <;> foot_side)
      | exact OSrcOK.none
      | (apply OSrcOK.some; foot_side)
      | exact Or.inr rfl
      | (apply Or.inl; assumption)
      | exact SrcOK.local _
      | (apply SrcOK.addLocal; foot_side))

/-- `foot [l₁, …]` proves `Foot R W p` along the text of `p`: `Foot.bind` at a bind, `Foot.ite` at a conditional,
`split` at a `match`, the lemmas above at a primitive access, and at a call of another program its footprint lemma,
which must be among the `lᵢ`.  Every rule is applied `with_reducible`: the head of `p` decides, no program is
unfolded, and a rule that does not fit fails at once. -/
syntax "foot" (" [" term,* "]")? : tactic
macro_rules
  | `(tactic| foot) => `(tactic| foot [])
  | `(tactic| foot [$ls,*]) =>
    `(tactic| repeat' (first
      | intro _
      | with_reducible apply Foot.bind
      | with_reducible exact Foot.pure _
      | with_reducible apply Foot.ite
      | (with_reducible apply Foot_rdForm; foot_side)
      | (with_reducible apply Foot_rdNeg; foot_side)
      | (with_reducible apply Foot_rdExp; foot_side)
      | (with_reducible apply Foot_rdCoeff; foot_side)
      | (with_reducible apply Foot_wrForm; foot_side)
      | (with_reducible apply Foot_wrNeg; foot_side)
      | (with_reducible apply Foot_wrExp; foot_side)
      | (with_reducible apply Foot_wrCoeff; foot_side)
      $[| (with_reducible apply $ls <;> try foot_side)]*
      | split))

theorem Foot_rdB {a b : Src} (ha : SrcOK R W a) (hb : SrcOK R W b) (r : BRef) : Foot R W (rdB a b r) := by
  unfold rdB; foot

theorem Foot_signP {s : Src} (hs : SrcOK R W s) : Foot R W (signP s) := by unfold signP; foot
theorem Foot_isZeroP {s : Src} (hs : SrcOK R W s) : Foot R W (isZeroP s) := by unfold isZeroP; foot [Foot_signP]
theorem Foot_numDigitsP {s : Src} (hs : SrcOK R W s) : Foot R W (numDigitsP s) := by unfold numDigitsP; foot
theorem Foot_isNaNP {s : Src} (hs : SrcOK R W s) : Foot R W (isNaNP s) := by unfold isNaNP; foot

theorem Foot_shouldSetAsNaNP {x : Src} {y : Option Src} (hx : SrcOK R W x) (hy : OSrcOK R W y) :
    Foot R W (shouldSetAsNaNP x y) := by
  unfold shouldSetAsNaNP
  cases y with
  | none => foot [Foot_isNaNP]
  | some y => have := hy y rfl; foot [Foot_isNaNP]

theorem Foot_cmpP {d x : Src} (hd : SrcOK R W d) (hx : SrcOK R W x) : Foot R W (cmpP d x) := by
  unfold cmpP; foot [Foot_signP, Foot_numDigitsP]

theorem Foot_upscaleP {a b : Src} (ha : SrcOK R W a) (hb : SrcOK R W b) : Foot R W (upscaleP a b) := by
  unfold upscaleP; foot

theorem Foot_setDec {d : Cell} {x : Src} (hd : W d) (hx : SrcOK R W x) : Foot R W (setDec d x) := by
  unfold setDec; foot

theorem Foot_setInt64P {d : Cell} (hd : W d) (v : Int) : Foot R W (setInt64P d v) := by
  unfold setInt64P; foot

theorem Foot_negDec {d : Cell} {x : Src} (hd : W d) (hx : SrcOK R W x) : Foot R W (negDec d x) := by
  unfold negDec; foot [Foot_setDec, Foot_isZeroP]

theorem Foot_absDec {d : Cell} {x : Src} (hd : W d) (hx : SrcOK R W x) : Foot R W (absDec d x) := by
  unfold absDec; foot [Foot_setDec]

theorem Foot_reduceDec {d : Cell} {x : Src} (hd : W d) (hx : SrcOK R W x) : Foot R W (reduceDec d x) := by
  unfold reduceDec; foot [Foot_setDec, Foot_signP, Foot_numDigitsP, Foot_setInt64P]

theorem Foot_modfLocFrac {x : Src} {i : Cell} (hi : W i) (hx : SrcOK R W x) : Foot R W (modfLocFrac x i) := by
  unfold modfLocFrac; foot [Foot_setDec, Foot_numDigitsP]

theorem Foot_modfP {d : Src} {integ frac : Option Cell} (hd : SrcOK R W d)
    (hi : ∀ i, integ = some i → W i) (hf : ∀ f, frac = some f → W f) : Foot R W (modfP d integ frac) := by
  unfold modfP
  cases integ with
  | none =>
    cases frac with
    | none => foot [Foot_numDigitsP]
    | some f => have := hf f rfl; foot [Foot_setDec, Foot_numDigitsP]
  | some i =>
    have := hi i rfl
    cases frac with
    | none => foot [Foot_setDec, Foot_numDigitsP]
    | some f => have := hf f rfl; foot [Foot_setDec, Foot_numDigitsP]

theorem Foot_seFinishP {d : Cell} (hd : W d) (r : Int) (res : Cond) : Foot R W (seFinishP d r res) := by
  unfold seFinishP; foot

theorem Foot_ndOrCountP {d : Cell} (hd : W d) (nd : Option Nat) : Foot R W (ndOrCountP d nd) := by
  unfold ndOrCountP; foot [Foot_numDigitsP]

theorem Foot_setExponentP {d : Cell} (hd : W d) (c : Ctx) (nd : Option Nat) (res : Cond) (xs : List Int) :
    Foot R W (setExponentP c d nd res xs) := by
  unfold setExponentP; foot [Foot_ndOrCountP, Foot_isZeroP, Foot_seFinishP]

theorem Foot_roundTailP {d : Cell} (hd : W d) (c : Ctx) (res : Cond) (yd : Nat × Int) :
    Foot R W (roundTailP c d res yd) := by
  unfold roundTailP; foot [Foot_setExponentP]

theorem Foot_roundFinP {d : Cell} {x : Src} (hd : W d) (hx : SrcOK R W x) (c : Ctx) (b : Bool) :
    Foot R W (roundFinP c d x b) := by
  unfold roundFinP; foot [Foot_numDigitsP, Foot_signP, Foot_setExponentP, Foot_roundTailP]

theorem Foot_roundP {d : Cell} {x : Src} (hd : W d) (hx : SrcOK R W x) (c : Ctx) (b : Bool) :
    Foot R W (roundP c d x b) := by
  unfold roundP; foot [Foot_setDec, Foot_roundFinP]

theorem Foot_setAsNaNP {d : Cell} {x : Src} {y : Option Src} (hd : W d) (hx : SrcOK R W x) (hy : OSrcOK R W y)
    (c : Ctx) : Foot R W (setAsNaNP c d x y) := by
  unfold setAsNaNP
  have : SrcOK R W (y.getD x) := by
    cases y with
    | none => exact hx
    | some y => exact hy y rfl
  cases y with
  | none => foot [Foot_setDec]
  | some y => have := hy y rfl; foot [Foot_setDec]

theorem Foot_retFlags (c : Ctx) (res : Cond) : Foot R W (retFlags c res) := Foot.ret _

theorem Foot_addFiniteP {d : Cell} {x y : Src} (hd : W d) (hx : SrcOK R W x) (hy : SrcOK R W y) (c : Ctx)
    (xn yn : Bool) (abs : BRef × BRef × Int) : Foot R W (addFiniteP c d x y xn yn abs) := by
  unfold addFiniteP; foot [Foot_rdB, Foot_roundP, Foot_retFlags]

theorem Foot_addP {d : Cell} {x y : Src} (hd : W d) (hx : SrcOK R W x) (hy : SrcOK R W y) (c : Ctx) (sub : Bool) :
    Foot R W (addP c d x y sub) := by
  unfold addP; foot [Foot_shouldSetAsNaNP, Foot_setAsNaNP, Foot_setDec, Foot_retFlags, Foot_upscaleP, Foot_addFiniteP]

theorem Foot_absP {d : Cell} {x : Src} (hd : W d) (hx : SrcOK R W x) (c : Ctx) : Foot R W (absP c d x) := by
  unfold absP; foot [Foot_shouldSetAsNaNP, Foot_setAsNaNP, Foot_absDec, Foot_roundP, Foot_retFlags]
theorem Foot_negP {d : Cell} {x : Src} (hd : W d) (hx : SrcOK R W x) (c : Ctx) : Foot R W (negP c d x) := by
  unfold negP; foot [Foot_shouldSetAsNaNP, Foot_setAsNaNP, Foot_negDec, Foot_roundP, Foot_retFlags]
theorem Foot_roundOpP {d : Cell} {x : Src} (hd : W d) (hx : SrcOK R W x) (c : Ctx) : Foot R W (roundOpP c d x) := by
  unfold roundOpP; foot [Foot_shouldSetAsNaNP, Foot_setAsNaNP, Foot_roundP, Foot_retFlags]
theorem Foot_mulP {d : Cell} {x y : Src} (hd : W d) (hx : SrcOK R W x) (hy : SrcOK R W y) (c : Ctx) :
    Foot R W (mulP c d x y) := by
  unfold mulP
  foot [Foot_shouldSetAsNaNP, Foot_setAsNaNP, Foot_isZeroP, Foot_setDec, Foot_retFlags, Foot_setExponentP, Foot_roundP]

theorem Foot_quoSpecialsP {d : Cell} {x y : Src} (hd : W d) (hx : SrcOK R W x) (hy : SrcOK R W y) (c : Ctx)
    (cc : Bool) : Foot R W (quoSpecialsP c d x y cc) := by
  unfold quoSpecialsP; foot [Foot_shouldSetAsNaNP, Foot_setAsNaNP, Foot_setDec, Foot_setInt64P, Foot_isZeroP]

theorem Foot_quoTailP {d : Cell} (hd : W d) (c : Ctx) (nd : Option Nat) (res : Cond) (xs : List Int) :
    Foot R W (quoTailP c d nd res xs) := by
  unfold quoTailP; foot [Foot_setExponentP, Foot_retFlags]

theorem Foot_quoP {d : Cell} {x y : Src} (hd : W d) (hx : SrcOK R W x) (hy : SrcOK R W y) (c : Ctx) :
    Foot R W (quoP c d x y) := by
  unfold quoP
  foot [Foot_quoSpecialsP, Foot_isZeroP, Foot_setDec, Foot_setExponentP, Foot_retFlags, Foot_numDigitsP, Foot_quoTailP]
theorem Foot_quoIntegerP {d : Cell} {x y : Src} (hd : W d) (hx : SrcOK R W x) (hy : SrcOK R W y) (c : Ctx) :
    Foot R W (quoIntegerP c d x y) := by
  unfold quoIntegerP; foot [Foot_quoSpecialsP, Foot_upscaleP, Foot_rdB, Foot_numDigitsP, Foot_setDec, Foot_retFlags]
theorem Foot_remP {d : Cell} {x y : Src} (hd : W d) (hx : SrcOK R W x) (hy : SrcOK R W y) (c : Ctx) :
    Foot R W (remP c d x y) := by
  unfold remP
  foot [Foot_shouldSetAsNaNP, Foot_setAsNaNP, Foot_setDec, Foot_retFlags, Foot_roundP, Foot_isZeroP, Foot_upscaleP,
    Foot_rdB]
theorem Foot_cmpOpP {d : Cell} {x y : Src} (hd : W d) (hx : SrcOK R W x) (hy : SrcOK R W y) (c : Ctx) :
    Foot R W (cmpOpP c d x y) := by
  unfold cmpOpP; foot [Foot_shouldSetAsNaNP, Foot_setAsNaNP, Foot_cmpP, Foot_setInt64P]
theorem Foot_reduceP {d : Cell} {x : Src} (hd : W d) (hx : SrcOK R W x) (c : Ctx) : Foot R W (reduceP c d x) := by
  unfold reduceP; foot [Foot_shouldSetAsNaNP, Foot_setAsNaNP, Foot_roundP, Foot_reduceDec]

theorem Foot_quantizeCoreP {d : Cell} {x : Src} (hd : W d) (hx : SrcOK R W x) (c : Ctx) (e : Int) :
    Foot R W (quantizeCoreP c d x e) := by
  unfold quantizeCoreP; foot [Foot_setDec, Foot_isZeroP, Foot_numDigitsP, Foot_roundP]

theorem Foot_quantizeP {d : Cell} {x : Src} (hd : W d) (hx : SrcOK R W x) (c : Ctx) (e : Int) :
    Foot R W (quantizeP c d x e) := by
  unfold quantizeP
  foot [Foot_shouldSetAsNaNP, Foot_setAsNaNP, Foot_setDec, Foot_retFlags, Foot_quantizeCoreP, Foot_numDigitsP,
    Foot_roundP]

theorem Foot_toIntegralSpecialsP {d : Cell} {x : Src} (hd : W d) (hx : SrcOK R W x) (c : Ctx) :
    Foot R W (toIntegralSpecialsP c d x) := by
  unfold toIntegralSpecialsP; foot [Foot_shouldSetAsNaNP, Foot_setAsNaNP, Foot_setDec]

theorem Foot_rtivP {d : Cell} {x : Src} (hd : W d) (hx : SrcOK R W x) (c : Ctx) : Foot R W (rtivP c d x) := by
  unfold rtivP; foot [Foot_toIntegralSpecialsP, Foot_quantizeCoreP, Foot_retFlags]
theorem Foot_rtieP {d : Cell} {x : Src} (hd : W d) (hx : SrcOK R W x) (c : Ctx) : Foot R W (rtieP c d x) := by
  unfold rtieP; foot [Foot_toIntegralSpecialsP, Foot_quantizeCoreP, Foot_retFlags]
theorem Foot_ceilP {d : Cell} {x : Src} (hd : W d) (hx : SrcOK R W x) (c : Ctx) : Foot R W (ceilP c d x) := by
  unfold ceilP; foot [Foot_toIntegralSpecialsP, Foot_modfLocFrac, Foot_addP]
theorem Foot_floorP {d : Cell} {x : Src} (hd : W d) (hx : SrcOK R W x) (c : Ctx) : Foot R W (floorP c d x) := by
  unfold floorP; foot [Foot_toIntegralSpecialsP, Foot_modfLocFrac, Foot_addP]

def footR (x y : Cell) : Cell → Prop := fun cell => cell = x ∨ cell = y
def footW (d : Cell) : Cell → Prop := fun cell => cell = d

theorem footW_self {d : Cell} : footW d d := rfl
theorem footR_fst {x y : Cell} : SrcOK (footR x y) W (.cell x) := .read (.inl rfl)
theorem footR_snd {x y : Cell} : SrcOK (footR x y) W (.cell y) := .read (.inr rfl)

theorem Foot.toLists {α : Type} {p : Prog α} {d x y : Cell} (hp : Foot (footR x y) (footW d) p) :
    Foot (fun c => c ∈ [x, y]) (fun c => c ∈ [d]) p :=
  hp.mono (fun _ hc => .inl (hc.elim (fun e => e ▸ .head _) (fun e => e ▸ .tail _ (.head _))))
    (fun _ hc => (hc : _ = d) ▸ .head _)

theorem forall_ite_some {α : Type} {P : α → Prop} {c : Prop} [Decidable c] {a : α} {t : Option α} (ha : P a)
    (ht : ∀ p, t = some p → P p) (p : α) (h : (if c then some a else t) = some p) : P p := by
  split at h
  · cases h; exact ha
  · exact ht p h

theorem Foot_runCtxOp {op : String} {c : Ctx} {d x y : Cell} {iarg : Int} :
    ∀ p, runCtxOp op c d x y iarg = some p → Foot (footR x y) (footW d) p :=
  have hd : footW d d := footW_self
  have hx : SrcOK (footR x y) (footW d) (.cell x) := footR_fst
  have hy : SrcOK (footR x y) (footW d) (.cell y) := footR_snd
  forall_ite_some (Foot_addP hd hx hy _ _) <|
  forall_ite_some (Foot_addP hd hx hy _ _) <|
  forall_ite_some (Foot_mulP hd hx hy _) <|
  forall_ite_some (Foot_quoP hd hx hy _) <|
  forall_ite_some (Foot_quoIntegerP hd hx hy _) <|
  forall_ite_some (Foot_remP hd hx hy _) <|
  forall_ite_some (Foot_absP hd hx _) <|
  forall_ite_some (Foot_negP hd hx _) <|
  forall_ite_some (Foot_roundOpP hd hx _) <|
  forall_ite_some (Foot_reduceP hd hx _) <|
  forall_ite_some (Foot_cmpOpP hd hx hy _) <|
  forall_ite_some (Foot_quantizeP hd hx _ _) <|
  forall_ite_some (Foot_rtieP hd hx _) <|
  forall_ite_some (Foot_rtivP hd hx _) <|
  forall_ite_some (Foot_ceilP hd hx _) <|
  forall_ite_some (Foot_floorP hd hx _) <|
  fun _ h => by cases h

end Apd.Imp
