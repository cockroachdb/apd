import ApdVerif.Lemmas.CbrtConvIter
import ApdVerif.Lemmas.CbrtTail
/-!
# `Context.Cbrt`: a prefix that ended its Newton loop hands the tail an iterate close to the root

Going BACKWARDS through the prefix by the rules of its loops (`Lemmas/ErrExits.lean`): a step that did not fail keeps
the `ErrDecimal` good and the iterate positive (`scale_step`, `est_good`, `round_nstep`), so every round is a Newton
step up to `5.02·ε`; in the round after which `loop.done` said yes the last two iterates differ by at most
`1.001·10^(-P)·z` (`done_core`; not in the first round, `done_first`), which is all `CbrtN.newton_stop_q` needs.
Whatever the first estimate was and however many rounds it took: `prefix_iter`, and `last_iter` for `cbrtOp`.
-/
namespace Apd.CbrtL
open Apd.C20L Apd.SqrtL Apd.CbrtC Apd.CbrtT Apd.C11Q

theorem prefix_iter (c : Ctx) (hc : c.WF) (hp : c.prec * 3 + 2 ≤ 100000)
    (x : Dec) (hx : x.form = .finite) (h0 : x.coeff ≠ 0) (fl0 : Cond) (zf : Dec)
    (hs : cbrtPrefix c x = some (.inr (fl0, zf))) :
    goError defaultTraps fl0 = .none ∧ Iter c x zf := by
  obtain ⟨hP1, -, -, -, -⟩ := hc
  have hw := nc_nctx c (by omega)
  have hax := absD_pos x hx h0
  rcases prefix_some c x _ (rootSpecials_none c x hx h0) hs with
    ⟨er, hne, h⟩ | ⟨ed1, z1, down, ed2, z2, up, zf', s1, s2, s3, h⟩
  · cases h
  obtain ⟨rfl, rfl⟩ : fl0 = (est ed2 z2 down up).1.fl ∧ zf = zf' := by
    simp only [Sum.inr.injEq, Prod.mk.injEq] at h; exact h
  obtain ⟨⟨he1, hz1⟩, -⟩ := scaleLoop_good (nc c) _ hw _ decEight decEight_pos _ _ _ _ _ _ _ (EDg.init _) hax s1
  obtain ⟨⟨he2, hz2⟩, T2⟩ := scaleLoop_good (nc c) _ hw _ decOneEighth decOneEighth_pos _ _ _ _ _ _ _ he1 hz1 s2
  have hz2' : z2.toRat ≤ 1 := by
    by_contra hgt
    rw [(test_up z2 hz2).2 (lt_of_not_ge hgt)] at T2
    cases T2
  -- the Newton loop: while the `ErrDecimal` has not failed the iterate is positive, and the estimate had not failed
  have G3 := est_good (nc c) _ hw (by omega) ed2 z2 down up he2 hz2 hz2'
  obtain ⟨e0, z0, l0, ⟨hG0, i6⟩, i3, i4, i5⟩ := cbrtIter_rule (nc c) ((c.prec : Int) + 1) (10 + (c.prec + 1)) x.absD
    (fun e z l => (e.failed = false → EDg (nc c) e ∧ Pos z ∧ EDg (nc c) (est ed2 z2 down up).1) ∧
      (l.prevZ = z ∨ l.prevZ = {}))
    (fun e z l l' hI hnf hd => by
      obtain ⟨he, hz, hE⟩ := hI.1 (round_nf _ e z hnf)
      obtain ⟨k5, P5, -⟩ := round_nstep (nc c) _ hw (by omega) x.absD hax e z he hz hnf
      exact ⟨fun _ => ⟨k5, P5, hE⟩, Or.inl (loopDone_continue_spec _ _ _ _ _ _ hd).2.1⟩)
    _ _ _ {} _ s3 ⟨fun hf => ⟨(G3 hf).1, (G3 hf).2, (G3 hf).1⟩, Or.inr rfl⟩
  obtain ⟨i1, i2, hE⟩ := hG0 (round_nf _ e0 z0 i3)
  refine ⟨by have := ((ED.failed_false_iff _).1 hE.nf).2; rw [hE.c] at this; exact this, ?_⟩
  obtain ⟨-, P5, n5, hN⟩ := round_nstep (nc c) _ hw (by omega) x.absD hax e0 z0 i1 i2 i3
  rw [← i4] at P5 n5 hN
  rcases i6 with i6 | i6
  · have hd := done_core (nc c) _ c.prec hw (by ring) hP1 _ l0 zf (by rw [i6]; exact i2.hf) P5 i5
    rw [i6] at hd
    rw [eps_eq, absD_toRat] at hN
    obtain ⟨c1, c2⟩ := CbrtN.newton_stop_q (magQ x) z0.toRat zf.toRat ((10 : ℚ) ^ (-(c.prec : ℤ))) (magQ_pos x h0)
      i2.toRat_pos (tp _) (ten_negP c.prec hP1) hN hd
    exact ⟨P5, n5, c1, c2⟩
  · exact absurd (done_first (nc c) _ c.prec hw (by ring) hP1 _ l0 zf i6 P5 i5) id

theorem last_iter (c : Ctx) (hc : c.WF) (hp : c.prec * 3 + 2 ≤ 100000)
    (x : Dec) (hx : x.form = .finite) (h0 : x.coeff ≠ 0)
    (o : Out) (ho : cbrtOp c x = some o) (he : o.err = .none) :
    ∃ zf fl0, Pos zf ∧ ndigits zf.coeff ≤ c.prec * 2 + 2 ∧
      (zf.toRat * (1 - 3 * ((10 : ℚ) ^ (-(c.prec : ℤ))) ^ 2)) ^ 3 ≤ magQ x ∧
      magQ x ≤ (zf.toRat * (1 + 3 * ((10 : ℚ) ^ (-(c.prec : ℤ))) ^ 2)) ^ 3 ∧
      o = tail c x fl0 zf := by
  rw [Props.C11_cbrt_obs_factor, Option.map_eq_some_iff] at ho
  obtain ⟨s, hs, rfl⟩ := ho
  rcases s with o | ⟨fl0, zf⟩
  · rcases prefix_some c x _ (rootSpecials_none c x hx h0) hs with ⟨er, hne, h⟩ | ⟨_, _, _, _, _, _, _, -, -, -, h⟩
    · rw [Sum.inl.inj h] at he
      exact absurd he hne
    · cases h
  · obtain ⟨-, hI⟩ := prefix_iter c hc hp x hx h0 fl0 zf hs
    exact ⟨zf, fl0, hI.pos, hI.nd, hI.lo, hI.hi, rfl⟩

end Apd.CbrtL

#print axioms Apd.CbrtL.last_iter
