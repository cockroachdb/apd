import ApdVerif.Lemmas.ExpAccUnits
import ApdVerif.Lemmas.DecRound
import ApdVerif.Lemmas.AtanhSeries
import ApdVerif.Oracle.LnTapeOK
/-!
# `Ln`: the operand, the special cases, the rescaling `x = z·10^e`, and the `ln 10` table

`ln10Coeff · 10^-3010` (the digit string of const.go, `GenTie_ln10`) agrees with `Real.log 10` to 95 digits:
`10^100 · ln 10 = 10^100 · (3·2 atanh(1/3) + 2 atanh(1/9))` is enclosed by summing the two series in natural numbers,
each term rounded down, and the kernel compares the sum with the digit string.  The table entry `ln10At p` is that
string rounded half-up to `2^⌈log2 p⌉ ≥ p` digits.
-/
namespace Apd.LnAcc
open Apd.ExpAcc Apd.C12IL

/-- `Σ_{j<n} ⌊B / ((2j+1)·q^(2j+1))⌋`: the partial sum of `B·atanh(1/q)`, each term rounded down -/
def atanhFloor (B q : ℕ) : ℕ → ℕ
  | 0 => 0
  | n + 1 => atanhFloor B q n + B / ((2 * n + 1) * q ^ (2 * n + 1))

theorem S_succ_inv (q n : ℕ) :
    S (1 / q) (n + 1) = S (1 / q) n + 1 / (((2 * n + 1) * q ^ (2 * n + 1) : ℕ) : ℝ) := by
  unfold S
  rw [Finset.sum_range_succ, one_div, inv_pow, div_eq_mul_inv, ← mul_inv, mul_comm, one_div, Nat.cast_mul,
    Nat.cast_pow]

theorem atanhFloor_S (B q : ℕ) (hq : 0 < q) (n : ℕ) :
    (atanhFloor B q n : ℝ) ≤ B * S (1 / q) n ∧ (B : ℝ) * S (1 / q) n ≤ atanhFloor B q n + n := by
  induction n with
  | zero => simp [atanhFloor, S]
  | succ n ih =>
    have hd : 0 < (2 * n + 1) * q ^ (2 * n + 1) := Nat.mul_pos (Nat.succ_pos _) (Nat.pow_pos hq)
    rw [S_succ_inv, mul_add, mul_one_div, atanhFloor]
    generalize (2 * n + 1) * q ^ (2 * n + 1) = d at hd ⊢
    have hd' : (0 : ℝ) < d := Nat.cast_pos.2 hd
    have hi : (B : ℝ) / d ≤ (B / d : ℕ) + 1 := by
      rw [div_le_iff₀ hd', add_one_mul]
      exact_mod_cast (Nat.lt_div_mul_add hd).le
    rw [Nat.cast_add, Nat.cast_succ]
    exact ⟨add_le_add ih.1 Nat.cast_div_le, (add_le_add ih.2 hi).trans_eq (add_add_add_comm _ _ _ _)⟩

theorem atanhFloor_L2 (B q : ℕ) (hq : 2 ≤ q) (n : ℕ) :
    2 * (atanhFloor B q n : ℝ) ≤ B * L2 (1 / q) ∧
    (B : ℝ) * L2 (1 / q) ≤ 2 * (atanhFloor B q n + n) + 9 / 2 * (B * (1 / (q : ℝ)) ^ (2 * n + 1)) := by
  have hq' : (2 : ℝ) ≤ q := by exact_mod_cast hq
  have y0 : (0 : ℝ) ≤ 1 / q := by positivity
  have y1 : (1 : ℝ) / q ≤ 1 / 2 := one_div_le_one_div_of_le (by norm_num) hq'
  obtain ⟨l, u⟩ := atanhFloor_S B q (by omega) n
  have hB : (0 : ℝ) ≤ B := Nat.cast_nonneg _
  have h1 := mul_le_mul_of_nonneg_left (L2_lower _ y0 (by linarith only [y1]) n) hB
  have h2 := mul_le_mul_of_nonneg_left (L2_upper' _ y0 y1 n) hB
  exact ⟨by linarith only [l, h1], by linarith only [u, h2]⟩

/-- `⌊10^100 · ln 10⌋` up to 744 units, from `ln 10 = 3·2 atanh(1/3) + 2 atanh(1/9)`: `6·106 + 2·53` for the floors,
`3·(1/3) + 1` for the two remainders -/
def ln10Floor : ℕ := 6 * atanhFloor (10 ^ 100) 3 106 + 2 * atanhFloor (10 ^ 100) 9 53

theorem ln10Floor_log :
    (ln10Floor : ℝ) ≤ 10 ^ 100 * Real.log 10 ∧ (10 : ℝ) ^ 100 * Real.log 10 ≤ ln10Floor + 744 := by
  have e : Real.log 10 = 3 * L2 (1 / 3) + L2 (1 / 9) := by rw [L2_third, L2_ninth]; ring
  obtain ⟨l3, u3⟩ := atanhFloor_L2 (10 ^ 100) 3 (by norm_num) 106
  obtain ⟨l9, u9⟩ := atanhFloor_L2 (10 ^ 100) 9 (by norm_num) 53
  have r3 : (9 : ℝ) / 2 * (((10 ^ 100 : ℕ) : ℝ) * (1 / ((3 : ℕ) : ℝ)) ^ (2 * 106 + 1)) ≤ 1 / 3 := by norm_num
  have r9 : (9 : ℝ) / 2 * (((10 ^ 100 : ℕ) : ℝ) * (1 / ((9 : ℕ) : ℝ)) ^ (2 * 53 + 1)) ≤ 1 := by norm_num
  unfold ln10Floor
  push_cast at l3 u3 l9 u9 r3 r9 ⊢
  rw [e]
  exact ⟨by linarith only [l3, l9], by linarith only [u3, u9, r3, r9]⟩

/-- the digit string of const.go against `ln10Floor`, by evaluation (binary arithmetic on closed naturals) -/
theorem ln10Floor_digits : ln10Coeff ≤ (ln10Floor + 10 ^ 5) * 10 ^ 2910 ∧
    (ln10Floor + 744) * 10 ^ 2910 ≤ ln10Coeff + 10 ^ 5 * 10 ^ 2910 := by decide +kernel

theorem ln10_cert : |(ln10Coeff : ℝ) * (10 : ℝ) ^ ln10Exp - Real.log 10| ≤ (10 : ℝ) ^ (-(95 : ℤ)) := by
  obtain ⟨d1, d2⟩ := ln10Floor_digits
  obtain ⟨f1, f2⟩ := ln10Floor_log
  have c1 : (ln10Coeff : ℝ) ≤ (ln10Floor + 10 ^ 5) * 10 ^ 2910 := by exact_mod_cast d1
  have c2 : ((ln10Floor : ℝ) + 744) * 10 ^ 2910 ≤ ln10Coeff + 10 ^ 5 * 10 ^ 2910 := by exact_mod_cast d2
  have e1 : (10 : ℝ) ^ ln10Exp = ((10 : ℝ) ^ 2910 * 10 ^ 100)⁻¹ := by
    rw [← pow_add, ← zpow_natCast, ← zpow_neg]; rfl
  have e2 : (10 : ℝ) ^ (-(95 : ℤ)) = 10 ^ 5 * (10 ^ 100)⁻¹ := by
    rw [zpow_neg]; norm_num
  rw [e1, e2]
  have hP : (0 : ℝ) < 10 ^ 2910 := by positivity
  have hB : (0 : ℝ) < 10 ^ 100 := by positivity
  generalize (10 : ℝ) ^ 2910 = P at *
  generalize (10 : ℝ) ^ 100 = B at *
  have hPB := mul_pos hP hB
  have key : |(ln10Coeff : ℝ) - P * (B * Real.log 10)| ≤ 10 ^ 5 * P := by
    have g1 := mul_le_mul_of_nonneg_left f1 hP.le
    have g2 := mul_le_mul_of_nonneg_left f2 hP.le
    exact abs_le.2 ⟨by linarith only [c2, g2], by linarith only [c1, g1]⟩
  have e : (ln10Coeff : ℝ) * (P * B)⁻¹ - Real.log 10 = (ln10Coeff - P * (B * Real.log 10)) * (P * B)⁻¹ := by
    field_simp
  have e3 : 10 ^ 5 * B⁻¹ = 10 ^ 5 * P * (P * B)⁻¹ := by field_simp
  rw [e, e3, abs_mul, abs_inv, abs_of_pos hPB]
  exact mul_le_mul_of_nonneg_right key (inv_nonneg.2 hPB.le)

def constAt (coeff : Nat) (exp : Int) (strLen : Nat) (i : Nat) : Dec :=
  if i ≥ constVals strLen then { coeff := coeff, exp := exp }
  else (ctxRound { prec := 2 ^ i, mode := .halfUp, emax := MaxExponent, emin := MinExponent } { coeff := coeff, exp := exp }).1

theorem constGet_eq (coeff : Nat) (exp : Int) (strLen p : Nat) :
    constGet coeff exp strLen p = constAt coeff exp strLen (constIdx p) := rfl

/-- the eight entries for `p ≤ 128`: the coefficient is that of the digit string cut after `2^i` digits and rounded to
nearest -/
theorem ln10_table8 (i : Nat) (hi : i < 8) :
    let d := constAt ln10Coeff ln10Exp ln10StrLen i
    d.form = .finite ∧ d.neg = false ∧ d.exp = ln10Exp + ((3011 - 2 ^ i : Nat) : Int) ∧
    2 * (d.coeff * 10 ^ (3011 - 2 ^ i)) ≤ 2 * ln10Coeff + 10 ^ (3011 - 2 ^ i) ∧
    2 * ln10Coeff ≤ 2 * (d.coeff * 10 ^ (3011 - 2 ^ i)) + 10 ^ (3011 - 2 ^ i) := by
  -- one evaluation for all eight entries: the digit count of the 3011-digit string is computed once
  revert i
  decide +kernel

theorem constIdx_bounds (p : Nat) (hp1 : 1 ≤ p) (hp : p ≤ 128) : constIdx p < 8 ∧ p ≤ 2 ^ constIdx p := by
  unfold constIdx
  by_cases h : p > 1
  · rw [if_pos h]
    have hne : p - 1 ≠ 0 := by omega
    constructor
    · have : Nat.log2 (p - 1) < 7 := (Nat.log2_lt hne).2 (by omega)
      omega
    · have := @Nat.lt_log2_self (p - 1)
      have e : 2 ^ (1 + Nat.log2 (p - 1)) = 2 ^ (Nat.log2 (p - 1) + 1) := by rw [Nat.add_comm]
      rw [e]; omega
  · rw [if_neg h]
    constructor
    · omega
    · simp; omega

theorem rv_near_of_rounded (d : Dec) (coeff k : ℕ) (exp : ℤ) (hn : d.neg = false) (he : d.exp = exp + k)
    (hlo : 2 * (d.coeff * 10 ^ k) ≤ 2 * coeff + 10 ^ k) (hhi : 2 * coeff ≤ 2 * (d.coeff * 10 ^ k) + 10 ^ k) :
    |rv d - coeff * (10 : ℝ) ^ exp| ≤ (10 : ℝ) ^ (exp + k) / 2 := by
  have hs : (0 : ℝ) < (10 : ℝ) ^ exp := zpow_pos (by norm_num) _
  have hrv : rv d = d.coeff * (10 : ℝ) ^ k * (10 : ℝ) ^ exp := by
    unfold rv Dec.toRat
    rw [hn, he, zpow_add₀ (by norm_num), zpow_natCast]; push_cast; ring
  have hloR : (2 : ℝ) * (d.coeff * 10 ^ k) ≤ 2 * coeff + 10 ^ k := by exact_mod_cast hlo
  have hhiR : (2 : ℝ) * coeff ≤ 2 * (d.coeff * 10 ^ k) + 10 ^ k := by exact_mod_cast hhi
  have h : |(d.coeff : ℝ) * 10 ^ k - coeff| ≤ 10 ^ k / 2 := abs_le.2 ⟨by linarith, by linarith⟩
  rw [hrv, ← sub_mul, abs_mul, abs_of_pos hs, zpow_add₀ (by norm_num), zpow_natCast, mul_comm ((10 : ℝ) ^ exp),
    mul_div_right_comm]
  exact mul_le_mul_of_nonneg_right h hs.le

theorem table_near (d : Dec) (coeff k : ℕ) (exp e : ℤ) (T : ℝ) (hn : d.neg = false) (he : d.exp = exp + k)
    (hlo : 2 * (d.coeff * 10 ^ k) ≤ 2 * coeff + 10 ^ k) (hhi : 2 * coeff ≤ 2 * (d.coeff * 10 ^ k) + 10 ^ k)
    (hk : exp + k ≤ e) (hT : |coeff * (10 : ℝ) ^ exp - T| ≤ (10 : ℝ) ^ (e - 4)) :
    |rv d - T| ≤ 5001 / 10000 * (10 : ℝ) ^ e := by
  have h1 := rv_near_of_rounded d coeff k exp hn he hlo hhi
  have h2 : (10 : ℝ) ^ (exp + k) ≤ (10 : ℝ) ^ e := zpow_le_zpow_right₀ (by norm_num) hk
  have h3 : (10 : ℝ) ^ (e - 4) = (10 : ℝ) ^ e / 10000 := by rw [zpow_sub₀ (by norm_num)]; norm_num
  calc |rv d - T| ≤ |rv d - coeff * (10 : ℝ) ^ exp| + |coeff * (10 : ℝ) ^ exp - T| := abs_sub_le _ _ _
    _ ≤ (10 : ℝ) ^ e / 2 + (10 : ℝ) ^ e / 10000 :=
        add_le_add (h1.trans (div_le_div_of_nonneg_right h2 two_pos.le)) (hT.trans_eq h3)
    _ = _ := by ring

theorem ln10At_near (p : Nat) (hp1 : 3 ≤ p) (hp : p ≤ 90) :
    (ln10At p).form = .finite ∧ |rv (ln10At p) - Real.log 10| ≤ 1001 / 1000 * uR p := by
  unfold ln10At
  rw [constGet_eq]
  obtain ⟨hi8, hpi⟩ := constIdx_bounds p (by omega) (by omega)
  obtain ⟨hf, hn, he, hlo, hhi⟩ := ln10_table8 (constIdx p) hi8
  have hpow : 2 ^ constIdx p ≤ 2 ^ 7 := Nat.pow_le_pow_right (by decide) (by omega)
  have := table_near _ _ _ _ (1 - (p : ℤ)) (Real.log 10) hn he hlo hhi (by unfold ln10Exp; omega)
    (ln10_cert.trans (zpow_le_zpow_right₀ (by norm_num) (by omega)))
  have hA : (0 : ℝ) < (10 : ℝ) ^ (1 - (p : ℤ)) := zpow_pos (by norm_num) _
  exact ⟨hf, by unfold uR; linarith only [this, hA]⟩

theorem ln10_table_finite : ∀ i < 12, (constAt ln10Coeff ln10Exp ln10StrLen i).form = .finite := by
  decide +kernel

theorem ln10At_finite (p : Nat) : (ln10At p).form = .finite := by
  unfold ln10At
  rw [constGet_eq]
  by_cases h : constIdx p < 12
  · exact ln10_table_finite _ h
  · unfold constAt
    have : constVals ln10StrLen = 12 := by decide
    rw [this, if_pos (by omega)]

theorem ln10At_three : ln10At 3 = { coeff := 2303, exp := -3 } := by decide +kernel

theorem ln10_bounds : 22979 / 10000 ≤ Real.log 10 ∧ Real.log 10 ≤ 23081 / 10000 := by
  obtain ⟨_, h⟩ := ln10At_near 3 (by norm_num) (by norm_num)
  rw [ln10At_three] at h
  have hv : rv ({ coeff := 2303, exp := -3 } : Dec) = 2303 / 1000 := by
    unfold rv Dec.toRat; norm_num
  rw [hv] at h
  have hu : uR 3 = 1 / 200 := by rw [uR_eq]; norm_num
  rw [hu] at h
  obtain ⟨h1, h2⟩ := abs_le.1 h
  constructor <;> linarith

/-- the operand as `LnTapeOK` decides it: `SqrtL.Pos` with `coeff ≠ 0` for `0 < coeff` -/
structure PosFin (x : Dec) : Prop where
  fin : x.form = .finite
  pos : x.neg = false
  nz : x.coeff ≠ 0

theorem PosFin.rv_pos {x : Dec} (h : PosFin x) : 0 < rv x := rv_pos_of_not_neg x h.nz h.pos

theorem PosFin.rv_eq {x : Dec} (h : PosFin x) : rv x = (x.coeff : ℝ) * (10 : ℝ) ^ x.exp := by
  rw [← abs_rv, abs_of_pos h.rv_pos]

theorem cmp_decOne (x : Dec) (hx : x.form = .finite) : x.cmp decOne = 0 ↔ rv x = 1 := by
  have h1 : (decOne.toRat : ℚ) = 1 := by unfold Dec.toRat decOne; simp
  rw [(cmp_toRat x decOne hx rfl).2, h1]
  unfold rv
  exact ⟨fun h => by rw [h]; simp, fun h => by exact_mod_cast h⟩

theorem logSpecials_posFin (c : Ctx) (x : Dec) (hx : PosFin x) :
    logSpecials c x = if x.cmp decZero == 0 then some { d := { decInf with neg := true } }
      else if x.cmp decOne == 0 then some { d := decZero } else none := by
  unfold logSpecials
  have n1 : shouldSetAsNaN x none = false := by simp [shouldSetAsNaN, Dec.isNaN, hx.fin]
  have hs : ¬ x.sign < 0 := by
    unfold Dec.sign; rw [hx.fin, hx.pos]; simp; split <;> omega
  have n3 : (x.form == Form.infinite) = false := by rw [hx.fin]; rfl
  simp only [n1, hs, n3, Bool.false_eq_true, if_false]

theorem logSpecials_some (c : Ctx) (x : Dec) (hx : PosFin x) (o : Out) (hsp : logSpecials c x = some o)
    (hf : o.d.form = .finite) : rv x = 1 ∧ rv o.d = 0 := by
  rw [logSpecials_posFin c x hx] at hsp
  split_ifs at hsp with a b
  · simp only [Option.some.injEq] at hsp; subst hsp; simp [decInf] at hf
  · simp only [Option.some.injEq] at hsp; subst hsp
    exact ⟨(cmp_decOne x hx.fin).1 (by simpa using b), rv_decZero⟩

theorem logSpecials_none_indep (c c' : Ctx) (x : Dec) (hx : PosFin x) (h : logSpecials c x = none) :
    logSpecials c' x = none := by
  rw [logSpecials_posFin c' x hx, ← logSpecials_posFin c x hx]; exact h

theorem lnZ_posFin (x : Dec) (hx : PosFin x) : PosFin (lnZ x) := ⟨hx.fin, hx.pos, hx.nz⟩

theorem rv_lnZ (x : Dec) (hx : PosFin x) : rv (lnZ x) = (x.coeff : ℝ) * (10 : ℝ) ^ (-(ndigits x.coeff : ℤ)) := by
  have h := (lnZ_posFin x hx)
  rw [← abs_of_pos h.rv_pos, abs_rv]
  unfold lnZ lnExpDelta
  simp only
  congr 2
  ring

theorem lnZ_range (x : Dec) (hx : PosFin x) : 1 / 10 ≤ rv (lnZ x) ∧ rv (lnZ x) < 1 := by
  have h := abs_rv_isAdj (lnZ x) hx.nz
  have e : (lnZ x).exp = -(ndigits (lnZ x).coeff : ℤ) := by unfold lnZ lnExpDelta; simp only; ring
  rw [abs_of_pos (lnZ_posFin x hx).rv_pos, e, add_neg_cancel, ← sub_eq_add_neg, sub_sub_cancel_left, zpow_neg_one,
    zpow_zero, ← one_div] at h
  exact h

theorem rv_scale (x : Dec) (hx : PosFin x) : rv x = rv (lnZ x) * (10 : ℝ) ^ (lnExpDelta x) := by
  rw [rv_lnZ x hx]
  rw [hx.rv_eq, mul_assoc, ← zpow_add₀ ten_ne]
  unfold lnExpDelta
  congr 2; ring

theorem log_scale (x : Dec) (hx : PosFin x) :
    Real.log (rv x) = Real.log (rv (lnZ x)) + (lnExpDelta x : ℝ) * Real.log 10 := by
  have hz := (lnZ_posFin x hx).rv_pos
  rw [rv_scale x hx, Real.log_mul hz.ne' (zpow_pos (by norm_num) _).ne', Real.log_zpow]

theorem rv_lnRa0 (x : Dec) : rv (lnRa0 x) = (lnExpDelta x : ℝ) := by
  unfold rv lnRa0 Dec.toRat
  simp only [zpow_zero, mul_one]
  push_cast
  rw [Nat.cast_natAbs]
  by_cases h : lnExpDelta x < 0
  · have h' : ((lnExpDelta x : ℤ) : ℝ) < 0 := by exact_mod_cast h
    simp only [h, decide_true, if_true]
    push_cast
    rw [abs_of_neg h']; ring
  · have h' : (0 : ℝ) ≤ ((lnExpDelta x : ℤ) : ℝ) := by exact_mod_cast (not_lt.1 h)
    simp only [h, decide_false, Bool.false_eq_true, if_false]
    push_cast
    rw [abs_of_nonneg h']; ring

theorem log_lnZ_abs (x : Dec) (hx : PosFin x) : |Real.log (rv (lnZ x))| ≤ 23081 / 10000 := by
  obtain ⟨z1, z2⟩ := lnZ_range x hx
  have hge : Real.log (1 / 10) ≤ Real.log (rv (lnZ x)) := Real.log_le_log (by norm_num) z1
  rw [one_div, Real.log_inv] at hge
  rw [abs_of_nonpos (Real.log_nonpos (lnZ_posFin x hx).rv_pos.le z2.le)]
  linarith [ln10_bounds.2]

end Apd.LnAcc
