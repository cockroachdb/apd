import Lean.Meta.Tactic.Simp.RegisterCommand
/-- The equations `run (block …) h = …` of the building blocks of the store-level programs (the primitive accesses,
the `Decimal` methods, `setExponent`, `Round`, …), each tagged where it is proved, with `run_bind`, `run_pure`,
`run_ret`, `run_ite` and the heap algebra `Heap.set_same`, `Heap.set_set`: `simp only [prog_run]` runs a
program up to its next undecided test. -/
register_simp_attr prog_run
