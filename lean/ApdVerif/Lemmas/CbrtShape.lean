import ApdVerif.Model.TransObs
import ApdVerif.Lemmas.ErrExits
/-!
# `Context.Cbrt`: the parts of `cbrtOp` by name

`cbrtOp` is `cbrtPrefix` followed by `tail` (`Props/C11CbrtObs.lean`); the prefix runs both scaling loops, the first
estimate `est` and the Newton rounds `round` (`Lemmas/ErrExits.lean`).
-/
namespace Apd.CbrtL

theorem step_failed (e : ED) (cur : Dec) (op : Ctx → Out) (h : e.failed = true) :
    e.step cur op = (e, cur) :=
  ED.step_of_failed h cur op

open Cond in
theorem goError_default (fl : Cond) (h : goError defaultTraps fl = .none) :
    NoSys fl ∧ fl.overflow = false ∧ fl.underflow = false ∧ fl.subnormal = false ∧
    fl.divUndefined = false ∧ fl.divByZero = false ∧ fl.divImpossible = false ∧ fl.invalidOp = false := by
  obtain ⟨hns, h3⟩ := (goError_none_iff _ _).1 h
  have e : (fl &&& defaultTraps) = Cond.and fl defaultTraps := rfl
  rw [e] at h3
  simp only [Cond.any, Cond.and, defaultTraps, Bool.or_eq_false_iff, Bool.and_true, Bool.and_false] at h3
  obtain ⟨⟨⟨⟨⟨⟨⟨⟨⟨⟨⟨-, -⟩, a⟩, b⟩, -⟩, c⟩, -⟩, d⟩, e⟩, f⟩, g⟩, -⟩ := h3
  exact ⟨hns, a, b, c, d, e, f, g⟩

def nc (c : Ctx) : Ctx := { baseCtx with prec := c.prec * 2 + 2 }

/-- the four operations of the first estimate `(c1·z + c2)·z + c3` -/
def est4 (ed : ED) (z : Dec) : ED × Dec :=
  let r1 := ed.step z (fun c => mulOp c z cbrtC1)
  let r2 := r1.1.step r1.2 (fun c => addOp c r1.2 cbrtC2 false)
  let r3 := r2.1.step r2.2 (fun c => mulOp c r2.2 z)
  r3.1.step r3.2 (fun c => addOp c r3.2 cbrtC3 false)

/-- the first estimate, scaled back -/
def est (ed : ED) (z : Dec) (down up : Nat) : ED × Dec :=
  if down > up then mulN decHalf (down - up) (est4 ed z).1 (est4 ed z).2
  else mulN decTwo (up - down) (est4 ed z).1 (est4 ed z).2

/-- the context of the exactness re-check -/
def nc3 (c : Ctx) : Ctx := { nc c with prec := c.prec * 3 }

/-- everything after the loop: `cbrtTail` of `Model/TransObs.lean` (`cbrtTail_eq`, by `rfl`), restated so that its
steps can be unfolded -/
def tail (c : Ctx) (x : Dec) (fl0 : Cond) (z : Dec) : Out :=
  let r := ctxRound { c with mode := .halfEven } z
  let d : Dec := { r.1 with neg := x.neg }
  let e : ED := { c := { nc c with prec := c.prec * 3 }, fl := fl0, err := .none }
  let q1 := e.step z (fun c => mulOp c d d)
  let q2 := q1.1.step q1.2 (fun c => mulOp c q1.2 d)
  if q2.1.failed then failOut q2.1.errOf else
  if x.cmp q2.2 == 0 then { d := d } else { d := d, fl := r.2, err := goError c.traps r.2 }

theorem cbrtTail_eq : @cbrtTail = @tail := rfl

theorem rootSpecials_none (c : Ctx) (x : Dec) (hx : x.form = .finite) (h0 : x.coeff ≠ 0) :
    rootSpecials c x 3 = none := by
  have hnan : x.isNaN = false := by simp [Dec.isNaN, hx]
  unfold rootSpecials
  cases hn : x.neg <;> simp [shouldSetAsNaN, hnan, hx, Dec.sign, h0, hn]

theorem prefix_congr (c c' : Ctx) (x : Dec) (hp : c'.prec = c.prec) (h : rootSpecials c x 3 = none)
    (h' : rootSpecials c' x 3 = none) : cbrtPrefix c' x = cbrtPrefix c x := by
  unfold cbrtPrefix
  rw [h, h', hp]

theorem round_nf (ax : Dec) (e : ED) (z : Dec) (hnf : (round ax e z).1.failed = false) : e.failed = false := by
  unfold round at hnf
  dsimp only at hnf
  exact (ED.step_back (ED.step_back (ED.step_back (ED.step_back (ED.step_back hnf).1).1).1).1).1

end Apd.CbrtL
