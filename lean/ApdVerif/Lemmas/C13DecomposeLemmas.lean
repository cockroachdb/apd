import ApdVerif.Model.Decompose
import ApdVerif.Lemmas.BitLen
/-!
# The bytes of a magnitude (core Lean only)

`natBytes` is big-endian and minimal, eight bits to the byte; `fillBytes` is `natBytes` zero-extended.
-/
namespace Apd.Decomp

theorem bitLen_zero : bitLen 0 = 0 := rfl

theorem bitLen_pos {n : Nat} (h : n ≠ 0) : 0 < bitLen n := (bitLenExpr_spec n h).1

theorem bitLen_le_iff (n k : Nat) : bitLen n ≤ k ↔ n < 2 ^ k := bitLenExpr_le_iff n k

theorem bitLen_div_256 (n : Nat) : bitLen (n / 256) = bitLen n - 8 := by
  have key : ∀ k, bitLen (n / 256) ≤ k ↔ bitLen n ≤ k + 8 := by
    intro k
    rw [bitLen_le_iff, bitLen_le_iff, Nat.pow_add, Nat.div_lt_iff_lt_mul (by decide)]
  have h1 := key (bitLen (n / 256))
  have h2 := key (bitLen n - 8)
  omega

theorem byteLen_step (n : Nat) (h : n ≠ 0) : (bitLen (n / 256) + 7) / 8 + 1 = (bitLen n + 7) / 8 := by
  have := bitLen_div_256 n
  have := bitLen_pos h
  omega

theorem natBytesAux_zero (fuel : Nat) (acc : List UInt8) : natBytesAux fuel 0 acc = acc := by
  cases fuel <;> simp [natBytesAux]

theorem bytesNat_cons (b : UInt8) (l : List UInt8) :
    bytesNat (b :: l) = b.toNat * 256 ^ l.length + bytesNat l := by
  have gen : ∀ (l : List UInt8) (a : Nat),
      l.foldl (fun a b => a * 256 + b.toNat) a = a * 256 ^ l.length + l.foldl (fun a b => a * 256 + b.toNat) 0 := by
    intro l
    induction l with
    | nil => intro a; simp
    | cons c l ih =>
      intro a
      simp only [List.foldl_cons, List.length_cons]
      rw [ih (a * 256 + c.toNat), ih (0 * 256 + c.toNat), Nat.pow_succ]
      simp only [Nat.zero_mul, Nat.zero_add, Nat.add_mul, Nat.mul_assoc, Nat.add_assoc]
      rw [Nat.mul_comm (256 ^ l.length) 256]
  unfold bytesNat
  rw [List.foldl_cons, gen]
  simp

theorem toNat_ofNat_mod (n : Nat) : (UInt8.ofNat (n % 256)).toNat = n % 256 := by
  simp

theorem bytesNat_natBytesAux (fuel : Nat) : ∀ (n : Nat) (acc : List UInt8), n ≤ fuel →
    bytesNat (natBytesAux fuel n acc) = n * 256 ^ acc.length + bytesNat acc := by
  induction fuel with
  | zero => intro n acc h; have : n = 0 := by omega
            subst this; simp [natBytesAux]
  | succ fuel ih =>
    intro n acc h
    unfold natBytesAux
    by_cases hn : n = 0
    · subst hn; simp
    · rw [if_neg hn, ih _ _ (by omega), bytesNat_cons, toNat_ofNat_mod, List.length_cons, Nat.pow_succ]
      have := Nat.div_add_mod n 256
      generalize 256 ^ acc.length = p
      generalize bytesNat acc = q
      generalize n / 256 = a at *
      generalize n % 256 = r at *
      subst this
      simp only [Nat.add_mul, Nat.add_assoc]
      ac_rfl

theorem length_natBytesAux (fuel : Nat) : ∀ (n : Nat) (acc : List UInt8), n ≤ fuel →
    (natBytesAux fuel n acc).length = (bitLen n + 7) / 8 + acc.length := by
  induction fuel with
  | zero => intro n acc h; have : n = 0 := by omega
            subst this; simp [natBytesAux, bitLen]
  | succ fuel ih =>
    intro n acc h
    unfold natBytesAux
    by_cases hn : n = 0
    · subst hn; simp [bitLen]
    · rw [if_neg hn, ih _ _ (by omega), List.length_cons, ← byteLen_step n hn]
      omega

theorem head_natBytesAux (fuel : Nat) : ∀ (n : Nat) (acc : List UInt8), n ≤ fuel → n ≠ 0 →
    (natBytesAux fuel n acc).head? ≠ some 0 := by
  induction fuel with
  | zero => intro n acc h hn; omega
  | succ fuel ih =>
    intro n acc h hn
    unfold natBytesAux
    rw [if_neg hn]
    by_cases hq : n / 256 = 0
    · rw [hq, natBytesAux_zero]
      have hlt : n < 256 := by omega
      simp only [List.head?_cons, ne_eq, Option.some.injEq]
      intro h0
      have := congrArg UInt8.toNat h0
      rw [toNat_ofNat_mod] at this
      simp at this
      omega
    · exact ih _ _ (by omega) hq

theorem fillBytesAux_eq (len : Nat) : ∀ (fuel n : Nat) (acc : List UInt8), n ≤ fuel →
    (bitLen n + 7) / 8 ≤ len →
    fillBytesAux len n acc = List.replicate (len - (bitLen n + 7) / 8) 0 ++ natBytesAux fuel n acc := by
  induction len with
  | zero =>
    intro fuel n acc _ hl
    have : n = 0 := Decidable.byContradiction fun hn => by have := bitLen_pos hn; omega
    subst this
    simp [fillBytesAux, natBytesAux_zero]
  | succ len ih =>
    intro fuel n acc hf hl
    unfold fillBytesAux
    by_cases hn : n = 0
    · subst hn
      rw [ih fuel _ _ (by omega) (by simp [bitLen])]
      simp only [Nat.zero_div, natBytesAux_zero, bitLen_zero, Nat.zero_add, Nat.reduceDiv, Nat.sub_zero,
        Nat.zero_mod]
      rw [List.replicate_succ', List.append_assoc]
      rfl
    · obtain ⟨fuel', rfl⟩ : ∃ f, fuel = f + 1 := ⟨fuel - 1, by omega⟩
      have hs := byteLen_step n hn
      rw [ih fuel' _ _ (by omega) (by omega)]
      conv => rhs; unfold natBytesAux
      rw [if_neg hn]
      congr 2
      omega

end Apd.Decomp
