import ApdVerif.Lemmas.CbrtConvLoop
/-!
# `Context.Cbrt` converges — the side condition and the two scaling loops

The stages of `Cbrt` are scaling down (`·8`), scaling up (`·0.125`), the polynomial estimate, scaling back (`·0.5` / `·2`)
and the Newton loop.  Here: the side condition `CbrtSide` of `C11_cbrt_returns`, its working form `Side`, and stages 1
and 2 (`stage_down`, `stage_up`); stages 3–5 are in `Lemmas/CbrtConvEst.lean`.
-/
namespace Apd.CbrtC
open Apd.C20L Apd.SqrtL Apd.CbrtL Apd.CbrtR

theorem zpow_natAbs_ge (A : ℤ) : (1 : ℚ) ≤ (10 : ℚ) ^ A * (10 : ℚ) ^ A.natAbs := by
  rw [← zpow_natCast, ← zpow_add₀ ten_ne]
  have : (0 : ℤ) ≤ A + (A.natAbs : ℤ) := by omega
  have := zpow_le_zpow_right₀ ten_ge this
  simpa using this

theorem down_count (X z : ℚ) (A : ℤ) (n : ℕ) (hX : (10 : ℚ) ^ A ≤ X) (hz : z < 1 / 8) (h : X * 7 ^ n ≤ z) :
    n < 2 * A.natAbs + 1 := by
  have h1 := mul_le_mul_of_nonneg_right hX (pow_nonneg (by norm_num : (0 : ℚ) ≤ 10) A.natAbs)
  exact Nat.lt_succ_of_lt (scale_count (lt_of_lt_of_le (tp A) hX) h (by linarith [zpow_natAbs_ge A]))

theorem up_count (Z z : ℚ) (m n : ℕ) (hZ : Z < (10 : ℚ) ^ (m + 1)) (hz : 1 < z) (h : z * 7 ^ n ≤ Z) :
    n < 2 * m + 2 := by
  have h1 : (1 : ℚ) * 10 ^ (m + 1) < z * 10 ^ (m + 1) := mul_lt_mul_of_pos_right hz (by positivity)
  exact scale_count (by linarith) h (by linarith)

theorem eight_pow_ge (ε : ℚ) (n : ℕ) (hε : ε ≤ 1 / 2000) : (7 : ℚ) ^ n ≤ 8 ^ n * (1 - ε) ^ n := by
  rw [← mul_pow]
  exact pow_le_pow_left₀ (by norm_num) (by linarith) n

theorem eighth_pow_le (ε : ℚ) (n : ℕ) (hε0 : 0 ≤ ε) (hε : ε ≤ 1 / 2000) :
    (1 / 8 : ℚ) ^ n * (1 + ε) ^ n * 7 ^ n ≤ 1 := by
  rw [← mul_pow, ← mul_pow]
  apply pow_le_one₀
  · have : 0 ≤ 1 + ε := by linarith
    positivity
  · linarith

/-- the halvings undo the net scaling `8^d·(1/8)^u`, on cubes … -/
theorem scale_id1 (d u : ℕ) (h : u ≤ d) : ((1 / 2 : ℚ) ^ (d - u)) ^ 3 * (8 ^ d * (1 / 8) ^ u) = 1 := by
  obtain ⟨M, rfl⟩ := Nat.exists_eq_add_of_le h
  have h1 : ((1 / 2 : ℚ) ^ M) ^ 3 = (1 / 8) ^ M := by
    rw [← pow_mul, mul_comm, pow_mul]; norm_num
  have h2 : ∀ k : ℕ, (8 : ℚ) ^ k * (1 / 8) ^ k = 1 := by
    intro k; rw [← mul_pow]; norm_num
  rw [Nat.add_sub_cancel_left, h1, pow_add]
  calc (1 / 8 : ℚ) ^ M * (8 ^ u * 8 ^ M * (1 / 8) ^ u) = (8 ^ u * (1 / 8) ^ u) * (8 ^ M * (1 / 8) ^ M) := by ring
    _ = 1 := by rw [h2, h2]; norm_num

/-- … and so do the doublings -/
theorem scale_id2 (d u : ℕ) (h : d ≤ u) : ((2 : ℚ) ^ (u - d)) ^ 3 * (8 ^ d * (1 / 8) ^ u) = 1 := by
  obtain ⟨M, rfl⟩ := Nat.exists_eq_add_of_le h
  have h1 : ((2 : ℚ) ^ M) ^ 3 = 8 ^ M := by
    rw [← pow_mul, mul_comm, pow_mul]; norm_num
  have h2 : ∀ k : ℕ, (8 : ℚ) ^ k * (1 / 8) ^ k = 1 := by
    intro k; rw [← mul_pow]; norm_num
  rw [Nat.add_sub_cancel_left, h1, pow_add]
  calc (8 : ℚ) ^ M * (8 ^ d * ((1 / 8) ^ d * (1 / 8) ^ M)) = (8 ^ d * (1 / 8) ^ d) * (8 ^ M * (1 / 8) ^ M) := by ring
    _ = 1 := by rw [h2, h2]; norm_num

theorem ge_of_cube (w : ℚ) (a : ℤ) (hw : 0 < w) (h : (10 : ℚ) ^ (3 * a - 3) ≤ w ^ 3) : (10 : ℚ) ^ (a - 1) ≤ w := by
  have e : ((10 : ℚ) ^ (a - 1)) ^ 3 = (10 : ℚ) ^ (3 * a - 3) := by
    rw [← zpow_natCast, ← zpow_mul]; congr 1; push_cast; ring
  rw [← e] at h
  exact le_of_pow_le_pow_left₀ (by norm_num) hw.le h

theorem lt_of_cube (w : ℚ) (a : ℤ) (h : w ^ 3 < (10 : ℚ) ^ (3 * a + 6)) : w < (10 : ℚ) ^ (a + 2) := by
  have e : ((10 : ℚ) ^ (a + 2)) ^ 3 = (10 : ℚ) ^ (3 * a + 6) := by
    rw [← zpow_natCast, ← zpow_mul]; congr 1; push_cast; ring
  rw [← e] at h
  exact lt_of_pow_lt_pow_left₀ 3 (tp _).le h

def adjX (x : Dec) : Int := x.exp + (ndigits x.coeff : Int) - 1

/-- the explicit side condition of `C11_cbrt_returns` (all clauses are linear in the precision, the exponent and
the digit count of the operand; `a = ⌊adj/3⌋` is the adjusted exponent of the root) -/
def CbrtSide (c : Ctx) (x : Dec) : Prop :=
  (c.traps.inexact = false ∧ c.traps.rounded = false ∧ c.traps.subnormal = false ∧ c.traps.underflow = false ∧
    c.traps.overflow = false ∧ c.traps.clamped = false) ∧ c.prec ≤ 24999 ∧ ndigits x.coeff ≤ 99990 ∧
  -99988 + 2 * (c.prec : Int) ≤ x.exp ∧
  -50000 ≤ adjX x / 3 - (2 * (c.prec : Int) + 2) ∧
  adjX x / 3 ≤ 33331 ∧
  -100000 ≤ 3 * (adjX x / 3 - (c.prec : Int)) ∧
  (8 * (adjX x).natAbs + 20) * 5 ≤ 4 * 10 ^ (c.prec * 2 + 2)

instance (c : Ctx) (x : Dec) : Decidable (CbrtSide c x) := by unfold CbrtSide; exact inferInstance

/-- what the proof uses of the side condition, in the vocabulary of the stages -/
structure Side (P : ℕ) (ax : Dec) (A a : ℤ) : Prop where
  hP : 1 ≤ P
  hP2 : P ≤ 24999
  hnd : ndigits ax.coeff ≤ 99990
  hA : A = ax.exp + (ndigits ax.coeff : ℤ) - 1
  ha : a = A / 3
  S1 : -99988 + 2 * (P : ℤ) ≤ ax.exp
  H1 : -50000 ≤ a - (2 * (P : ℤ) + 2)
  H2 : a ≤ 33331
  H3 : -100000 ≤ ax.exp - 2 * a - 4
  C5 : -100000 ≤ 3 * (a - (P : ℤ))
  hK : ((8 * A.natAbs + 20 : ℕ) : ℚ) * eps (P * 2 + 2) ≤ 4

theorem side_K (P : ℕ) (m : ℕ) (h : (8 * m + 20) * 5 ≤ 4 * 10 ^ (P * 2 + 2)) :
    ((8 * m + 20 : ℕ) : ℚ) * eps (P * 2 + 2) ≤ 4 := by
  unfold eps
  have h1 : (((8 * m + 20) * 5 : ℕ) : ℚ) ≤ ((4 * 10 ^ (P * 2 + 2) : ℕ) : ℚ) := by exact_mod_cast h
  rw [zpow_neg, zpow_natCast]
  have hp : (0 : ℚ) < (10 : ℚ) ^ (P * 2 + 2) := by positivity
  push_cast at h1 ⊢
  rw [show (8 * (m : ℚ) + 20) * (5 * ((10 : ℚ) ^ (P * 2 + 2))⁻¹) = ((8 * (m : ℚ) + 20) * 5) / (10 : ℚ) ^ (P * 2 + 2) by
    field_simp]
  rw [div_le_iff₀ hp]
  linarith

theorem Side.ranges {P : ℕ} {ax : Dec} {A a : ℤ} (S : Side P ax A a) :
    3 * a ≤ A ∧ A ≤ 3 * a + 2 ∧ -99996 ≤ A ∧ A ≤ 99995 ∧ A.natAbs ≤ 99996 ∧ -33332 ≤ a := by
  have := S.ha; have := S.H2; have := S.C5; have := S.hP
  omega

theorem Side.X_rng {P : ℕ} {ax : Dec} {A a : ℤ} (S : Side P ax A a) (hax : Pos ax) :
    Rng ax.toRat A (A + 1) ∧ Rng ax.toRat (3 * a) (3 * a + 3) := by
  obtain ⟨b1, b2⟩ := toRat_bounds hax
  obtain ⟨r1, r2, -⟩ := S.ranges
  have h : Rng ax.toRat A (A + 1) := by
    rw [S.hA]
    refine ⟨b1, ?_⟩
    rw [show ax.exp + (ndigits ax.coeff : ℤ) - 1 + 1 = ax.exp + (ndigits ax.coeff : ℤ) by ring]; exact b2
  exact ⟨h, h.widen r1 (by omega)⟩

theorem Side.eps_le {P : ℕ} {ax : Dec} {A a : ℤ} (S : Side P ax A a) :
    0 ≤ eps (P * 2 + 2) ∧ eps (P * 2 + 2) ≤ 1 / 2000 :=
  ⟨(eps_pos _).le, eps_small _ (by have := S.hP; omega)⟩

/-- a scaling step `z·k` (`k` is 8 or 0.125) does not fail: for the operand itself, whose exponent and digit count
the side condition bounds, and for every rounded value in a decimal range -/
theorem Side.scale_ok {P : ℕ} {ax : Dec} {A a : ℤ} (S : Side P ax A a) {cc : Ctx} (hw : NCtx cc (P * 2 + 2))
    {z k : Dec} {i j ki kj : ℤ} (hz : Pos z) (hd : z = ax ∨ ndigits z.coeff ≤ P * 2 + 2) (hzr : Rng z.toRat i j)
    (K : Dg 3 k ki kj)
    (h : -3 ≤ k.exp ∧ k.exp ≤ 0 ∧ -100000 ≤ i - (2 * (P : ℤ) + 2) + 1 + k.exp ∧ j ≤ 100001 ∧ -100000 ≤ i + ki ∧
      j + kj ≤ 99999 ∧ kj ≤ 100001) {e : ED} (he : EDg cc e) :
    (e.step z (fun c => mulOp c z k)).1.failed = false := by
  have hp4 : 4 ≤ P * 2 + 2 := by have := S.hP; omega
  rcases hd with hc | hc
  · have Z : Dg (ndigits ax.coeff) z i j := ⟨hz, by rw [hc], hzr⟩
    exact (Dg.mul_fw (cur := z) hw hp4 he Z K (by
      have := S.S1; have := S.hP; have := S.hnd; rw [hc]; omega)).1.nf
  · have Z : Dg (P * 2 + 2) z i j := ⟨hz, hc, hzr⟩
    have := Z.exp
    exact (Dg.mul_fw (cur := z) hw hp4 he Z K (by push_cast at this; omega)).1.nf

theorem dg_eight : Dg 3 decEight 0 1 :=
  ⟨decEight_pos, by decide, by rw [decEight_toRat]; constructor <;> norm_num⟩

theorem dg_eighth : Dg 3 decOneEighth (-1) 0 :=
  ⟨decOneEighth_pos, by decide, by rw [decOneEighth_toRat]; constructor <;> norm_num⟩

theorem stage_down (cc : Ctx) (P : ℕ) (ax : Dec) (A a : ℤ) (S : Side P ax A a) (hw : NCtx cc (P * 2 + 2))
    (hax : Pos ax) :
    (∀ er, scaleLoop (fun z => decide (z.cmp decOneEighth < 0)) decEight 400000 { c := cc } ax 0 ≠ some (.inl er)) ∧
    ∀ ed1 z1 d, scaleLoop (fun z => decide (z.cmp decOneEighth < 0)) decEight 400000 { c := cc } ax 0 =
        some (.inr (ed1, z1, d)) →
      EDg cc ed1 ∧ Pos z1 ∧ (z1 = ax ∨ ndigits z1.coeff ≤ P * 2 + 2) ∧ d ≤ 2 * A.natAbs + 1 ∧
      Upto (eps (P * 2 + 2)) d (ax.toRat * 8 ^ d) z1.toRat ∧ 1 / 8 ≤ z1.toRat ∧
      ((d = 0 ∧ z1 = ax) ∨ z1.toRat ≤ 1 + eps (P * 2 + 2)) := by
  have hp4 : 4 ≤ P * 2 + 2 := by have := S.hP; omega
  obtain ⟨hε0, hε⟩ := S.eps_le
  obtain ⟨r1, r2, r3, r4, r5, r6⟩ := S.ranges
  obtain ⟨hXA, hX3⟩ := S.X_rng hax
  have hX0 := hXA.pos
  have d8e : decEight.exp = 0 := rfl
  have hstep : ∀ (z : Dec) (n : ℕ), Pos z → (z = ax ∨ ndigits z.coeff ≤ P * 2 + 2) →
      (fun z => decide (z.cmp decOneEighth < 0)) z = true →
      Upto (eps (P * 2 + 2)) n (ax.toRat * decEight.toRat ^ n) z.toRat → n < 2 * A.natAbs + 1 ∧
        ∀ e, EDg cc e → (e.step z (fun c => mulOp c z decEight)).1.failed = false := by
    intro z n hz hd ht hb
    have hlt : z.toRat < 1 / 8 := (test_down z hz).1 ht
    rw [decEight_toRat] at hb
    have hge : ax.toRat * 7 ^ n ≤ z.toRat := by
      have := eight_pow_ge (eps (P * 2 + 2)) n hε
      calc ax.toRat * 7 ^ n ≤ ax.toRat * (8 ^ n * (1 - eps (P * 2 + 2)) ^ n) := mul_le_mul_of_nonneg_left this hX0.le
        _ = ax.toRat * 8 ^ n * (1 - eps (P * 2 + 2)) ^ n := by ring
        _ ≤ z.toRat := hb.1
    have hzX : ax.toRat ≤ z.toRat := by
      have : (1 : ℚ) ≤ 7 ^ n := one_le_pow₀ (by norm_num)
      calc ax.toRat = ax.toRat * 1 := (mul_one _).symm
        _ ≤ ax.toRat * 7 ^ n := mul_le_mul_of_nonneg_left this hX0.le
        _ ≤ z.toRat := hge
    refine ⟨down_count ax.toRat z.toRat A n hXA.1 hlt hge, ?_⟩
    have hzr : Rng z.toRat A 0 := ⟨le_trans hXA.1 hzX, by rw [t0]; linarith only [hlt]⟩
    have := S.C5
    have := S.hP
    exact fun e he => S.scale_ok hw hz hd hzr dg_eight (by rw [d8e]; omega) he
  obtain ⟨n1, f1⟩ :=
    scaleLoop_fw cc (P * 2 + 2) hw hp4 _ decEight decEight_pos ax hax (2 * A.natAbs + 1) hstep
      400000 { c := cc } (EDg.init cc)
  refine ⟨n1, fun ed1 z1 d h => ?_⟩
  obtain ⟨q2, q3, q4, q6, q7, q8, q9⟩ := f1 _ _ _ h
  rw [decEight_toRat] at q7 q9
  refine ⟨q2, q3, q4, q6, q7, ?_, ?_⟩
  · by_contra hc
    have := (test_down z1 q3).2 (lt_of_not_ge hc)
    have h8 : decide (z1.cmp decOneEighth < 0) = false := q8
    rw [h8] at this; exact Bool.noConfusion this
  · rcases q9 with ⟨h1, h2⟩ | ⟨zp, t1, t2, t3, t4⟩
    · exact Or.inl ⟨h1, h2⟩
    · right
      have := (test_down zp t2).1 t1
      have h1e : 0 ≤ 1 + eps (P * 2 + 2) := by linarith only [hε0]
      calc z1.toRat ≤ zp.toRat * 8 * (1 + eps (P * 2 + 2)) := t4
        _ ≤ 1 / 8 * 8 * (1 + eps (P * 2 + 2)) := by
            apply mul_le_mul_of_nonneg_right _ h1e
            linarith only [this]
        _ = 1 + eps (P * 2 + 2) := by ring

theorem stage_up (cc : Ctx) (P : ℕ) (ax : Dec) (A a : ℤ) (S : Side P ax A a) (hw : NCtx cc (P * 2 + 2))
    (hax : Pos ax) (ed1 : ED) (z1 : Dec) (d : ℕ) (he1 : EDg cc ed1) (hz1 : Pos z1)
    (hd1 : z1 = ax ∨ ndigits z1.coeff ≤ P * 2 + 2) (hdB : d ≤ 2 * A.natAbs + 1) (hge : 1 / 8 ≤ z1.toRat)
    (hlast : (d = 0 ∧ z1 = ax) ∨ z1.toRat ≤ 1 + eps (P * 2 + 2)) :
    (∀ er, scaleLoop (fun z => decide (z.cmp decOne > 0)) decOneEighth 400000 ed1 z1 0 ≠ some (.inl er)) ∧
    ∀ ed2 z2 u, scaleLoop (fun z => decide (z.cmp decOne > 0)) decOneEighth 400000 ed1 z1 0 = some (.inr (ed2, z2, u)) →
      EDg cc ed2 ∧ Pos z2 ∧ (z2 = ax ∨ ndigits z2.coeff ≤ P * 2 + 2) ∧ d + u ≤ 2 * A.natAbs + 2 ∧
      Upto (eps (P * 2 + 2)) u (z1.toRat * (1 / 8) ^ u) z2.toRat ∧ 1249 / 10000 ≤ z2.toRat ∧ z2.toRat ≤ 1 := by
  have hp4 : 4 ≤ P * 2 + 2 := by have := S.hP; omega
  obtain ⟨hε0, hε⟩ := S.eps_le
  obtain ⟨r1, r2, r3, r4, r5, r6⟩ := S.ranges
  obtain ⟨hXA, hX3⟩ := S.X_rng hax
  have hAabs : A ≤ (A.natAbs : ℤ) := Int.le_natAbs
  have hP2 := S.hP2
  have k8e : decOneEighth.exp = -3 := rfl
  have k8v := decOneEighth_toRat
  -- an upper bound on the start
  have hZ : z1.toRat < (10 : ℚ) ^ (A.natAbs + 1) := by
    rcases hlast with ⟨-, h⟩ | h
    · rw [h]
      have : (10 : ℚ) ^ (A + 1) ≤ (10 : ℚ) ^ (((A.natAbs + 1 : ℕ)) : ℤ) :=
        zpow_le_zpow_right₀ ten_ge (by omega)
      rw [zpow_natCast] at this
      exact lt_of_lt_of_le hXA.2 this
    · have : (10 : ℚ) ^ 1 ≤ (10 : ℚ) ^ (A.natAbs + 1) := pow_le_pow_right₀ (by norm_num) (by omega)
      linarith only [this, h, hε]
  have hstep : ∀ (z : Dec) (n : ℕ), Pos z → (z = z1 ∨ ndigits z.coeff ≤ P * 2 + 2) →
      (fun z => decide (z.cmp decOne > 0)) z = true →
      Upto (eps (P * 2 + 2)) n (z1.toRat * decOneEighth.toRat ^ n) z.toRat →
      n < (if d = 0 then 2 * A.natAbs + 2 else 1) ∧
        ∀ e, EDg cc e → (e.step z (fun c => mulOp c z decOneEighth)).1.failed = false := by
    intro z n hz hd ht hb
    have hgt : 1 < z.toRat := (test_up z hz).1 ht
    rw [k8v] at hb
    have h7 : z.toRat * 7 ^ n ≤ z1.toRat := by
      have := eighth_pow_le (eps (P * 2 + 2)) n hε0 hε
      have h7p : (0 : ℚ) ≤ 7 ^ n := by positivity
      calc z.toRat * 7 ^ n ≤ z1.toRat * (1 / 8) ^ n * (1 + eps (P * 2 + 2)) ^ n * 7 ^ n :=
            mul_le_mul_of_nonneg_right hb.2 h7p
        _ = z1.toRat * ((1 / 8) ^ n * (1 + eps (P * 2 + 2)) ^ n * 7 ^ n) := by ring
        _ ≤ z1.toRat * 1 := mul_le_mul_of_nonneg_left this hz1.toRat_pos.le
        _ = z1.toRat := mul_one _
    have hzz1 : z.toRat ≤ z1.toRat := by
      have : (1 : ℚ) ≤ 7 ^ n := one_le_pow₀ (by norm_num)
      calc z.toRat = z.toRat * 1 := (mul_one _).symm
        _ ≤ z.toRat * 7 ^ n := mul_le_mul_of_nonneg_left this hz.toRat_pos.le
        _ ≤ z1.toRat := h7
    constructor
    · by_cases hd0 : d = 0
      · rw [if_pos hd0]
        exact up_count z1.toRat z.toRat A.natAbs n hZ hgt h7
      · rw [if_neg hd0]
        rcases hlast with ⟨h, -⟩ | h
        · exact absurd h hd0
        · by_contra hc
          have h1 : (7 : ℚ) ^ 1 ≤ 7 ^ n := pow_le_pow_right₀ (by norm_num) (by omega)
          have h2 : z.toRat * 7 ^ 1 ≤ z.toRat * 7 ^ n := mul_le_mul_of_nonneg_left h1 hz.toRat_pos.le
          norm_num at h2
          linarith only [h2, h7, h, hgt, hε]
    · have hzr : Rng z.toRat 0 (((A.natAbs + 1 : ℕ)) : ℤ) :=
        ⟨by rw [t0]; linarith only [hgt], by rw [zpow_natCast]; exact lt_of_le_of_lt hzz1 hZ⟩
      have hcase : z = ax ∨ ndigits z.coeff ≤ P * 2 + 2 := hd.elim (fun h => h ▸ hd1) Or.inr
      exact fun e he => S.scale_ok hw hz hcase hzr dg_eighth (by rw [k8e]; omega) he
  obtain ⟨n2, f2⟩ :=
    scaleLoop_fw cc (P * 2 + 2) hw hp4 _ decOneEighth decOneEighth_pos z1 hz1
      (if d = 0 then 2 * A.natAbs + 2 else 1) hstep 400000 ed1 he1
  refine ⟨n2, fun ed2 z2 u h => ?_⟩
  obtain ⟨q2, q3, q4, q6, q7, q8, q9⟩ := f2 _ _ _ h
  rw [k8v] at q7 q9
  have hle : z2.toRat ≤ 1 := by
    by_contra hc
    have := (test_up z2 q3).2 (lt_of_not_ge hc)
    have h8 : decide (z2.cmp decOne > 0) = false := q8
    rw [h8] at this; exact Bool.noConfusion this
  refine ⟨q2, q3, ?_, ?_, q7, ?_, hle⟩
  · rcases q4 with h | h
    · rw [h]; exact hd1
    · exact Or.inr h
  · split_ifs at q6 with hd0 <;> omega
  · rcases q9 with ⟨-, h2⟩ | ⟨zp, t1, t2, t3, t4⟩
    · rw [h2]; linarith only [hge]
    · have hzp := (test_up zp t2).1 t1
      have h1e : 0 ≤ 1 - eps (P * 2 + 2) := by linarith only [hε]
      have : 1 * (1 / 8) * (1999 / 2000) ≤ zp.toRat * (1 / 8) * (1 - eps (P * 2 + 2)) := by
        apply mul_le_mul _ (by linarith only [hε]) (by norm_num) (by positivity)
        linarith only [hzp]
      linarith only [this, t3]

theorem pow_bounds_wide (ε : ℚ) (Kmax k : ℕ) (hε0 : 0 ≤ ε) (hε : ε ≤ 1 / 2000) (hK : (Kmax : ℚ) * ε ≤ 4)
    (hk : k ≤ Kmax) :
    1 / 65 ≤ (1 - ε) ^ k ∧ (1 + ε) ^ k ≤ 65 ∧ (1 - ε) ^ k ≤ 1 ∧ 1 ≤ (1 + ε) ^ k := by
  have hkq : (k : ℚ) * ε ≤ 4 := by
    have : (k : ℚ) ≤ (Kmax : ℚ) := by exact_mod_cast hk
    exact le_trans (mul_le_mul_of_nonneg_right this hε0) hK
  obtain ⟨a1, a2⟩ := pow_block ε k hε0 hε hkq
  exact ⟨a1, a2, pow_le_one₀ (by linarith) (by linarith), one_le_pow₀ (by linarith)⟩

theorem pc_range (t : ℚ) (h0 : 1249 / 10000 ≤ t) (h1 : t ≤ 1) : 1 / 2 ≤ pc t ∧ pc t ≤ 99 / 100 := by
  have a := pc_mono (1249 / 10000) t h0 h1
  have b := pc_mono t 1 h1 (le_refl _)
  have e1 : (1 : ℚ) / 2 ≤ pc (1249 / 10000) := by norm_num [pc]
  have e2 : pc 1 ≤ (99 : ℚ) / 100 := by norm_num [pc]
  constructor <;> linarith

end Apd.CbrtC
