import ApdVerif.Lemmas.C05Lemmas
/-!
# One run lemma per `Context` method: the store-level program returns the value-level model's outcome

`<op>P_run` : `OpRun (prog c d x y) d h (model c (x.val h) (y.val h))` for every heap and every choice of the
destination cell and the operand pointers (cells or package constants), hence for every aliasing pattern.  The
statements `C05_<op>` on cells are in `Props/C05`.

What `stale_exp_run` records, in `mulP_run` and `quoP_run`: `Context.Mul` and `Context.Quo` call
`d.setExponent` while `d.Exponent` still holds the destination's PREVIOUS exponent.  On the normal exits it is
overwritten; on the system-limit exits ("exponent out of range", not delivered) it stays, and `Mul` then rounds `d`
with that stale exponent, so the returned flags of an undelivered `Mul` depend on the old contents of `d`
(Go: `Mul(d, 5E+60000, 7E+60000)` returns flags 5 if `d` was `0E0` and 47 if `d` was `0E-100004`).  The error class
is `sys` either way, which is all C05/C06 claim for undelivered outcomes.
-/
namespace Apd.Imp
open Apd.Cond

theorem addP_run (c : Ctx) (d : Cell) (x y : Src) (sub : Bool) (h : Heap) :
    OpRun (addP c d x y sub) d h (addOp c (x.val h) (y.val h) sub) := by
  unfold addP addOp
  refine OpRun.nanPrologue c d x (some y) h ?_
  unfold OpRun
  simp only [prog_run]
  cases hxi : ((x.val h).form == Form.infinite) <;> cases hyi : ((y.val h).form == Form.infinite) <;>
    bsimp [hxi, hyi]
  · rcases run_upscaleP x y h with ⟨hu, hr⟩ | ⟨ra, rb, av, bv, s, hu, hr, hra, hrb⟩
    · simp only [hr, hu, run_pure]
      exact SRes.undelivered d h not_delivered_sys {} 0
    · simp only [hr, hu]
      rw [run_addFiniteP c d x y _ _ ra rb s h av bv
        (fun v hv => hra _ (Src.coeff_set x d h v hv)) (fun v hv => hrb _ (Src.coeff_set y d h v hv))]
      op_exact
  · op_exact
  · op_exact
  · cases hng : ((x.val h).neg != ((y.val h).neg != sub)) <;> bsimp [hng] <;> op_exact

theorem absP_run (c : Ctx) (d : Cell) (x : Src) (h : Heap) :
    OpRun (absP c d x) d h (absOp c (x.val h)) := by
  unfold absP absOp
  refine OpRun.nanPrologue c d x none h ?_
  unfold OpRun
  simp only [prog_run]
  op_exact

theorem negP_run (c : Ctx) (d : Cell) (x : Src) (h : Heap) :
    OpRun (negP c d x) d h (negOp c (x.val h)) := by
  unfold negP negOp
  refine OpRun.nanPrologue c d x none h ?_
  unfold OpRun
  simp only [prog_run]
  op_exact

theorem roundOpP_run (c : Ctx) (d : Cell) (x : Src) (h : Heap) :
    OpRun (roundOpP c d x) d h (roundOp c (x.val h)) := by
  unfold roundOpP roundOp
  refine OpRun.nanPrologue c d x none h ?_
  unfold OpRun
  simp only [prog_run]
  op_exact

theorem mulP_run (c : Ctx) (d : Cell) (x y : Src) (h : Heap) :
    OpRun (mulP c d x y) d h (mulOp c (x.val h) (y.val h)) := by
  unfold mulP mulOp
  refine OpRun.nanPrologue c d x (some y) h ?_
  unfold OpRun
  simp only [prog_run, ite_pair_heap, Bool.if_true_left, Bool.decide_eq_true]
  cases hi : ((x.val h).form == Form.infinite || (y.val h).form == Form.infinite) <;> bsimp [hi]
  · simp only [Src.exp_set]
    -- `setExponent` has run on the stale exponent `(h d).exp`; the model uses exponent 0
    exact stale_exp_run c d h ⟨.finite, _, 0, _⟩ (h d).exp {} _
      (fun r => ((roundX c r.1 true).1, r.2 ||| (roundX c r.1 true).2)) (fun _ hns => (NoSys.or_iff.1 hns).1)
  · cases hz : ((x.val h).isZero || (y.val h).isZero) <;> bsimp [hz] <;> op_exact

theorem spRun_quoSpecialsP (c : Ctx) (d : Cell) (x y : Src) (cc : Bool) (h : Heap) :
    SpRun (run (quoSpecialsP c d x y cc) h) d h (quoSpecials c (x.val h) (y.val h) cc) := by
  unfold SpRun quoSpecialsP quoSpecials
  simp only [prog_run, Option.map_some]
  by_cases hn : shouldSetAsNaN (x.val h) (some (y.val h)) = true
  · simp only [hn, if_true, run_setAsNaNP c d x (some y) h hn, Option.map_some]
    exact Or.inr ⟨_, _, rfl, rfl, fun _ => rfl, by simp⟩
  bsimp [hn]
  cases hxi : ((x.val h).form == Form.infinite) <;> cases hyi : ((y.val h).form == Form.infinite) <;>
    bsimp [hxi, hyi]
  · cases hyz : (y.val h).isZero <;> bsimp [hyz]
    · cases hp : (c.prec == 0) <;> bsimp [hp]
      · exact Or.inl ⟨trivial, trivial⟩
      · exact Or.inr ⟨failWith .zeroPrec, h d, rfl, by simp [failWith],
          fun hd => absurd hd not_delivered_zeroPrec, rfl⟩
    · cases hxz : (x.val h).isZero <;> bsimp [hxz] <;> exact Or.inr ⟨_, _, rfl, rfl, fun _ => rfl, rfl⟩
  · cases cc <;> exact Or.inr ⟨_, _, rfl, rfl, fun _ => rfl, rfl⟩
  · exact Or.inr ⟨_, _, rfl, rfl, fun _ => rfl, rfl⟩
  · exact Or.inr ⟨_, _, rfl, rfl, fun _ => rfl, rfl⟩

/-- `quoOp` with the finite non-zero case in terms of the kernel `quoK` of the program -/
theorem quoOp_kernel (c : Ctx) (x y : Dec) :
    quoOp c x y =
      match quoSpecials c x y true with
      | some o => o
      | none =>
        if x.isZero then
          finish c (setExponent c { form := .finite, neg := x.neg != y.neg, exp := 0, coeff := 0 } {} [x.exp - y.exp])
        else
          let k := quoK c.prec x.coeff y.coeff
          let neg := x.neg != y.neg
          let shift := x.exp - y.exp
          let adj := shift + (-k.adjCoeffs) + (-k.adjExp10) + (ndigits k.q : Int) - 1
          let st : Nat × Int × Cond :=
            if k.rem != 0 then
              if adj ≥ c.emin then
                if shouldAddOne c.mode k.q neg (cmpNat (2 * k.rem) k.divisor) then
                  ((roundAddOne k.q 0).1, (roundAddOne k.q 0).2, cInexact ||| cRounded)
                else (k.q, 0, cInexact ||| cRounded)
              else (k.q * 10 + 1, -1, {})
            else (k.q, 0, {})
          let r := setExponent c { form := .finite, neg := neg, exp := 0, coeff := st.1 } st.2.2
                    [shift, -k.adjCoeffs, -k.adjExp10, st.2.1]
          finish c (r.1, st.2.2 ||| r.2) := by
  unfold quoOp quoK
  rfl

@[simp, prog_run] theorem run_quoTailP_none (c : Ctx) (d : Cell) (res : Cond) (xs : List Int) (h : Heap) :
    run (quoTailP c d none res xs) h =
      ((res ||| (setExponent c (h d) res xs).2, goError c.traps (res ||| (setExponent c (h d) res xs).2), 0),
       h.set d (setExponent c (h d) res xs).1) := by
  unfold quoTailP; simp

theorem run_quoTailP_some (c : Ctx) (d : Cell) (n : Nat) (res : Cond) (xs : List Int) (h : Heap)
    (hn : n = ndigits (h d).coeff) :
    run (quoTailP c d (some n) res xs) h =
      ((res ||| (setExponent c (h d) res xs).2, goError c.traps (res ||| (setExponent c (h d) res xs).2), 0),
       h.set d (setExponent c (h d) res xs).1) := by
  unfold quoTailP; simp [run_setExponentP_some c d n res xs h hn]

theorem quoP_run (c : Ctx) (d : Cell) (x y : Src) (h : Heap) :
    OpRun (quoP c d x y) d h (quoOp c (x.val h) (y.val h)) := by
  unfold quoP
  rw [quoOp_kernel]
  refine OpRun.specials (spRun_quoSpecialsP c d x y true h) ?_
  unfold OpRun
  simp only [prog_run]
  cases hz : (x.val h).isZero <;> bsimp [hz]
  · cases hrem : ((quoK c.prec (x.val h).coeff (y.val h).coeff).rem != 0) <;> bsimp [hrem]
    · rw [run_quoTailP_some _ _ _ _ _ _ (by simp)]
      simp only [Heap.set_same, Heap.set_set, finish]
      exact stale_exp_tail c d h ⟨.finite, _, 0, _⟩ (h d).exp _ _
    · bcases hadj : (x.val h).exp - (y.val h).exp + -(quoK c.prec (x.val h).coeff (y.val h).coeff).adjCoeffs +
          -(quoK c.prec (x.val h).coeff (y.val h).coeff).adjExp10 +
          ↑(ndigits (quoK c.prec (x.val h).coeff (y.val h).coeff).q) - 1 ≥ c.emin
      · cases hadd : shouldAddOne c.mode (quoK c.prec (x.val h).coeff (y.val h).coeff).q
            ((x.val h).neg != (y.val h).neg)
            (cmpNat (2 * (quoK c.prec (x.val h).coeff (y.val h).coeff).rem)
              (quoK c.prec (x.val h).coeff (y.val h).coeff).divisor) <;> bsimp [hadd]
        · rw [run_quoTailP_some _ _ _ _ _ _ (by simp)]
          simp only [Heap.set_same, Heap.set_set, finish]
          exact stale_exp_tail c d h ⟨.finite, _, 0, _⟩ (h d).exp _ _
        · exact stale_exp_tail c d h ⟨.finite, _, 0, _⟩ (h d).exp _ _
      · exact stale_exp_tail c d h ⟨.finite, _, 0, _⟩ (h d).exp _ _
  · op_exact

theorem quoIntegerP_run (c : Ctx) (d : Cell) (x y : Src) (h : Heap) :
    OpRun (quoIntegerP c d x y) d h (quoIntegerOp c (x.val h) (y.val h)) := by
  unfold quoIntegerP quoIntegerOp
  refine OpRun.specials (spRun_quoSpecialsP c d x y false h) ?_
  unfold OpRun
  simp only [prog_run]
  rcases run_upscaleP x y h with ⟨hu, hr2⟩ | ⟨ra, rb, av, bv, s, hu, hr2, hra, hrb⟩
  · simp only [hr2, hu, run_pure]
    exact SRes.undelivered d h not_delivered_sys {} 0
  · simp only [hr2, hu, prog_run, hra h rfl, hrb h rfl]
    bcases hnd : (ndigits (av / bv) : Int) > (c.prec : Int)
    · op_exact
    · op_exact

theorem remP_run (c : Ctx) (d : Cell) (x y : Src) (h : Heap) :
    OpRun (remP c d x y) d h (remOp c (x.val h) (y.val h)) := by
  unfold remP remOp
  refine OpRun.nanPrologue c d x (some y) h ?_
  unfold OpRun
  simp only [prog_run]
  cases hxf : ((x.val h).form != Form.finite) <;> bsimp [hxf]
  rotate_left
  · op_exact
  cases hyi : ((y.val h).form == Form.infinite) <;> bsimp [hyi]
  rotate_left
  · op_exact
  cases hyz : (y.val h).isZero <;> bsimp [hyz]
  rotate_left
  · cases hxz : (x.val h).isZero <;> bsimp [hxz] <;> op_exact
  rcases run_upscaleP x y h with ⟨hu, hr2⟩ | ⟨ra, rb, av, bv, s, hu, hr2, hra, hrb⟩
  · simp only [hr2, hu, run_pure]
    exact SRes.undelivered d h not_delivered_sys {} 0
  · simp only [hr2, hu, prog_run, hra h rfl, hrb h rfl, Src.neg_set]
    bcases hnd : (ndigits (av / bv) : Int) > (c.prec : Int)
    · op_exact
    · op_exact

theorem cmpOpP_run (c : Ctx) (d : Cell) (x y : Src) (h : Heap) :
    OpRun (cmpOpP c d x y) d h (cmpOp c (x.val h) (y.val h)) := by
  unfold cmpOpP cmpOp
  refine OpRun.nanPrologue c d x (some y) h ?_
  unfold OpRun
  simp only [prog_run]
  op_exact

theorem reduceP_run (c : Ctx) (d : Cell) (x : Src) (h : Heap) :
    OpRun (reduceP c d x) d h (reduceOp c (x.val h)) := by
  unfold reduceP reduceOp
  refine OpRun.nanPrologue c d x none h ?_
  unfold OpRun
  simp only [prog_run, ctxRound]
  op_exact

@[prog_run] theorem run_quantizeCoreP (c : Ctx) (d : Cell) (v : Src) (exp : Int) (h : Heap) :
    run (quantizeCoreP c d v exp) h =
      ((quantizeCore c (v.val h) exp).2, h.set d (quantizeCore c (v.val h) exp).1) := by
  unfold quantizeCoreP quantizeCore
  simp only [prog_run]
  bcases h1 : exp - (v.val h).exp < 0
  · cases h5 : (v.val h).isZero <;> bsimp [h5]
    · bcases h2 : exp - (v.val h).exp < MinExponent
  bcases h3 : exp - (v.val h).exp > 0
  · bcases h4 : (ndigits (v.val h).coeff : Int) - (exp - (v.val h).exp) < 0
    · cases h5 : (v.val h).isZero <;> bsimp [h5]
      cases h6 : shouldAddOne c.mode 0 (v.val h).neg (-1) <;> bsimp [h6] <;>
        simp only [Heap.set_same, Heap.set_set]
    · split_ifs <;> simp only [Heap.set_same, Heap.set_set]

theorem quantizeP_run (c : Ctx) (d : Cell) (x : Src) (exp : Int) (h : Heap) :
    OpRun (quantizeP c d x exp) d h (quantizeOp c (x.val h) exp) := by
  unfold quantizeP quantizeOp
  refine OpRun.nanPrologue c d x none h ?_
  unfold OpRun
  simp only [prog_run, ctxRound]
  cases h1 : ((x.val h).form == Form.infinite || decide (exp < c.emin - (c.prec : Int) + 1)) <;> bsimp [h1]
  rotate_left
  · op_exact
  cases h2 : (decide ((ndigits (quantizeCore c (x.val h) exp).1.coeff : Int) > (c.prec : Int)) || decide (exp > c.emax))
    <;> bsimp [h2]
  rotate_left
  · op_exact
  bcases h3 : (((quantizeCore c (x.val h) exp).2 ||| (roundX c (quantizeCore c (x.val h) exp).1 true).2).overflow ||
      ((quantizeCore c (x.val h) exp).2 ||| (roundX c (quantizeCore c (x.val h) exp).1 true).2).underflow) = true
  · op_exact
  · op_exact

theorem spRun_toIntegralSpecialsP (c : Ctx) (d : Cell) (x : Src) (h : Heap) :
    SpRun (run (toIntegralSpecialsP c d x) h) d h (toIntegralSpecials c (x.val h)) := by
  unfold SpRun toIntegralSpecialsP toIntegralSpecials
  simp only [prog_run, Option.map_none]
  by_cases hn : shouldSetAsNaN (x.val h) none = true
  · simp only [hn, if_true, run_setAsNaNP c d x none h hn, Option.map_none]
    exact Or.inr ⟨_, _, rfl, rfl, fun _ => rfl, by simp⟩
  bsimp [hn]
  cases hf : ((x.val h).form != Form.finite) <;> bsimp [hf]
  · exact Or.inl ⟨trivial, trivial⟩
  · exact Or.inr ⟨_, _, rfl, rfl, fun _ => rfl, rfl⟩

theorem rtivP_run (c : Ctx) (d : Cell) (x : Src) (h : Heap) :
    OpRun (rtivP c d x) d h (roundToIntegralValueOp c (x.val h)) := by
  unfold rtivP roundToIntegralValueOp
  refine OpRun.specials (spRun_toIntegralSpecialsP c d x h) ?_
  unfold OpRun
  simp only [prog_run, finish]
  op_exact

theorem rtieP_run (c : Ctx) (d : Cell) (x : Src) (h : Heap) :
    OpRun (rtieP c d x) d h (roundToIntegralExactOp c (x.val h)) := by
  unfold rtieP roundToIntegralExactOp
  refine OpRun.specials (spRun_toIntegralSpecialsP c d x h) ?_
  unfold OpRun
  simp only [prog_run, finish]
  op_exact

theorem OpRun.after_set {p : Prog Res} {d : Cell} {h : Heap} {w : Dec} {m : Out}
    (hr : OpRun p d (h.set d w) m) : SRes (run p (h.set d w)) d h m := by
  obtain ⟨fl, aux, v, hv, hd⟩ := hr
  exact ⟨fl, aux, v, by rw [hv, Heap.set_set], hd⟩

theorem ceilP_run (c : Ctx) (d : Cell) (x : Src) (h : Heap) :
    OpRun (ceilP c d x) d h (ceilOp c (x.val h)) := by
  unfold ceilP ceilOp
  refine OpRun.specials (spRun_toIntegralSpecialsP c d x h) ?_
  unfold OpRun
  simp only [prog_run]
  bcases hf : (modf (x.val h)).2.sign > 0
  · have := (addP_run c d (.cell d) (.const decOne) false (h.set d (modf (x.val h)).1)).after_set
    unfold SRes at this
    simpa using this
  · op_exact

theorem floorP_run (c : Ctx) (d : Cell) (x : Src) (h : Heap) :
    OpRun (floorP c d x) d h (floorOp c (x.val h)) := by
  unfold floorP floorOp
  refine OpRun.specials (spRun_toIntegralSpecialsP c d x h) ?_
  unfold OpRun
  simp only [prog_run]
  bcases hf : (modf (x.val h)).2.sign < 0
  · have := (addP_run c d (.cell d) (.const decOne) true (h.set d (modf (x.val h)).1)).after_set
    unfold SRes at this
    simpa using this
  · op_exact

end Apd.Imp
