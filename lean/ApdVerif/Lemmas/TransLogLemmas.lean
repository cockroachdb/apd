import ApdVerif.Props.RoundCore
import ApdVerif.Spec.Specials
import ApdVerif.Lemmas.TransLogRuns
/-!
# Lemmas for `Props/TransLog.lean`: what every outcome of Exp, Ln, Log10, Pow on the tape model satisfies

The prologues return a `SpecialOK` outcome.  Every computing exit of Exp, Ln, Log10 (`ExpExit`, `LnExit`, `Log10Exit` of
`Lemmas/TransLogRuns`) satisfies `Series`: Inexact, Rounded, and a value that fits unless a system limit was hit; so a
run has `Shape c (Series c)`.  Pow is walked here.  The consequences (`Shape.nil`, `Shape.err`, `Shape.fits`,
`Shape.flags`): nil error means no trapped flag, a delivered value fits, a delivered computed outcome carries Inexact
and Rounded.
-/
namespace Apd.TL
open Apd.Oracle

@[simp] theorem tor_sysOverflow (a b : Cond) : (a ||| b).sysOverflow = (a.sysOverflow || b.sysOverflow) :=
  Cond.or_sysOverflow a b
@[simp] theorem tor_sysUnderflow (a b : Cond) : (a ||| b).sysUnderflow = (a.sysUnderflow || b.sysUnderflow) :=
  Cond.or_sysUnderflow a b
@[simp] theorem tor_inexact (a b : Cond) : (a ||| b).inexact = (a.inexact || b.inexact) :=
  Cond.or_inexact a b
@[simp] theorem tor_rounded (a b : Cond) : (a ||| b).rounded = (a.rounded || b.rounded) :=
  Cond.or_rounded a b

theorem fits_nonfinite (c : Ctx) (d : Dec) (h : d.form ≠ .finite) : fits c d = true := by
  unfold fits
  cases hf : d.form <;> simp_all

theorem fits_congr (c c' : Ctx) (hp : c'.prec = c.prec) (he : c'.emax = c.emax) (hm : c'.emin = c.emin) (d : Dec) :
    fits c' d = fits c d := by
  unfold fits
  rw [hp, he, hm]

theorem fits_neg (c : Ctx) (d : Dec) (b : Bool) : fits c { d with neg := b } = fits c d := rfl

theorem fits_ctxRound (c c' : Ctx) (hc : c.WF) (hp : c'.prec = c.prec) (he : c'.emax = c.emax) (hm : c'.emin = c.emin)
    (v : Dec) (h : NoSys (ctxRound c' v).2) : fits c (ctxRound c' v).1 = true := by
  have hc' : c'.WF := by
    unfold Ctx.WF at hc ⊢
    rw [hp, he, hm]; exact hc
  rw [← fits_congr c c' hp he hm]
  by_cases hv : v.form = .finite
  · exact (Props.C01_roundCore c' hc' v hv h).2.2
  · rw [ctxRound_nonfinite c' v hv]
    exact fits_nonfinite c' v hv

theorem fits_empty (c : Ctx) (hc : c.WF) : fits c {} = true := by
  obtain ⟨h1, h2, h3, h4, h5⟩ := hc
  simp [fits, ndigits_zero]
  omega

theorem fits_decOne (c : Ctx) (hc : c.WF) : fits c decOne = true := by
  obtain ⟨h1, h2, h3, h4, h5⟩ := hc
  simp [fits, decOne, ndigits_one]
  omega

theorem fits_zero_any (c : Ctx) (hc : c.WF) (n : Bool) (e : Int) (he : e ≤ c.emax) :
    fits c { form := .finite, neg := n, exp := e, coeff := 0 } = true := by
  obtain ⟨h1, h2, h3, h4, h5⟩ := hc
  simp [fits, ndigits_zero]
  omega

def SpecialOK (c : Ctx) (o : Out) : Prop :=
  (o.err = goError c.traps o.fl ∨ (o.err ≠ .none ∧ o = failWith o.err)) ∧ (c.WF → fits c o.d = true)

theorem setAsNaN_ok (c : Ctx) (x : Dec) (y : Option Dec) (h : shouldSetAsNaN x y = true) :
    (setAsNaN c x y).err = goError c.traps (setAsNaN c x y).fl ∧ (setAsNaN c x y).d.form ≠ .finite := by
  obtain ⟨xf, xn, xe, xc⟩ := x
  cases y with
  | none =>
    cases xf <;> simp [shouldSetAsNaN, setAsNaN, Dec.isNaN, goError_noFlags] at h ⊢
  | some y =>
    obtain ⟨yf, yn, ye, yc⟩ := y
    cases xf <;> cases yf <;> simp [shouldSetAsNaN, setAsNaN, Dec.isNaN, goError_noFlags] at h ⊢

theorem special_setAsNaN (c : Ctx) (x : Dec) (y : Option Dec) (h : shouldSetAsNaN x y = true) :
    SpecialOK c (setAsNaN c x y) :=
  ⟨Or.inl (setAsNaN_ok c x y h).1, fun _ => fits_nonfinite c _ (setAsNaN_ok c x y h).2⟩

theorem special_invalidNaN (c : Ctx) : SpecialOK c (invalidNaN c) :=
  ⟨Or.inl rfl, fun _ => rfl⟩

theorem special_plain (c : Ctx) (d : Dec) (h : c.WF → fits c d = true) : SpecialOK c { d := d } :=
  ⟨Or.inl (goError_noFlags c.traps).symm, h⟩

theorem special_flag (c : Ctx) (d : Dec) (fl : Cond) (h : d.form ≠ .finite) :
    SpecialOK c { d := d, fl := fl, err := goError c.traps fl } :=
  ⟨Or.inl rfl, fun _ => fits_nonfinite c d h⟩

/-! the values a prologue returns, with the sign it gives them (`fits` does not look at the sign) -/

theorem special_one (c : Ctx) (b : Bool) : SpecialOK c { d := { decOne with neg := b } } :=
  special_plain c _ (fits_decOne c)

theorem special_zero (c : Ctx) (b : Bool) : SpecialOK c { d := { decZero with neg := b } } :=
  special_plain c _ fun hc => fits_zero_any c hc b 0 (by obtain ⟨h1, h2, _⟩ := hc; omega)

theorem special_inf (c : Ctx) (b : Bool) : SpecialOK c { d := { decInf with neg := b } } :=
  special_plain c _ fun _ => rfl

theorem special_failWith (c : Ctx) (e : ErrKind) (he : e ≠ .none) : SpecialOK c (failWith e) :=
  ⟨Or.inr ⟨he, rfl⟩, fits_empty c⟩

theorem expSpecials_ok (c : Ctx) (x : Dec) (o : Out) : expSpecials c x = some o → SpecialOK c o :=
  All.dite (P := SpecialOK c) (fun h => .some (special_setAsNaN c x none h)) (fun _ =>
    .ite (.ite (.some (special_zero c false)) (.some (special_inf c false)))
      (.ite (.some (special_one c false)) (.ite (.some (special_failWith c _ (by decide))) .none))) o

theorem logSpecials_ok (c : Ctx) (x : Dec) (o : Out) : logSpecials c x = some o → SpecialOK c o :=
  All.dite (P := SpecialOK c) (fun h => .some (special_setAsNaN c x none h)) (fun _ =>
    .ite (.some (special_invalidNaN c)) (.ite (.some (special_inf c false))
      (.ite (.some (special_inf c true)) (.ite (.some (special_zero c false)) .none)))) o

theorem powSpecials_ok (c : Ctx) (x y : Dec) (o : Out) : powSpecials c x y = some o → SpecialOK c o :=
  All.dite (P := SpecialOK c) (fun h => .some (special_setAsNaN c x (some y) h)) (fun _ =>
    -- infinite base; zero base; zero exponent; infinite exponent; negative base with a fractional exponent
    .ite (.ite (.some (special_one c _)) (.ite (.some (special_flag c _ _ Form.noConfusion))
        (.ite (.some (special_zero c _)) (.some (special_inf c _)))))
      (.ite (.ite (.some (special_flag c _ _ Form.noConfusion)) (.ite (.some (special_zero c _)) (.some (special_inf c _))))
        (.ite (.some (special_one c false))
          (.ite (.ite (.some (special_invalidNaN c))
              (.ite (.some (special_one c false)) (.ite (.some (special_inf c false)) (.some (special_zero c false)))))
            (.ite (.some (special_invalidNaN c)) .none))))) o

/-- what a computed outcome of Pow satisfies -/
def FitP (c : Ctx) (d : Dec) (res : Cond) : Prop := c.WF → NoSys res → fits c d = true

/-- what a computed outcome of Exp, Ln and Log10 satisfies -/
def Series (c : Ctx) (d : Dec) (res : Cond) : Prop :=
  res.inexact = true ∧ res.rounded = true ∧ FitP c d res

/-- `h : some (a, t) = some (o, r)`: replace `o` by `a` everywhere (`hfs` is the equation `a = o`, consumed) -/
macro "fin_some " h:ident : tactic =>
  `(tactic| (simp only [Option.some.injEq, Prod.mk.injEq] at $h:ident; have hfs := And.left $h; subst hfs))

theorem series_round (c c' : Ctx) (hp : c'.prec = c.prec) (he : c'.emax = c.emax) (hm : c'.emin = c.emin) (v : Dec)
    {fl : Cond} (hi : fl.inexact = true) (hr : fl.rounded = true) (hn : NoSys fl → NoSys (ctxRound c' v).2) :
    Series c (ctxRound c' v).1 fl :=
  ⟨hi, hr, fun hc hns => fits_ctxRound c c' hc hp he hm v (hn hns)⟩

theorem _root_.Apd.ExpExit.series {c : Ctx} {x : Dec} {tp r : Tape} {d : Dec} {fl : Cond} (h : ExpExit c x tp d fl r) :
    Series c d fl := by
  cases h with
  | under => exact ⟨rfl, rfl, fun hc _ => fits_zero_any c hc _ _ (by obtain ⟨h1, h2, h3, h4, h5⟩ := hc; omega)⟩
  | over => exact ⟨rfl, rfl, fun _ _ => rfl⟩
  | one => exact ⟨rfl, rfl, fun hc _ => fits_decOne c hc⟩
  | main => exact series_round c { c with mode := .halfEven } rfl rfl rfl _ rfl rfl fun hn => (NoSys.or_iff.1 hn).2

theorem _root_.Apd.LnExit.series {c : Ctx} {x : Dec} {tp r : Tape} {d : Dec} {fl : Cond} (h : LnExit c x tp d fl r) :
    Series c d fl := by
  cases h <;> exact series_round c c rfl rfl rfl _ (by simp [Cond.cInexact]) (by simp [Cond.cRounded])
    fun hn => (NoSys.or_iff.1 (NoSys.or_iff.1 hn).1).1

theorem _root_.Apd.Log10Exit.series {c : Ctx} {x : Dec} {tp r : Tape} {d : Dec} {fl : Cond}
    (h : Log10Exit c x tp d fl r) : Series c d fl := by
  cases h; exact series_round c c rfl rfl rfl _ rfl rfl fun hn => (NoSys.or_iff.1 hn).2

theorem expT_series {c : Ctx} {x : Dec} {tp r : Tape} {o : Out} (h : expT c x tp = some (o, r)) :
    Shape c (Series c) (expSpecials c x) o := (expT_shape h).mono fun _ _ => ExpExit.series

theorem lnT_series {c : Ctx} {x : Dec} {tp r : Tape} {o : Out} (h : lnT c x tp = some (o, r)) :
    Shape c (Series c) (logSpecials c x) o := (lnT_shape h).mono fun _ _ => LnExit.series

theorem log10T_series {c : Ctx} {x : Dec} {tp r : Tape} {o : Out} (h : log10T c x tp = some (o, r)) :
    Shape c (Series c) (logSpecials c x) o := (log10T_shape h).mono fun _ _ => Log10Exit.series

theorem powIntOp_shape (c : Ctx) (x y : Dec) (o : Out) (h : powIntOp c x y = some o) :
    powSpecials c x y = some o ∨ o.err ≠ .none ∨ Computed c (FitP c) o := by
  unfold powIntOp at h
  split at h
  · rename_i o' hs
    rw [hs]; exact Or.inl h
  · dsimp only at h
    generalize (if c.prec < ndigits x.coeff then ndigits x.coeff else c.prec) = p at h
    generalize (if (quantizeCore c (modf y).1 0).1.neg then -(((quantizeCore c (modf y).1 0).1.coeff : Nat) : Int)
      else (((quantizeCore c (modf y).1 0).1.coeff : Nat) : Int)) = integ at h
    split at h
    · cases h
    · split at h
      · rename_i hq
        simp only [Option.some.injEq] at h
        subst h
        exact Or.inr (Or.inl (by simpa using hq))
      · simp only [Option.some.injEq] at h
        subst h
        refine Or.inr (Or.inr (computed_mk (P := FitP c) (fun hc hn => ?_)))
        rw [NoSys.or_iff] at hn
        exact fits_ctxRound c c hc rfl rfl rfl _ hn.2

theorem powT_shape (c : Ctx) (x y : Dec) (tp r : Tape) (o : Out) (h : powT c x y tp = some (o, r)) :
    powSpecials c x y = some o ∨ o.err ≠ .none ∨ Computed c (FitP c) o := by
  unfold powT at h
  split at h
  · rename_i o' hs
    simp only [Option.some.injEq, Prod.mk.injEq] at h
    rw [hs, h.1]; exact Or.inl rfl
  · dsimp only at h
    generalize (if c.prec < ndigits x.coeff then ndigits x.coeff else c.prec) = p at h
    generalize (if (quantizeCore c (modf y).1 0).1.neg then -(((quantizeCore c (modf y).1 0).1.coeff : Nat) : Int)
      else (((quantizeCore c (modf y).1 0).1.coeff : Nat) : Int)) = integ at h
    split at h
    · cases hp : powIntOp c x y with
      | none => rw [hp] at h; cases h
      | some o' =>
        rw [hp] at h
        simp only [Option.map_some, Option.some.injEq, Prod.mk.injEq] at h
        rw [← h.1]
        exact powIntOp_shape c x y o' hp
    · split at h
      · rename_i hq
        fin_some h
        exact Or.inr (Or.inl (by simpa using hq))
      · split at h
        · cases h
        · rename_i e2 tmp tape hs2
          clear hs2
          split at h
          · cases h
          · rename_i e4 tmp' tape' hs4
            clear hs4
            split at h
            · rename_i hf
              fin_some h
              exact Or.inr (Or.inl (ED.errOf_ne_none hf))
            · fin_some h
              refine Or.inr (Or.inr (computed_mk (P := FitP c) (fun hc hn => ?_)))
              rw [NoSys.or_iff, NoSys.or_iff, NoSys.or_iff] at hn
              have := fits_ctxRound c c hc rfl rfl rfl _ hn.1.1.2
              -- the result is that value with its sign set, a field `fits` does not read: the two sides agree by `rfl`
              rw [← this]
              rfl

theorem nil_of_special {c : Ctx} {o : Out} (h : SpecialOK c o) (he : o.err = .none) : goError c.traps o.fl = .none := by
  rcases h.1 with h1 | ⟨h1, _⟩
  · rw [← h1]; exact he
  · exact absurd he h1

theorem err_of_computed {c : Ctx} {P : Dec → Cond → Prop} {o : Out} (h : Computed c P o) :
    o.err = goError c.traps o.fl := by
  obtain ⟨d, res, rfl, _⟩ := h
  rfl

variable {c : Ctx} {s : Option Out} {o : Out}

theorem Shape.nil (h : Shape c (Series c) s o) (hs : ∀ o, s = some o → SpecialOK c o) (he : o.err = .none) :
    goError c.traps o.fl = .none := by
  rcases h with h | ⟨_, ⟨e, hne, rfl⟩ | hc⟩
  · exact nil_of_special (hs o h) he
  · exact absurd he hne
  · rw [← err_of_computed hc]; exact he

theorem Shape.err (h : Shape c (Series c) s o) (hs : ∀ o, s = some o → SpecialOK c o) :
    o.err = goError c.traps o.fl ∨ o = failOut o.err := by
  rcases h with h | ⟨_, ⟨e, _, rfl⟩ | hc⟩
  · rcases (hs o h).1 with h1 | ⟨_, h2⟩
    · exact Or.inl h1
    · exact Or.inr h2
  · exact Or.inr rfl
  · exact Or.inl (err_of_computed hc)

theorem Shape.fits (h : Shape c (Series c) s o) (hs : ∀ o, s = some o → SpecialOK c o) (hc : c.WF)
    (hd : o.err = .none ∨ (o.err = .trap ∧ (o.fl &&& c.traps).any = true)) : fits c o.d = true := by
  rcases h with h | ⟨_, hf | hcm⟩
  · exact (hs o h).2 hc
  · exact (hf.not_deliv hd).elim
  · obtain ⟨⟨_, _, hP⟩, hn⟩ := hcm.deliv hd
    exact hP hc hn

theorem Shape.flags (h : Shape c (Series c) s o) (hn : s = none)
    (hd : o.err = .none ∨ (o.err = .trap ∧ (o.fl &&& c.traps).any = true)) :
    o.fl.inexact = true ∧ o.fl.rounded = true := by
  rcases h with h | ⟨_, hf | hcm⟩
  · rw [hn] at h; cases h
  · exact (hf.not_deliv hd).elim
  · obtain ⟨⟨h1, h2, _⟩, _⟩ := hcm.deliv hd
    exact ⟨h1, h2⟩

end Apd.TL
