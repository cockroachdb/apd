import ApdVerif.Model.Text
import ApdVerif.Lemmas.Digits
import Mathlib.Tactic.SplitIfs
import Mathlib.Tactic.Linarith
/-!
# The text layer read back

Digit strings (`Digs`), the stages of `parseNumeric`, the shape of what `fmtF` writes, and `appendL` verb by verb.
-/
namespace Apd.TextL
open Apd Apd.Text

theorem toLower_toNat (c : Char) :
    c.toLower.toNat = if 65 ≤ c.toNat ∧ c.toNat ≤ 90 then c.toNat + 32 else c.toNat := by
  unfold Char.toLower
  by_cases h : 65 ≤ c.toNat ∧ c.toNat ≤ 90
  · rw [if_pos h, dif_pos (show c.val ≥ 'A'.val ∧ c.val ≤ 'Z'.val from h)]
    show (c.val + ('a'.val - 'A'.val)).toNat = _
    rw [UInt32.toNat_add, show ('a'.val - 'A'.val).toNat = 32 by decide, show c.val.toNat = c.toNat from rfl]
    omega
  · rw [if_neg h, dif_neg (show ¬ (c.val ≥ 'A'.val ∧ c.val ≤ 'Z'.val) from h)]

theorem isDigit_toLower {c : Char} (h : c.isDigit = true) : c.toLower = c := by
  have h' : 48 ≤ c.toNat ∧ c.toNat ≤ 57 := Char.isDigit_iff_toNat.mp h
  apply Char.toNat_inj.mp
  rw [toLower_toNat, if_neg (by omega)]

theorem isDigit_ne {c x : Char} (h : c.isDigit = true) (hx : x.isDigit = false) : c ≠ x := by
  intro e; subst e; simp [h] at hx

theorem natDigits_ne_nil (n : Nat) : natDigits n ≠ [] := Nat.toDigits_ne_nil

theorem natDigits_isDigit {n : Nat} {c : Char} (h : c ∈ natDigits n) : c.isDigit = true :=
  Nat.isDigit_of_mem_toDigits (by decide) (by decide) h

theorem natDigits_all (n : Nat) : (natDigits n).all Char.isDigit = true :=
  List.all_eq_true.2 fun _ hc => natDigits_isDigit hc

theorem natDigits_val (n : Nat) : digitsVal (natDigits n) = n := Nat.ofDigitChars_ten_toDigits

theorem natDigits_length (n : Nat) : (natDigits n).length = ndigits n := by
  by_cases h0 : n = 0
  · subst h0; decide
  · have hn : 0 < n := Nat.pos_of_ne_zero h0
    have hpos : 0 < (natDigits n).length := Nat.length_toDigits_pos
    have h1 := ndigits_pos n
    have key : ∀ k, 0 < k → ((natDigits n).length ≤ k ↔ ndigits n ≤ k) := by
      intro k hk
      rw [ndigits_le_iff n k hn]
      exact Nat.length_toDigits_le_iff (by decide) hk
    have a := (key (natDigits n).length hpos).1 (Nat.le_refl _)
    have b := (key (ndigits n) h1).2 (Nat.le_refl _)
    omega

theorem natDigits_zero : natDigits 0 = ['0'] := by decide

def Digs (s : List Char) : Prop := ∀ c ∈ s, c.isDigit = true

theorem Digs.nil : Digs [] := fun _ hc => absurd hc List.not_mem_nil
theorem Digs.append {a b : List Char} (ha : Digs a) (hb : Digs b) : Digs (a ++ b) :=
  List.forall_mem_append.2 ⟨ha, hb⟩
theorem Digs.cons {c : Char} {a : List Char} (hc : c.isDigit = true) (ha : Digs a) : Digs (c :: a) :=
  List.forall_mem_cons.2 ⟨hc, ha⟩
theorem Digs.head {c : Char} {a : List Char} (h : Digs (c :: a)) : c.isDigit = true := (List.forall_mem_cons.1 h).1
theorem Digs.tail {c : Char} {a : List Char} (h : Digs (c :: a)) : Digs a := (List.forall_mem_cons.1 h).2
theorem Digs.take {a : List Char} (h : Digs a) (n : Nat) : Digs (a.take n) := fun x hx => h x (List.mem_of_mem_take hx)
theorem Digs.drop {a : List Char} (h : Digs a) (n : Nat) : Digs (a.drop n) := fun x hx => h x (List.mem_of_mem_drop hx)
theorem Digs.zeros (n : Nat) : Digs (zeros n) := fun c hc => (List.eq_of_mem_replicate hc) ▸ (by decide)
theorem Digs.natDigits (n : Nat) : Digs (natDigits n) := fun _ hc => natDigits_isDigit hc
theorem Digs.all {a : List Char} (h : Digs a) : a.all Char.isDigit = true := List.all_eq_true.2 h
theorem Digs.of_all {a : List Char} (h : a.all Char.isDigit = true) : Digs a := List.all_eq_true.1 h
theorem Digs.not_mem {a : List Char} (h : Digs a) {x : Char} (hx : x.isDigit = false) : x ∉ a :=
  fun hm => Bool.false_ne_true (hx.symm.trans (h x hm))

theorem Digs.of_append_left {a b : List Char} (h : Digs (a ++ b)) : Digs a := (List.forall_mem_append.1 h).1
theorem Digs.of_append_right {a b : List Char} (h : Digs (a ++ b)) : Digs b := (List.forall_mem_append.1 h).2

theorem allDigits_iff (s : List Char) : allDigits s = true ↔ (s ≠ [] ∧ Digs s) := by
  unfold Text.allDigits Digs
  rw [Bool.and_eq_true, List.all_eq_true]
  simp

theorem Digs.allDigits {a : List Char} (h : Digs a) (hne : a ≠ []) : allDigits a = true :=
  (allDigits_iff a).2 ⟨hne, h⟩

theorem asciiLower_append (a b : List Char) : asciiLower (a ++ b) = asciiLower a ++ asciiLower b := by
  simp [Text.asciiLower]
theorem asciiLower_cons (c : Char) (b : List Char) : asciiLower (c :: b) = c.toLower :: asciiLower b := by
  simp [Text.asciiLower]

theorem consumePrefix_cons_ne {x c : Char} (p s : List Char) (h : x ≠ c) : consumePrefix (x :: p) (c :: s) = none := by
  simp [consumePrefix, h]

theorem consumePrefix_cons_eq (x : Char) (p s : List Char) : consumePrefix (x :: p) (x :: s) = consumePrefix p s := by
  simp [consumePrefix]

theorem consumePrefix_eq_some {p s t : List Char} : consumePrefix p s = some t ↔ s = p ++ t := by
  induction p generalizing s with
  | nil => simp [consumePrefix, eq_comm]
  | cons x p ih =>
    cases s with
    | nil => simp [consumePrefix]
    | cons y s =>
      simp only [consumePrefix]
      by_cases h : x = y
      · subst h; simp [ih]
      · simp [h]; intro hh; exact absurd hh.symm h

theorem splitSign_minus (t : List Char) : splitSign ('-' :: t) = (true, t) := by
  simp [splitSign, consumePrefix]
theorem splitSign_plus (t : List Char) : splitSign ('+' :: t) = (false, t) := by
  simp [splitSign, consumePrefix]
theorem splitSign_other {c : Char} (t : List Char) (h1 : c ≠ '-') (h2 : c ≠ '+') : splitSign (c :: t) = (false, c :: t) := by
  simp [splitSign, consumePrefix, Ne.symm h1, Ne.symm h2]
theorem splitSign_nil : splitSign [] = (false, []) := by simp [splitSign, consumePrefix]
theorem startsWithSign_other {c : Char} (t : List Char) (h1 : c ≠ '-') (h2 : c ≠ '+') : startsWithSign (c :: t) = false := by
  simp [startsWithSign, consumePrefix, Ne.symm h1, Ne.symm h2]

theorem digit_ne_minus {c : Char} (h : c.isDigit = true) : c ≠ '-' := isDigit_ne h (by decide)
theorem digit_ne_plus {c : Char} (h : c.isDigit = true) : c ≠ '+' := isDigit_ne h (by decide)

theorem Digs.splitSign {eds : List Char} (h : Digs eds) : splitSign eds = (false, eds) := by
  cases eds with
  | nil => exact splitSign_nil
  | cons c t => exact splitSign_other t (digit_ne_minus h.head) (digit_ne_plus h.head)

theorem splitAtFirst_not_mem {c : Char} {s : List Char} (h : c ∉ s) : splitAtFirst c s = none := by
  induction s with
  | nil => rfl
  | cons x xs ih =>
    have hx : x ≠ c := fun e => h (by simp [e])
    have hxs : c ∉ xs := fun e => h (by simp [e])
    simp [splitAtFirst, hx, ih hxs]

theorem splitAtFirst_append {c : Char} {a : List Char} (b : List Char) (h : c ∉ a) :
    splitAtFirst c (a ++ c :: b) = some (a, b) := by
  induction a with
  | nil => simp [splitAtFirst]
  | cons x xs ih =>
    have hx : x ≠ c := fun e => h (by simp [e])
    have hxs : c ∉ xs := fun e => h (by simp [e])
    simp [splitAtFirst, hx, ih hxs]

/-- the second half of `parseNumeric`: the point and the mantissa.  A copy of the model text: `parseNumeric_eq`
(by `cases`) breaks if the model changes -/
def finishMant (neg : Bool) (m : List Char) (exp10 : Int) : Option (Dec × Int) :=
  let p : List Char × Int :=
    match splitAtFirst '.' m with
    | some (a, b) => (a ++ b, exp10 - (b.length : Int))
    | none => (m, exp10)
  if startsWithSign p.1 then none
  else if allDigits p.1 then
    some ({ form := .finite, neg := neg, exp := 0, coeff := digitsVal p.1 }, p.2)
  else none

theorem parseNumeric_eq (neg : Bool) (s : List Char) :
    parseNumeric neg s =
      match splitAtFirst 'e' s with
      | some (m, e) => (match parseInt32 e with | some x => finishMant neg m x | none => none)
      | none => finishMant neg s 0 := by
  unfold parseNumeric finishMant
  cases h : splitAtFirst 'e' s with
  | none => rfl
  | some me =>
    obtain ⟨m, e⟩ := me
    simp only []
    cases h2 : parseInt32 e with
    | none => rfl
    | some x => rfl

theorem startsWithSign_digs {m : List Char} (h : Digs m) : startsWithSign m = false := by
  cases m with
  | nil => simp [startsWithSign, consumePrefix]
  | cons c t => exact startsWithSign_other t (digit_ne_minus h.head) (digit_ne_plus h.head)

theorem finishMant_nodot (neg : Bool) {m : List Char} (x : Int) (h : Digs m) (hne : m ≠ []) :
    finishMant neg m x = some ({ form := .finite, neg := neg, exp := 0, coeff := digitsVal m }, x) := by
  unfold finishMant
  rw [splitAtFirst_not_mem (h.not_mem (by decide))]
  simp [startsWithSign_digs h, h.allDigits hne]

theorem finishMant_dot (neg : Bool) {a b : List Char} (x : Int) (ha : Digs a) (hb : Digs b) (hne : a ++ b ≠ []) :
    finishMant neg (a ++ '.' :: b) x =
      some ({ form := .finite, neg := neg, exp := 0, coeff := digitsVal (a ++ b) }, x - (b.length : Int)) := by
  unfold finishMant
  rw [splitAtFirst_append b (ha.not_mem (by decide))]
  have hab := ha.append hb
  simp only []
  rw [startsWithSign_digs hab, hab.allDigits hne]
  simp

theorem parseNumeric_exp (neg : Bool) {m : List Char} (e : List Char) (hm : 'e' ∉ m) :
    parseNumeric neg (m ++ 'e' :: e) =
      match parseInt32 e with | some x => finishMant neg m x | none => none := by
  rw [parseNumeric_eq, splitAtFirst_append e hm]

theorem parseNumeric_noexp (neg : Bool) {m : List Char} (hm : 'e' ∉ m) :
    parseNumeric neg m = finishMant neg m 0 := by
  rw [parseNumeric_eq, splitAtFirst_not_mem hm]

theorem digitsVal_append_zeros (ds : List Char) (n : Nat) : digitsVal (ds ++ zeros n) = digitsVal ds * 10 ^ n := by
  unfold digitsVal Text.zeros
  rw [Nat.ofDigitChars_append, Nat.ofDigitChars_replicate_zero, Nat.mul_comm]

theorem digitsVal_zero_zeros_append (n : Nat) (ds : List Char) : digitsVal ('0' :: (zeros n ++ ds)) = digitsVal ds := by
  unfold digitsVal Text.zeros
  rw [Nat.ofDigitChars_cons, Nat.ofDigitChars_append, Nat.ofDigitChars_replicate_zero]
  simp

theorem fmtF_neg (d : Dec) {ds : List Char} (h : Digs ds) (hne : ds ≠ []) (he : d.exp < 0) :
    ∃ a b, fmtF d ds = a ++ '.' :: b ∧ Digs a ∧ Digs b ∧ a ≠ [] ∧ digitsVal (a ++ b) = digitsVal ds ∧
      (b.length : Int) = -d.exp := by
  have hL : 0 < ds.length := List.length_pos_iff.mpr hne
  unfold fmtF
  rw [if_pos he]
  by_cases hl : -d.exp - (ds.length : Int) ≥ 0
  · rw [if_pos hl]
    refine ⟨['0'], zeros (-d.exp - (ds.length : Int)).toNat ++ ds, rfl, Digs.cons (by decide) Digs.nil,
      (Digs.zeros _).append h, List.cons_ne_nil _ _, digitsVal_zero_zeros_append _ _, ?_⟩
    rw [List.length_append, Text.zeros, List.length_replicate]
    omega
  · rw [if_neg hl]
    refine ⟨ds.take _, ds.drop _, rfl, h.take _, h.drop _, ?_, by rw [List.take_append_drop], ?_⟩
    · rw [Ne, List.take_eq_nil_iff]
      rintro (h0 | h0)
      · omega
      · exact hne h0
    · rw [List.length_drop]
      omega

theorem fmtF_nonneg (d : Dec) (ds : List Char) (he : ¬ d.exp < 0) : fmtF d ds = ds ++ zeros d.exp.toNat := by
  unfold fmtF
  rw [if_neg he]

theorem appendL_E (d : Dec) (hf : d.form = .finite) {verb : Char} (hv : verb = 'e' ∨ verb = 'E') :
    appendL d verb = (if d.neg then ['-'] else []) ++ fmtE verb d (natDigits d.coeff) := by
  unfold appendL
  simp only [hf, if_pos hv]

theorem appendL_f (d : Dec) (hf : d.form = .finite) :
    appendL d 'f' = (if d.neg then ['-'] else []) ++ fmtF d (natDigits d.coeff) := by
  unfold appendL
  simp only [hf, show ¬ (('f' : Char) = 'e' ∨ ('f' : Char) = 'E') by decide, if_false, if_true]

/-- the digit count `%g` judges by: a zero with exponent in `[-2000, 0)` counts the zeros it will write after the
point (`lowestZeroNegativeCoefficientCockroach`) -/
def gLen (d : Dec) : Int :=
  if d.coeff = 0 ∧ d.exp ≥ -2000 ∧ d.exp < 0 then ((natDigits d.coeff).length : Int) + -d.exp
  else (natDigits d.coeff).length

theorem gLen_zero {d : Dec} (hc : d.coeff = 0) (h1 : -2000 ≤ d.exp) (h2 : d.exp < 0) : gLen d = 1 + -d.exp := by
  unfold gLen
  rw [if_pos ⟨hc, h1, h2⟩, hc, natDigits_zero]
  rfl

/-- outside the exception `%g` judges by the true digit count: for a zero with exponent in `[-6, -1]` both counts
choose plain notation -/
theorem gLen_of_not_exception {d : Dec} (h : ¬ (d.coeff = 0 ∧ -2000 ≤ d.exp ∧ d.exp ≤ -7)) :
    (d.exp ≤ 0 ∧ d.exp + (gLen d - 1) ≥ -6) ↔ (d.exp ≤ 0 ∧ d.exp + ((ndigits d.coeff : Int) - 1) ≥ -6) := by
  unfold gLen
  rw [natDigits_length]
  split
  · rename_i hc
    have : ndigits d.coeff = 1 := by rw [hc.1]; decide
    omega
  · rfl

theorem appendL_G (d : Dec) (hf : d.form = .finite) {verb : Char} (hv : verb = 'g' ∨ verb = 'G') :
    appendL d verb =
      if d.exp ≤ 0 ∧ d.exp + (gLen d - 1) ≥ -6 then (if d.neg then ['-'] else []) ++ fmtF d (natDigits d.coeff)
      else (if d.neg then ['-'] else []) ++ fmtE (if verb = 'g' then 'e' else 'E') d (natDigits d.coeff) := by
  have h1 : ¬ (verb = 'e' ∨ verb = 'E') := by rcases hv with rfl | rfl <;> decide
  have h2 : verb ≠ 'f' := by rcases hv with rfl | rfl <;> decide
  unfold appendL gLen
  simp only [hf, if_neg h1, if_neg h2, if_pos hv]

theorem appendL_other (d : Dec) (hf : d.form = .finite) {verb : Char} (h1 : ¬ (verb = 'e' ∨ verb = 'E'))
    (h2 : verb ≠ 'f') (h3 : ¬ (verb = 'g' ∨ verb = 'G')) : appendL d verb = ['%', verb] := by
  unfold appendL
  simp only [hf, if_neg h1, if_neg h2, if_neg h3]

theorem appendL_G_cases (d : Dec) (hf : d.form = .finite) {verb : Char} (hv : verb = 'g' ∨ verb = 'G') :
    (d.exp ≤ 0 ∧ appendL d verb = (if d.neg then ['-'] else []) ++ fmtF d (natDigits d.coeff)) ∨
    ∃ fmt, (fmt = 'e' ∨ fmt = 'E') ∧
      appendL d verb = (if d.neg then ['-'] else []) ++ fmtE fmt d (natDigits d.coeff) := by
  rw [appendL_G d hf hv]
  split
  · exact Or.inl ⟨(‹_ ∧ _›).1, rfl⟩
  · exact Or.inr ⟨_, by rcases hv with rfl | rfl <;> decide, rfl⟩
end Apd.TextL
