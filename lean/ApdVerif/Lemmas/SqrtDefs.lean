import ApdVerif.Model.Trans
import ApdVerif.Spec.Defs
/-!
# Named parts of `sqrtOp` (Model/Trans.lean)

`sqrtOp` is one long `let` chain.  The proof that `Context.Sqrt` is correctly rounded is split into three
parts that meet at these names: the working context and the scaled operand (`nc`, `f`, `e`), the Newton iterate
(`iter`), and everything after the loop (`tail`).  `sqrtOp_eq` says that they compose to `sqrtOp` — by `rfl`, so
nothing is re-modelled here; `sqrtOp_special` / `sqrtOp_failed` / `sqrtOp_ok` are its three branches.  Before them
stands the prologue `rootSpecials` case by case (shared with Cbrt); after them the rule of the precision-doubling loop
(`sqrtLoop_rule`, `iter_ind`, with the schedule `nextP`) and the domain `Dom` of the correctness theorem.
-/
namespace Apd

/-! ## the prologue `rootSpecials`, which Sqrt and Cbrt share, case by case -/

theorem rootSpecials_nan (c : Ctx) {x : Dec} (f : Int) (hn : shouldSetAsNaN x none = true) :
    rootSpecials c x f = some (setAsNaN c x none) := by
  unfold rootSpecials
  rw [if_pos hn]

theorem rootSpecials_inf (c : Ctx) {x : Dec} (f : Int) (hn : shouldSetAsNaN x none = false)
    (hx : (x.form == .infinite) = true) :
    rootSpecials c x f = some (if (f % 2 == 0 && x.neg) = true then invalidNaN c else { d := x }) := by
  unfold rootSpecials
  rw [if_neg (ne_true_of_eq_false hn), if_pos hx, Bool.and_comm]
  cases (f % 2 == 0 && x.neg) <;> rfl

theorem rootSpecials_zero (c : Ctx) {x : Dec} (f : Int) (hn : shouldSetAsNaN x none = false) (hz : x.isZero = true) :
    rootSpecials c x f = some (finish c (ctxRound c { x with exp := Int.tdiv x.exp f })) := by
  have hs : x.sign = 0 := by
    unfold Dec.sign; rw [show (x.form == .finite && x.coeff == 0) = true from hz]; rfl
  have hx : (x.form == .infinite) = false := by
    rw [eq_of_beq (Bool.and_eq_true_iff.1 hz).1]; rfl
  unfold rootSpecials
  rw [if_neg (ne_true_of_eq_false hn), if_neg (ne_true_of_eq_false hx), hs]
  rfl

theorem rootSpecials_other (c : Ctx) {x : Dec} (f : Int) (hn : shouldSetAsNaN x none = false)
    (hx : (x.form == .infinite) = false) (hz : x.isZero = false) :
    rootSpecials c x f = if (f % 2 == 0 && x.neg) = true then some (invalidNaN c) else none := by
  have hs : x.sign = if x.neg then -1 else 1 := by
    unfold Dec.sign; rw [show (x.form == .finite && x.coeff == 0) = false from hz]; rfl
  unfold rootSpecials
  rw [if_neg (ne_true_of_eq_false hn), if_neg (ne_true_of_eq_false hx), hs]
  cases x.neg <;> cases (f % 2 == 0) <;> rfl

end Apd

namespace Apd.SqrtD
open Cond

/-- `workp` of `Context.Sqrt`: `max (Precision + 1) (digits of x) 7` -/
def workp (c : Ctx) (x : Dec) : Nat :=
  let nd := ndigits x.coeff
  let w := c.prec + 1
  let w := if w < nd then nd else w
  if w < 7 then 7 else w

def e0 (x : Dec) : Int := (ndigits x.coeff : Int) + x.exp

def even (x : Dec) : Bool := Int.tmod (e0 x) 2 == 0

/-- the operand scaled into `[0.1, 1)` (even) or `[0.01, 0.1)` (odd) -/
def f (x : Dec) : Dec := { x with exp := if even x then -(ndigits x.coeff : Int) else -(ndigits x.coeff : Int) - 1 }

/-- the even exponent taken out: `x = f · 10^e` -/
def e (x : Dec) : Int := if even x then e0 x else e0 x + 1

/-- only the first guess (`a0`, `k0`) needs to know which of the two cases holds -/
theorem scale_norm (x : Dec) :
    ∃ hh : Int, e x = 2 * hh ∧ (f x).exp = x.exp - 2 * hh ∧
      ((even x = true ∧ (f x).exp + (ndigits x.coeff : Int) = 0) ∨
       (even x = false ∧ (f x).exp + (ndigits x.coeff : Int) = -1)) := by
  have he0 : e0 x = (ndigits x.coeff : Int) + x.exp := rfl
  cases hev : even x
  · have hodd : ¬ (2 : Int) ∣ e0 x := fun hd => by
      have : Int.tmod (e0 x) 2 = 0 := Int.tmod_eq_zero_of_dvd hd
      simp [even, this] at hev
    refine ⟨(e0 x + 1) / 2, ?_, ?_, Or.inr ⟨rfl, ?_⟩⟩ <;> simp only [e, f, hev, Bool.false_eq_true, if_false] <;> omega
  · have hd : (2 : Int) ∣ e0 x := Int.dvd_of_tmod_eq_zero (by simpa [even] using hev)
    refine ⟨e0 x / 2, ?_, ?_, Or.inl ⟨rfl, ?_⟩⟩ <;> simp only [e, f, hev, if_true] <;> omega

/-- the working context of the iteration (its precision is overwritten in every round of the loop) -/
def nc (c : Ctx) (x : Dec) : Ctx :=
  { c with prec := workp c x, mode := .halfEven, emin := MinExponent, emax := MaxExponent }

def a0 (x : Dec) : Dec := if even x then { coeff := 819, exp := -3 } else { coeff := 259, exp := -2 }
def k0 (x : Dec) : Dec := if even x then { coeff := 259, exp := -3 } else { coeff := 819, exp := -4 }

/-- state and first guess after `ed.Mul(&approx, &approx, &f); ed.Add(&approx, &approx, k0)` -/
def init (c : Ctx) (x : Dec) : ED × Dec :=
  let ed : ED := { c := nc c x }
  let r1 := ed.step (a0 x) (fun cc => mulOp cc (a0 x) (f x))
  r1.1.step r1.2 (fun cc => addOp cc r1.2 (k0 x) false)

def iter (c : Ctx) (x : Dec) : ED × Dec :=
  sqrtLoop 64 (init c x).1 (f x) (init c x).2 3 (workp c x + 5)

def tail (c : Ctx) (x : Dec) (approx : Dec) : Out :=
  let d : Dec := { approx with exp := approx.exp + Int.tdiv (e x) 2 }
  let nc2 : Ctx := { c with prec := c.prec, mode := .halfEven }
  let ncw : Ctx := { nc2 with emax := MaxExponent }
  let r0 := ctxRound ncw d
  let r1 := if r0.2.inexact && r0.1.form == .finite then
             let st := sqrtSettle ncw r0.1 d x
             (st.1, r0.2 ||| st.2)
           else r0
  let r2 := ctxRound nc2 r1.1
  let r : Dec × Cond := (r2.1, r1.2 ||| r2.2)
  let res :=
    if !r.2.inexact && r.1.form == .finite then
      let sq : Dec := { coeff := r.1.coeff * r.1.coeff, exp := 2 * r.1.exp }
      if sq.cmp x != 0 then r.2 ||| cInexact ||| cRounded else r.2
    else r.2
  finish nc2 (r.1, res)

theorem sqrtOp_special {c : Ctx} {x : Dec} {o : Out} (h : rootSpecials c x 2 = some o) : sqrtOp c x = o := by
  unfold sqrtOp
  rw [h]

theorem sqrtOp_eq (c : Ctx) (x : Dec) (h : rootSpecials c x 2 = none) :
    sqrtOp c x =
      if (iter c x).1.failed then failOut (iter c x).1.errOf else tail c x (iter c x).2 := by
  unfold sqrtOp
  rw [h]
  -- the loop's result is made opaque before the tails are compared: `rfl` on the whole is slow, because the
  -- term of the loop is substituted into every place where `tail` uses it
  extract_lets nd w1 w2 w3 e0 nc ed even f e a0 k0 r1 r2 r
  have hr : iter c x = r := rfl
  rw [hr]
  clear_value r
  rfl

theorem sqrtOp_failed {c : Ctx} {x : Dec} (hs : rootSpecials c x 2 = none) (hf : (iter c x).1.failed = true) :
    sqrtOp c x = failOut (iter c x).1.errOf := by
  rw [sqrtOp_eq c x hs, if_pos hf]

theorem sqrtOp_ok {c : Ctx} {x : Dec} (hs : rootSpecials c x 2 = none) (hf : (iter c x).1.failed = false) :
    sqrtOp c x = tail c x (iter c x).2 := by
  rw [sqrtOp_eq c x hs, if_neg (ne_true_of_eq_false hf)]

def round1 (ed : ED) (fx approx : Dec) (p' : Nat) : ED × Dec :=
  let ed := { ed with c := { ed.c with prec := p' } }
  let r1 := ed.step {} (fun cc => quoOp cc fx approx)
  let r2 := r1.1.step r1.2 (fun cc => addOp cc r1.2 approx false)
  r2.1.step approx (fun cc => mulOp cc r2.2 decHalf)

def nextP (p maxp : Nat) : Nat := if 2 * p - 2 > maxp then maxp else 2 * p - 2

theorem sqrtLoop_succ (fuel : Nat) (ed : ED) (fx approx : Dec) (p maxp : Nat) :
    sqrtLoop (fuel + 1) ed fx approx p maxp =
      if p == maxp then (ed, approx)
      else sqrtLoop fuel (round1 ed fx approx (nextP p maxp)).1 fx (round1 ed fx approx (nextP p maxp)).2
             (nextP p maxp) maxp := by
  rfl

theorem nextP_mem {p maxp : Nat} (h3 : 3 ≤ p) (hle : p ≤ maxp) : 3 ≤ nextP p maxp ∧ nextP p maxp ≤ maxp := by
  unfold nextP; split <;> omega

theorem nextP_budget {p maxp k : Nat} (h3 : 3 ≤ p) (hk : maxp - 2 ≤ 2 ^ (k + 1) * (p - 2)) :
    maxp - 2 ≤ 2 ^ k * (nextP p maxp - 2) := by
  unfold nextP
  split
  · exact Nat.le_mul_of_pos_left _ Nat.one_le_two_pow
  · rw [show 2 * p - 2 - 2 = 2 * (p - 2) by omega, ← Nat.mul_assoc, ← Nat.pow_succ]; exact hk

/-- **the loop, for two runs at once.**  Which rounds are made depends on `fuel`, `p`, `maxp` only, never on the
`ErrDecimal` or the iterate, so two runs started at the same precision stay in step: a relation between their states
that every round keeps holds at the end, at a precision `q` which is `maxp` when the fuel covers the doublings
(`p - 2` doubles every round) -/
theorem sqrtLoop_rule2 (R : ED → Dec → ED → Dec → Nat → Prop) (fx fx' : Dec) (maxp : Nat)
    (hstep : ∀ e A e' A' p, R e A e' A' p → p ≠ maxp →
      R (round1 e fx A (nextP p maxp)).1 (round1 e fx A (nextP p maxp)).2
        (round1 e' fx' A' (nextP p maxp)).1 (round1 e' fx' A' (nextP p maxp)).2 (nextP p maxp)) :
    ∀ (fuel : Nat) (e : ED) (A : Dec) (e' : ED) (A' : Dec) (p : Nat), R e A e' A' p →
      ∃ q, R (sqrtLoop fuel e fx A p maxp).1 (sqrtLoop fuel e fx A p maxp).2
             (sqrtLoop fuel e' fx' A' p maxp).1 (sqrtLoop fuel e' fx' A' p maxp).2 q ∧
        (3 ≤ p → p ≤ maxp → maxp - 2 ≤ 2 ^ fuel * (p - 2) → q = maxp) := by
  intro fuel
  induction fuel with
  | zero =>
    intro e A e' A' p h
    exact ⟨p, h, fun _ _ hm => by simp only [Nat.pow_zero, Nat.one_mul] at hm; omega⟩
  | succ fuel ih =>
    intro e A e' A' p h
    rw [sqrtLoop_succ, sqrtLoop_succ]
    by_cases hp : p = maxp
    · subst hp; rw [beq_self_eq_true, if_pos rfl, if_pos rfl]; exact ⟨p, h, fun _ _ _ => rfl⟩
    · rw [beq_false_of_ne hp, if_neg Bool.false_ne_true, if_neg Bool.false_ne_true]
      obtain ⟨q, hq, hmax⟩ := ih _ _ _ _ _ (hstep e A e' A' p h hp)
      exact ⟨q, hq, fun h3 hle hm => hmax (nextP_mem h3 hle).1 (nextP_mem h3 hle).2 (nextP_budget h3 hm)⟩

theorem sqrtLoop_rule (Q : ED → Dec → Nat → Prop) (fx : Dec) (maxp : Nat)
    (hstep : ∀ e A p, Q e A p → p ≠ maxp →
      Q (round1 e fx A (nextP p maxp)).1 (round1 e fx A (nextP p maxp)).2 (nextP p maxp))
    (fuel : Nat) (e : ED) (A : Dec) (p : Nat) (h : Q e A p) :
    ∃ q, Q (sqrtLoop fuel e fx A p maxp).1 (sqrtLoop fuel e fx A p maxp).2 q ∧
      (3 ≤ p → p ≤ maxp → maxp - 2 ≤ 2 ^ fuel * (p - 2) → q = maxp) :=
  sqrtLoop_rule2 (fun e A _ _ p => Q e A p) fx fx maxp (fun e A _ _ p h hp => hstep e A p h hp) fuel e A e A p h

/-- the rule of the loop from the first guess: the bounds `3 ≤ p ≤ maxp` travel with the predicate, and 64 rounds
cover the doublings by `hm` -/
theorem iter_ind (c : Ctx) (x : Dec) (Q : ED → Dec → Nat → Prop) (hm : workp c x + 3 ≤ 2 ^ 64)
    (h0 : Q (init c x).1 (init c x).2 3)
    (hstep : ∀ e A p, Q e A p → 3 ≤ p → p < workp c x + 5 →
      Q (round1 e (f x) A (nextP p (workp c x + 5))).1 (round1 e (f x) A (nextP p (workp c x + 5))).2
        (nextP p (workp c x + 5))) :
    Q (iter c x).1 (iter c x).2 (workp c x + 5) := by
  obtain ⟨q, ⟨hq, -, -⟩, hmax⟩ := sqrtLoop_rule (fun e A p => Q e A p ∧ 3 ≤ p ∧ p ≤ workp c x + 5) (f x) _
    (fun e A p ⟨h, h3, hle⟩ hp => ⟨hstep e A p h h3 (by omega), nextP_mem h3 hle⟩) 64 _ _ 3
    ⟨h0, Nat.le_refl 3, by omega⟩
  cases hmax (Nat.le_refl 3) (by omega) (by omega); exact hq

/-- the domain of the Sqrt theorems: a well-formed context without traps (a trapped condition inside the
iteration makes `Sqrt` return an error; what a nil error means under traps is C03), a positive finite
well-formed operand, and room for the working precision below the package's exponent limit -/
structure Dom (c : Ctx) (x : Dec) : Prop where
  hc : c.WF
  ht : c.traps = {}
  hx : x.form = .finite
  hn : x.neg = false
  h0 : x.coeff ≠ 0
  hw : x.WF
  hd : workp c x + 6 ≤ 100000

example : Dom { prec := 5, emax := 10, emin := -10 } { coeff := 2 } :=
  ⟨by decide, rfl, rfl, rfl, by decide, by decide, by decide⟩

end Apd.SqrtD
