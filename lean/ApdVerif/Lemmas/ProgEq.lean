import ApdVerif.Imp.Ops
/-!
# The equational theory of store-level programs (core Lean only)

`Prog` is a lawful monad, so two programs are EQUAL as trees of field accesses when they differ by the monad laws and by
pure computation: `bindc`, `itec` step under a shared access / a shared test, `itec_bind` where one side joins its
branches before a continuation that the other carries into both.  `RunEq p q` (same result and same final heap from
every heap) is the coarser relation for programs whose accesses differ: a congruence for `>>=` and `if`, with two heap
laws (a read of the sign and a read of the coefficient commute, a read after a write returns what was written).
-/
namespace Apd.Imp

theorem Prog.bind_assoc' {α β γ : Type} (p : Prog α) (f : α → Prog β) (g : β → Prog γ) :
    (p >>= f) >>= g = p >>= fun a => f a >>= g := by
  show Prog.bind (Prog.bind p f) g = Prog.bind p fun a => Prog.bind (f a) g
  induction p with
  | ret a => rfl
  | getForm c k ih | getNeg c k ih | getExp c k ih | getCoeff c k ih => simp only [Prog.bind, ih]
  | setForm c v p ih | setNeg c v p ih | setExp c v p ih | setCoeff c v p ih => simp only [Prog.bind, ih]

theorem Prog.bind_pure' {α : Type} (p : Prog α) : p >>= pure = p := by
  show Prog.bind p Prog.ret = p
  induction p with
  | ret a => rfl
  | getForm c k ih | getNeg c k ih | getExp c k ih | getCoeff c k ih => simp only [Prog.bind, ih]
  | setForm c v p ih | setNeg c v p ih | setExp c v p ih | setCoeff c v p ih => simp only [Prog.bind, ih]

instance : LawfulMonad Prog := LawfulMonad.mk' Prog
  (id_map := fun x => Prog.bind_pure' x)
  (pure_bind := fun _ _ => rfl)
  (bind_assoc := fun x f g => Prog.bind_assoc' x f g)

theorem ite_bind {α β : Type} (c : Prop) [Decidable c] (p q : Prog α) (f : α → Prog β) :
    (if c then p else q) >>= f = if c then p >>= f else q >>= f := by split <;> rfl

theorem ite_pure {α : Type} (c : Prop) [Decidable c] (a b : α) :
    (if c then (pure a : Prog α) else pure b) = pure (if c then a else b) := by split <;> rfl

theorem bindc {α β : Type} {p : Prog α} {f g : α → Prog β} (h : ∀ a, f a = g a) : p >>= f = p >>= g := by
  rw [funext h]

theorem itec {α : Type} {c : Prop} [Decidable c] {p p' q q' : α} (h₁ : c → p = p') (h₂ : ¬ c → q = q') :
    (if c then p else q) = if c then p' else q' := by
  split
  · exact h₁ ‹_›
  · exact h₂ ‹_›

/-- `return f(…)` of a two-valued `f`, as the translator prints it -/
theorem bind_pure_pair {α β : Type} (p : Prog (α × β)) : (p >>= fun t => pure (t.1, t.2)) = p := bind_pure p

theorem itec_bind {α β : Type} {c : Prop} [Decidable c] {p q : Prog α} {f : α → Prog β} {p' q' : Prog β}
    (h₁ : c → p >>= f = p') (h₂ : ¬ c → q >>= f = q') : (if c then p else q) >>= f = if c then p' else q' := by
  rw [ite_bind]; exact itec h₁ h₂

def RunEq {α : Type} (p q : Prog α) : Prop := ∀ h, run p h = run q h

theorem RunEq.of_eq {α : Type} {p q : Prog α} (e : p = q) : RunEq p q := fun _ => by rw [e]
theorem RunEq.rfl {α : Type} {p : Prog α} : RunEq p p := fun _ => Eq.refl _
theorem RunEq.trans {α : Type} {p q r : Prog α} (a : RunEq p q) (b : RunEq q r) : RunEq p r :=
  fun h => (a h).trans (b h)
theorem RunEq.symm {α : Type} {p q : Prog α} (a : RunEq p q) : RunEq q p := fun h => (a h).symm

theorem RunEq.bind {α β : Type} {p p' : Prog α} {f f' : α → Prog β} (hp : RunEq p p') (hf : ∀ a, RunEq (f a) (f' a)) :
    RunEq (p >>= f) (p' >>= f') := fun h => by rw [run_bind, run_bind, hp h, hf]

theorem RunEq.ite {α : Type} {c : Prop} [Decidable c] {p p' q q' : Prog α} (h₁ : c → RunEq p p') (h₂ : ¬ c → RunEq q q') :
    RunEq (if c then p else q) (if c then p' else q') := by
  split
  · exact h₁ ‹_›
  · exact h₂ ‹_›

theorem RunEq.ite_bind {α β : Type} {c : Prop} [Decidable c] {p q : Prog α} {f : α → Prog β} {p' q' : Prog β}
    (h₁ : c → RunEq (p >>= f) p') (h₂ : ¬ c → RunEq (q >>= f) q') :
    RunEq ((if c then p else q) >>= f) (if c then p' else q') := by
  rw [Apd.Imp.ite_bind]; exact .ite h₁ h₂

/-- `RunEq.bind` on one heap, for a continuation that is tied only under a hypothesis on what was read -/
theorem run_bindc {α β : Type} {p : Prog α} {f g : α → Prog β} {h : Heap}
    (H : ∀ a h', run p h = (a, h') → run (f a) h' = run (g a) h') : run (p >>= f) h = run (p >>= g) h := by
  rw [run_bind, run_bind]; exact H _ _ rfl

/-- `f(&d.Coeff, d.Negative, …)`: Go reads the sign, then (in the callee) the coefficient -/
theorem RunEq.rdNeg_rdCoeff {γ : Type} (s t : Src) (k : Bool → Nat → Prog γ) :
    RunEq (rdNeg s >>= fun n => rdCoeff t >>= fun c => k n c) (rdCoeff t >>= fun c => rdNeg s >>= fun n => k n c) :=
  fun _ => by cases s <;> cases t <;> rfl

theorem RunEq.wr_rdCoeff {β : Type} (d : Cell) (v : Nat) (k : Nat → Prog β) :
    RunEq (wrCoeff d v >>= fun _ => rdCoeff (Src.cell d) >>= k) (wrCoeff d v >>= fun _ => k v) := fun h => by
  simp only [run_bind]
  show run (k ((upd h d _) d).coeff) _ = _
  simp only [upd, if_true]
  rfl

end Apd.Imp
