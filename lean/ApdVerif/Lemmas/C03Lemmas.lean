import ApdVerif.Lemmas.SqrtDefs
import ApdVerif.Lemmas.ErrExits
import Mathlib.Tactic.SplitIfs
/-!
# Lemmas for C03: the trap set is only consulted by `goError` at the very end

An operation run under the trap set `t` is its trap-free run with the error re-evaluated under `t` (`TrapLaw`), shown
per operation with the tactic `push_retrap`.  For the `ErrDecimal` chain of Sqrt a simulation `Sim` between the run under
`t` and the trap-free run: Sqrt obeys the law when its error is nil.
-/
namespace Apd.C03L

def wt (c : Ctx) (t : Cond) : Ctx := { c with traps := t }

@[simp] theorem wt_prec (c : Ctx) (t : Cond) : (wt c t).prec = c.prec := rfl
@[simp] theorem wt_emax (c : Ctx) (t : Cond) : (wt c t).emax = c.emax := rfl
@[simp] theorem wt_emin (c : Ctx) (t : Cond) : (wt c t).emin = c.emin := rfl
@[simp] theorem wt_mode (c : Ctx) (t : Cond) : (wt c t).mode = c.mode := rfl
@[simp] theorem wt_traps (c : Ctx) (t : Cond) : (wt c t).traps = t := rfl
@[simp] theorem wt_wt (c : Ctx) (t u : Cond) : wt (wt c t) u = wt c u := rfl
theorem wt_self (c : Ctx) : wt c c.traps = c := rfl

theorem goError_iff (traps fl : Cond) :
    goError traps fl ≠ .none ↔ (fl.sysOverflow = true ∨ fl.sysUnderflow = true ∨ (fl &&& traps).any = true) := by
  rw [Ne, goError_none_iff, NoSys]
  cases fl.sysOverflow <;> cases fl.sysUnderflow <;> cases (fl &&& traps).any <;> simp

def retrap (t : Cond) (o : Out) : Out := { o with err := if o.err ≠ .none then o.err else goError t o.fl }

@[simp] theorem retrap_d (t : Cond) (o : Out) : (retrap t o).d = o.d := rfl
@[simp] theorem retrap_fl (t : Cond) (o : Out) : (retrap t o).fl = o.fl := rfl
@[simp] theorem retrap_aux (t : Cond) (o : Out) : (retrap t o).aux = o.aux := rfl
theorem retrap_err (t : Cond) (o : Out) : (retrap t o).err = if o.err ≠ .none then o.err else goError t o.fl := rfl

theorem retrap_mk_goError (t : Cond) (d : Dec) (fl : Cond) (a : Int) :
    retrap t { d := d, fl := fl, err := goError {} fl, aux := a } = { d := d, fl := fl, err := goError t fl, aux := a } := by
  unfold retrap
  simp only []
  by_cases h : goError {} fl = .none
  · simp [h]
  · simp [h, goError_of_empty_ne t fl h]

theorem retrap_failWith (t : Cond) (e : ErrKind) (h : e ≠ .none) : retrap t (failWith e) = failWith e := by
  unfold retrap failWith
  simp [h]

theorem retrap_ite (t : Cond) (p : Prop) [Decidable p] (a b : Out) :
    retrap t (if p then a else b) = if p then retrap t a else retrap t b := by
  split_ifs <;> rfl

@[simp] theorem setExponent_wt (c : Ctx) (t : Cond) (d : Dec) (res : Cond) (xs : List Int) :
    setExponent (wt c t) d res xs = setExponent c d res xs := rfl
@[simp] theorem roundX_wt (c : Ctx) (t : Cond) (x : Dec) (b : Bool) : roundX (wt c t) x b = roundX c x b := rfl
@[simp] theorem ctxRound_wt (c : Ctx) (t : Cond) (x : Dec) : ctxRound (wt c t) x = ctxRound c x := rfl
@[simp] theorem roundXFin_wt (c : Ctx) (t : Cond) (x : Dec) (b : Bool) : roundXFin (wt c t) x b = roundXFin c x b := rfl
@[simp] theorem ctxRoundFin_wt (c : Ctx) (t : Cond) (x : Dec) : ctxRoundFin (wt c t) x = ctxRoundFin c x := rfl
@[simp] theorem quantizeCore_wt (c : Ctx) (t : Cond) (v : Dec) (e : Int) :
    quantizeCore (wt c t) v e = quantizeCore c v e := rfl

/-- the `<op>_wt` theorems below take their operands first, so that `addOp_wt x y s : TrapLaw (fun c => addOp c x y s)`
holds by unfolding; `Sim.step` is applied to them in that form -/
def TrapLaw (op : Ctx → Out) : Prop := ∀ (c : Ctx) (t : Cond), op (wt c t) = retrap t (op (wt c {}))

theorem retrap_finish (c : Ctx) (t : Cond) (r : Dec × Cond) : retrap t (finish (wt c {}) r) = finish (wt c t) r :=
  retrap_mk_goError t _ _ 0

theorem retrap_invalidNaN (c : Ctx) (t : Cond) : retrap t (invalidNaN (wt c {})) = invalidNaN (wt c t) :=
  retrap_mk_goError t _ _ 0

theorem plain_retrap (t : Cond) (d : Dec) : retrap t ({ d := d } : Out) = { d := d } := by
  unfold retrap
  simp [goError_noFlags]

theorem retrap_setAsNaN (c : Ctx) (t : Cond) (x : Dec) (y : Option Dec) :
    retrap t (setAsNaN (wt c {}) x y) = setAsNaN (wt c t) x y := by
  unfold setAsNaN
  simp only [retrap_ite, retrap_mk_goError, plain_retrap, wt_traps]

theorem finish_nil {c : Ctx} {r : Dec × Cond} (h : (finish c r).err = .none) :
    finish c r = { d := r.1, fl := r.2, err := .none } ∧ goError c.traps r.2 = .none :=
  ⟨congrArg (Out.mk _ _ · 0) h, h⟩

theorem finish_law (r : Ctx → Dec × Cond) (hr : ∀ c t, r (wt c t) = r c) :
    TrapLaw (fun c => finish c (r c)) := by
  intro c t
  simp only [hr, retrap_finish]

/-- moves `retrap t` through the `if`s of a trap-free run to its outcomes; what is left differs from the run under
`t` only in reads like `(wt c t).prec`, which `rfl` sees through -/
macro "push_retrap" : tactic =>
  `(tactic| simp only [retrap_ite, retrap_finish, retrap_setAsNaN, retrap_invalidNaN, plain_retrap,
      retrap_mk_goError, retrap_failWith _ .sys (by decide), retrap_failWith _ .zeroPrec (by decide), wt_traps])

theorem addOp_wt (x y : Dec) (s : Bool) (c : Ctx) (t : Cond) :
    addOp (wt c t) x y s = retrap t (addOp (wt c {}) x y s) := by
  unfold addOp
  rcases upscale x y with _ | ⟨a, b, e⟩ <;> push_retrap <;> rfl

theorem absOp_wt (x : Dec) (c : Ctx) (t : Cond) :
    absOp (wt c t) x = retrap t (absOp (wt c {}) x) := by
  unfold absOp
  push_retrap
  rfl

theorem negOp_wt (x : Dec) (c : Ctx) (t : Cond) :
    negOp (wt c t) x = retrap t (negOp (wt c {}) x) := by
  unfold negOp
  push_retrap
  rfl

theorem roundOp_wt (x : Dec) (c : Ctx) (t : Cond) :
    roundOp (wt c t) x = retrap t (roundOp (wt c {}) x) := by
  unfold roundOp
  push_retrap
  rfl

theorem mulOp_wt (x y : Dec) (c : Ctx) (t : Cond) :
    mulOp (wt c t) x y = retrap t (mulOp (wt c {}) x y) := by
  unfold mulOp
  push_retrap
  rfl

theorem quoSpecials_wt (c : Ctx) (t : Cond) (x y : Dec) (b : Bool) :
    quoSpecials (wt c t) x y b = (quoSpecials (wt c {}) x y b).map (retrap t) := by
  unfold quoSpecials
  simp only [apply_ite (Option.map (retrap t)), Option.map_some, Option.map_none]
  push_retrap
  rfl

theorem quoOp_wt (x y : Dec) (c : Ctx) (t : Cond) :
    quoOp (wt c t) x y = retrap t (quoOp (wt c {}) x y) := by
  unfold quoOp
  rw [quoSpecials_wt]
  cases quoSpecials (wt c {}) x y true with
  | some o => rfl
  | none => push_retrap; rfl

theorem quoIntegerOp_wt (x y : Dec) (c : Ctx) (t : Cond) :
    quoIntegerOp (wt c t) x y = retrap t (quoIntegerOp (wt c {}) x y) := by
  unfold quoIntegerOp
  rw [quoSpecials_wt]
  cases quoSpecials (wt c {}) x y false with
  | some o => rfl
  | none => rcases upscale x y with _ | ⟨a, b, e⟩ <;> push_retrap <;> rfl

theorem remOp_wt (x y : Dec) (c : Ctx) (t : Cond) :
    remOp (wt c t) x y = retrap t (remOp (wt c {}) x y) := by
  unfold remOp
  rcases upscale x y with _ | ⟨a, b, e⟩ <;> push_retrap <;> rfl

theorem reduceOp_wt (x : Dec) (c : Ctx) (t : Cond) :
    reduceOp (wt c t) x = retrap t (reduceOp (wt c {}) x) := by
  unfold reduceOp
  push_retrap
  rfl

theorem cmpOp_wt (x y : Dec) (c : Ctx) (t : Cond) :
    cmpOp (wt c t) x y = retrap t (cmpOp (wt c {}) x y) := by
  unfold cmpOp
  push_retrap

theorem quantizeOp_wt (x : Dec) (e : Int) (c : Ctx) (t : Cond) :
    quantizeOp (wt c t) x e = retrap t (quantizeOp (wt c {}) x e) := by
  unfold quantizeOp
  push_retrap
  rfl

theorem toIntegralSpecials_wt (c : Ctx) (t : Cond) (x : Dec) :
    toIntegralSpecials (wt c t) x = (toIntegralSpecials (wt c {}) x).map (retrap t) := by
  unfold toIntegralSpecials
  simp only [apply_ite (Option.map (retrap t)), Option.map_some, Option.map_none]
  push_retrap

theorem rtie_wt (x : Dec) (c : Ctx) (t : Cond) :
    roundToIntegralExactOp (wt c t) x = retrap t (roundToIntegralExactOp (wt c {}) x) := by
  unfold roundToIntegralExactOp
  rw [toIntegralSpecials_wt]
  cases toIntegralSpecials (wt c {}) x with
  | some o => rfl
  | none => push_retrap; rfl

theorem rtiv_wt (x : Dec) (c : Ctx) (t : Cond) :
    roundToIntegralValueOp (wt c t) x = retrap t (roundToIntegralValueOp (wt c {}) x) := by
  unfold roundToIntegralValueOp
  rw [toIntegralSpecials_wt]
  cases toIntegralSpecials (wt c {}) x with
  | some o => rfl
  | none => push_retrap; rfl

theorem ceilOp_wt (x : Dec) (c : Ctx) (t : Cond) :
    ceilOp (wt c t) x = retrap t (ceilOp (wt c {}) x) := by
  unfold ceilOp
  rw [toIntegralSpecials_wt]
  cases toIntegralSpecials (wt c {}) x with
  | some o => rfl
  | none => simp only [Option.map_none, addOp_wt _ _ _ c t, retrap_ite, plain_retrap]

theorem floorOp_wt (x : Dec) (c : Ctx) (t : Cond) :
    floorOp (wt c t) x = retrap t (floorOp (wt c {}) x) := by
  unfold floorOp
  rw [toIntegralSpecials_wt]
  cases toIntegralSpecials (wt c {}) x with
  | some o => rfl
  | none => simp only [Option.map_none, addOp_wt _ _ _ c t, retrap_ite, plain_retrap]

theorem rootSpecials_wt (c : Ctx) (t : Cond) (x : Dec) (f : Int) :
    rootSpecials (wt c t) x f = (rootSpecials (wt c {}) x f).map (retrap t) := by
  unfold rootSpecials
  simp only [apply_ite (Option.map (retrap t)), Option.map_some, Option.map_none]
  push_retrap
  rfl

/-- simulation between the run under trap set `t` and the trap-free run; `P` collects the
equalities between the live values of the two runs -/
def Sim (t : Cond) (eT e0 : ED) (P : Prop) : Prop :=
  eT.c = wt e0.c t ∧ e0.c.traps = {} ∧ (eT.failed = false → eT.fl = e0.fl ∧ e0.failed = false ∧ P)

theorem Sim.mono {t : Cond} {eT e0 : ED} {P Q : Prop} (h : Sim t eT e0 P) (hpq : P → Q) : Sim t eT e0 Q :=
  ⟨h.1, h.2.1, fun hf => ⟨(h.2.2 hf).1, (h.2.2 hf).2.1, hpq (h.2.2 hf).2.2⟩⟩

theorem Sim.step {t : Cond} {eT e0 : ED} {P : Prop} (h : Sim t eT e0 P) (vT v0 : Dec) (opT op0 : Ctx → Out)
    (hop : P → opT = op0) (law : TrapLaw op0) :
    Sim t (eT.step vT opT).1 (e0.step v0 op0).1 (P ∧ (eT.step vT opT).2 = (e0.step v0 op0).2) := by
  obtain ⟨hc, htr, hP⟩ := h
  refine ⟨by rw [ED.step_c, ED.step_c]; exact hc, by rw [ED.step_c]; exact htr, ?_⟩
  cases hf : eT.failed with
  | true => rw [ED.step_of_failed hf]; intro h; rw [hf] at h; exact absurd h (by decide)
  | false =>
    obtain ⟨hfl, h0, p⟩ := hP hf
    have := hop p; subst this
    rw [ED.step_of_ok hf, ED.step_of_ok h0]
    have hw : wt e0.c {} = e0.c := by
      have := wt_self e0.c
      rw [htr] at this; exact this
    have hl : opT eT.c = retrap t (opT e0.c) := by rw [hc, law, hw]
    rw [hl]
    intro hnf
    rw [ED.failed_false_iff] at hnf h0 ⊢
    simp only [retrap_fl, retrap_d, retrap_err, hc, wt_traps] at hnf ⊢
    obtain ⟨he, hg⟩ := hnf
    have he0 : (opT e0.c).err = .none := by
      by_cases hne : (opT e0.c).err = .none
      · exact hne
      · rw [if_pos hne] at he; exact absurd he hne
    rw [hfl] at hg ⊢
    -- no error under `t` means no system flag, hence no error without traps either
    exact ⟨rfl, ⟨he0, by rw [htr]; exact goError_none_empty t _ hg⟩, p, trivial⟩

theorem Sim.setPrec {t : Cond} {eT e0 : ED} {P : Prop} (h : Sim t eT e0 P) (p : Nat) :
    Sim t { eT with c := { eT.c with prec := p } } { e0 with c := { e0.c with prec := p } } P := by
  obtain ⟨hc, htr, hP⟩ := h
  refine ⟨?_, htr, ?_⟩
  · show ({ eT.c with prec := p } : Ctx) = wt { e0.c with prec := p } t
    rw [hc]; rfl
  · intro hf
    have hf' : eT.failed = false := hf
    obtain ⟨a, b, c⟩ := hP hf'
    exact ⟨a, b, c⟩

theorem Sim.round1 {t : Cond} {eT e0 : ED} {aT a0 : Dec} (h : Sim t eT e0 (aT = a0)) (f : Dec) (P : Nat) :
    Sim t (SqrtD.round1 eT f aT P).1 (SqrtD.round1 e0 f a0 P).1
      ((SqrtD.round1 eT f aT P).2 = (SqrtD.round1 e0 f a0 P).2) := by
  unfold SqrtD.round1
  refine Sim.mono (Sim.step (Sim.step (Sim.step (Sim.setPrec h P) _ _ _ _ ?_ ?_) _ _ _ _ ?_ ?_) _ _ _ _ ?_ ?_)
    (fun h => h.2)
  · intro h; rw [h]
  · exact quoOp_wt _ _
  · rintro ⟨h1, h2⟩; subst h1; exact congrArg (fun v => fun c => addOp c v aT false) h2
  · exact addOp_wt _ _ _
  · rintro ⟨_, h2⟩; exact congrArg (fun v => fun c => mulOp c v decHalf) h2
  · exact mulOp_wt _ _

theorem sqrtLoop_sim (t : Cond) (f : Dec) (maxp : Nat) (fuel : Nat) (eT e0 : ED) (aT a0 : Dec) (p : Nat)
    (h : Sim t eT e0 (aT = a0)) :
    Sim t (sqrtLoop fuel eT f aT p maxp).1 (sqrtLoop fuel e0 f a0 p maxp).1
      ((sqrtLoop fuel eT f aT p maxp).2 = (sqrtLoop fuel e0 f a0 p maxp).2) :=
  (SqrtD.sqrtLoop_rule2 (fun eT aT e0 a0 _ => Sim t eT e0 (aT = a0)) f f maxp
    (fun _ _ _ _ _ h _ => h.round1 f _) fuel eT aT e0 a0 p h).elim fun _ h => h.1

theorem init_sim (c : Ctx) (t : Cond) (x : Dec) :
    Sim t (SqrtD.init (wt c t) x).1 (SqrtD.init (wt c {}) x).1
      ((SqrtD.init (wt c t) x).2 = (SqrtD.init (wt c {}) x).2) := by
  unfold SqrtD.init
  refine Sim.mono (Sim.step (Sim.step (P := True) ?_ _ _ _ _ ?_ ?_) _ _ _ _ ?_ ?_) (fun h => h.2)
  · exact ⟨rfl, rfl, fun _ => ⟨rfl, rfl, trivial⟩⟩
  · intro _; rfl
  · exact mulOp_wt _ _
  · rintro ⟨_, h2⟩; exact congrArg (fun v => fun c => addOp c v _ false) h2
  · exact addOp_wt _ _ _

theorem iter_sim (c : Ctx) (t : Cond) (x : Dec) :
    Sim t (SqrtD.iter (wt c t) x).1 (SqrtD.iter (wt c {}) x).1
      ((SqrtD.iter (wt c t) x).2 = (SqrtD.iter (wt c {}) x).2) := by
  unfold SqrtD.iter
  exact sqrtLoop_sim t (SqrtD.f x) (SqrtD.workp c x + 5) 64 _ _ _ _ 3 (init_sim c t x)

theorem ctxRound_traps (p : Nat) (e m : Int) (t : Cond) (md : Mode) (x : Dec) :
    ctxRound ⟨p, e, m, t, md⟩ x = ctxRound ⟨p, e, m, {}, md⟩ x := ctxRound_wt ⟨p, e, m, {}, md⟩ t x

theorem sqrtSettle_traps (p : Nat) (e m : Int) (t : Cond) (md : Mode) (d a x : Dec) :
    sqrtSettle ⟨p, e, m, t, md⟩ d a x = sqrtSettle ⟨p, e, m, {}, md⟩ d a x := by
  unfold sqrtSettle
  simp only [ctxRound_traps _ _ _ t]

theorem tail_wt (x a : Dec) (c : Ctx) (t : Cond) :
    SqrtD.tail (wt c t) x a = retrap t (SqrtD.tail (wt c {}) x a) := by
  unfold SqrtD.tail
  -- the two rounding contexts become constructor terms that differ in the trap field only
  simp only [wt_prec, wt_emax, wt_emin, wt_traps, ctxRound_traps _ _ _ t, sqrtSettle_traps _ _ _ t]
  exact (retrap_mk_goError t _ _ 0).symm

theorem failOut_err (e : ErrKind) : (failOut e).err = e := rfl

theorem sqrtOp_err {c : Ctx} {x : Dec} (hs : rootSpecials c x 2 = none) (h : (sqrtOp c x).err = .none) :
    (SqrtD.iter c x).1.failed = false := by
  cases hf : (SqrtD.iter c x).1.failed with
  | false => rfl
  | true =>
    rw [SqrtD.sqrtOp_failed hs hf, failOut_err] at h
    exact (ED.errOf_ne_none hf h).elim

/-- under a nil error no step of the iteration was stopped by a trap, so the trap-free run took the same steps -/
theorem sqrtOp_wt (c : Ctx) (t : Cond) (x : Dec) (h : (sqrtOp (wt c t) x).err = .none) :
    sqrtOp (wt c t) x = retrap t (sqrtOp (wt c {}) x) := by
  have hsT := rootSpecials_wt c t x 2
  cases hs : rootSpecials (wt c {}) x 2 with
  | some o =>
    rw [hs] at hsT
    rw [SqrtD.sqrtOp_special hs, SqrtD.sqrtOp_special hsT]
  | none =>
    rw [hs] at hsT
    have hfT := sqrtOp_err hsT h
    obtain ⟨-, -, hsim⟩ := iter_sim c t x
    obtain ⟨-, h0, hv⟩ := hsim hfT
    calc sqrtOp (wt c t) x
        = SqrtD.tail (wt c t) x (SqrtD.iter (wt c t) x).2 := SqrtD.sqrtOp_ok hsT hfT
      _ = retrap t (SqrtD.tail (wt c {}) x (SqrtD.iter (wt c t) x).2) := tail_wt _ _ c t
      _ = retrap t (SqrtD.tail (wt c {}) x (SqrtD.iter (wt c {}) x).2) :=
          congrArg (fun a => retrap t (SqrtD.tail (wt c {}) x a)) hv
      _ = retrap t (sqrtOp (wt c {}) x) := congrArg (retrap t) (SqrtD.sqrtOp_ok hs h0).symm

theorem sqrtOp_traps (c : Ctx) (t : Cond) (x : Dec) (h : (sqrtOp (wt c t) x).err = .none) :
    (sqrtOp (wt c {}) x).d = (sqrtOp (wt c t) x).d ∧ (sqrtOp (wt c {}) x).fl = (sqrtOp (wt c t) x).fl :=
  ⟨(congrArg Out.d (sqrtOp_wt c t x h)).symm, (congrArg Out.fl (sqrtOp_wt c t x h)).symm⟩

end Apd.C03L
