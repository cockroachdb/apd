import ApdVerif.Lemmas.CbrtLemmas
import ApdVerif.Lemmas.CbrtRules
import ApdVerif.Lemmas.CbrtConvReal
/-!
# `Context.Cbrt` converges — the loops of the model, forwards

An operation on two positive decimals whose digits and decimal range are known (`Dg`) does not fail and delivers such a
decimal again (`Dg.mul_fw`, `quo_fw`, `add_fw`).  So a scaling loop (`z ← z·8` while `z < 1/8`, `z ← z·0.125` while
`z > 1`) has no error exit, and its final value is the start times `k^n` up to `n` roundings (`Upto`; `scaleLoop_fw`); the
same for the `n`-fold multiplication by `0.5` / `2` that scales the first estimate back (`mulN_fw`) and for the four
operations of the estimate (`est4_fw`; `est_good` goes the other way, from a call that did not fail).
-/
namespace Apd.CbrtC
open Apd.Oracle Apd.RatSpec Apd.C20L Apd.SqrtL Apd.CbrtL Apd.CbrtR

/-- relative size of one rounding at `p` digits -/
noncomputable def eps (p : ℕ) : ℚ := 5 * (10 : ℚ) ^ (-(p : ℤ))

theorem eps_pos (p : ℕ) : 0 < eps p := by unfold eps; have := tp (-(p : ℤ)); positivity

theorem eps_small (p : ℕ) (hp : 4 ≤ p) : eps p ≤ 1 / 2000 := eps_le p hp

theorem eps_le_one (p : ℕ) (hp : 4 ≤ p) : eps p ≤ 1 := (eps_small p hp).trans (by norm_num)

theorem opr_bounds {p : ℕ} {v : ℚ} {d : Dec} (h : Rounded p v d) (hv : 0 < v) :
    v * (1 - eps p) ≤ d.toRat ∧ d.toRat ≤ v * (1 + eps p) :=
  rel_lo_hi hv h.val

def Rng (u : ℚ) (i j : ℤ) : Prop := (10 : ℚ) ^ i ≤ u ∧ u < (10 : ℚ) ^ j

theorem Rng.pos {u : ℚ} {i j : ℤ} (h : Rng u i j) : 0 < u := lt_of_lt_of_le (tp i) h.1

theorem Rng.widen {u : ℚ} {i j i' j' : ℤ} (h : Rng u i j) (hi : i' ≤ i) (hj : j ≤ j') : Rng u i' j' :=
  ⟨le_trans (zpow_le_zpow_right₀ ten_ge hi) h.1, lt_of_lt_of_le h.2 (zpow_le_zpow_right₀ ten_ge hj)⟩

theorem Rng.mul {u v : ℚ} {i j i' j' : ℤ} (h : Rng u i j) (h' : Rng v i' j') : Rng (u * v) (i + i') (j + j') := by
  constructor
  · rw [zpow_add₀ ten_ne]
    exact mul_le_mul h.1 h'.1 (tp _).le h.pos.le
  · rw [zpow_add₀ ten_ne]
    exact mul_lt_mul'' h.2 h'.2 h.pos.le h'.pos.le

theorem Rng.exp {d : Dec} {n : ℕ} {i j : ℤ} (h : Rng d.toRat i j) (hd : Pos d) (hn : ndigits d.coeff ≤ n) :
    i - (n : ℤ) < d.exp ∧ d.exp ≤ j - 1 := exp_bounds hd hn h.1 h.2

theorem Rng.lo {u : ℚ} {i j : ℤ} (h : Rng u i j) (hi : -100000 ≤ i) : (10 : ℚ) ^ (-100000 : ℤ) ≤ u :=
  (h.widen hi (le_refl _)).1

theorem Rng.hi {u : ℚ} {i j : ℤ} (h : Rng u i j) (hj : j ≤ 99999) : u < (10 : ℚ) ^ (99999 : ℤ) :=
  (h.widen (le_refl _) hj).2

theorem Rng.div {u v : ℚ} {i j i' j' : ℤ} (h : Rng u i j) (h' : Rng v i' j') : Rng (u / v) (i - j') (j - i') := by
  have hv := h'.pos
  constructor
  · rw [le_div_iff₀ hv]
    have : (10 : ℚ) ^ (i - j') * v ≤ (10 : ℚ) ^ (i - j') * (10 : ℚ) ^ j' :=
      mul_le_mul_of_nonneg_left h'.2.le (tp _).le
    rw [← zpow_add₀ ten_ne, sub_add_cancel] at this
    linarith [h.1]
  · rw [div_lt_iff₀ hv]
    have : (10 : ℚ) ^ (j - i') * (10 : ℚ) ^ i' ≤ (10 : ℚ) ^ (j - i') * v :=
      mul_le_mul_of_nonneg_left h'.1 (tp _).le
    rw [← zpow_add₀ ten_ne, sub_add_cancel] at this
    linarith [h.2]

theorem Rng.add {u v : ℚ} {i j i' j' k : ℤ} (h : Rng u i j) (h' : Rng v i' j') (hj : j ≤ k) (hj' : j' ≤ k) :
    Rng (u + v) i' (k + 1) := by
  constructor
  · linarith [h'.1, h.pos]
  · have a1 : u < (10 : ℚ) ^ k := lt_of_lt_of_le h.2 (zpow_le_zpow_right₀ ten_ge hj)
    have a2 : v < (10 : ℚ) ^ k := lt_of_lt_of_le h'.2 (zpow_le_zpow_right₀ ten_ge hj')
    rw [zpow_add_one₀ ten_ne]
    have := tp k
    linarith

theorem Rng.rel {u u' ε : ℚ} {i j : ℤ} (h : Rng u i j) (hε : ε ≤ 1 / 2000)
    (l : u * (1 - ε) ≤ u') (r : u' ≤ u * (1 + ε)) : Rng u' (i - 1) (j + 1) := by
  have hu := h.pos
  constructor
  · rw [zpow_sub_one₀ ten_ne]
    have := tp i
    have h1 : u * (1 - ε) ≥ u * (1999 / 2000) := mul_le_mul_of_nonneg_left (by linarith only [hε]) hu.le
    linarith only [h1, h.1, l, this]
  · rw [zpow_add_one₀ ten_ne]
    have := tp j
    have h1 : u * (1 + ε) ≤ u * (2001 / 2000) := mul_le_mul_of_nonneg_left (by linarith only [hε]) hu.le
    linarith only [h1, h.2, r, this]

theorem Rng.opr {p : ℕ} {v : ℚ} {d : Dec} {i j : ℤ} (h : Rng v i j) (hp : 4 ≤ p) (hr : Rounded p v d) :
    Rng d.toRat (i - 1) (j + 1) := by
  obtain ⟨l, u⟩ := opr_bounds hr h.pos
  exact h.rel (eps_small p hp) l u

/-- a positive decimal of at most `n` digits whose value lies in `[10^i, 10^j)`, hence with exponent in `(i - n, j - 1]`
(`Dg.exp`): for two such operands the side conditions of `mulOp_ok`, `quoOp_ok`, `addOp_ok` on exponents, digit counts
and values are one linear hypothesis (`Dg.mul_fw`, `quo_fw`, `add_fw`), and the result is such a decimal again -/
structure Dg (n : ℕ) (z : Dec) (i j : ℤ) : Prop where
  pos : Pos z
  nd : ndigits z.coeff ≤ n
  rng : Rng z.toRat i j

theorem Dg.exp {n : ℕ} {z : Dec} {i j : ℤ} (h : Dg n z i j) : i - (n : ℤ) < z.exp ∧ z.exp ≤ j - 1 :=
  h.rng.exp h.pos h.nd

theorem Dg.of_step {cc : Ctx} {p : ℕ} (hp4 : 4 ≤ p) {e : ED} {cur : Dec} {op : Ctx → Out}
    (he : EDg cc e) {v : ℚ} {i j : ℤ} (F : OpOk cc.traps p v (op cc)) (hv : Rng v i j) :
    EDg cc (e.step cur op).1 ∧ Dg p (e.step cur op).2 (i - 1) (j + 1) ∧ Rounded p v (e.step cur op).2 := by
  obtain ⟨g, R⟩ := he.step_ok cur F
  exact ⟨g, ⟨R.pos hv.pos, R.nd, hv.opr hp4 R⟩, R⟩

section
variable {cc : Ctx} {p n m : ℕ} {e : ED} {cur x y : Dec} {i j i' j' : ℤ}

/-- `x·y`: the exponents of the operands and of the unrounded product, and the value, inside the package limits -/
theorem Dg.mul_fw (hw : NCtx cc p) (hp4 : 4 ≤ p) (he : EDg cc e) (hx : Dg n x i j) (hy : Dg m y i' j')
    (h : -100000 ≤ x.exp ∧ j ≤ 100001 ∧ -100000 ≤ y.exp ∧ j' ≤ 100001 ∧
      -100000 ≤ x.exp + y.exp ∧ n + m ≤ 99999 + p ∧ -100000 ≤ i + i' ∧ j + j' ≤ 99999) :
    EDg cc (e.step cur (fun c => mulOp c x y)).1 ∧
      Dg p (e.step cur (fun c => mulOp c x y)).2 (i + i' - 1) (j + j' + 1) ∧
      Rounded p (x.toRat * y.toRat) (e.step cur (fun c => mulOp c x y)).2 := by
  obtain ⟨x1, x2⟩ := hx.exp
  obtain ⟨y1, y2⟩ := hy.exp
  have r := hx.rng.mul hy.rng
  have hd := ndigits_mul_le x.coeff y.coeff hx.pos.h0 hy.pos.h0
  have hxn := hx.nd
  have hyn := hy.nd
  have hv : 0 < x.toRat * y.toRat := r.pos
  exact Dg.of_step hp4 he (mulOp_ok cc hw.work hw.traps x y hx.pos.hf hy.pos.hf hx.pos.h0 hy.pos.h0 (by omega) (by omega)
    (by omega) (by omega) (by omega) (by omega) (by rw [abs_of_pos hv]; exact r.hi (by omega))) r

theorem Dg.quo_fw (hw : NCtx cc p) (hp4 : 4 ≤ p) (he : EDg cc e) (hx : Dg n x i j) (hy : Dg m y i' j')
    (h : -100000 ≤ x.exp - y.exp ∧ x.exp - y.exp ≤ 100000 ∧ n ≤ 100000 ∧ m ≤ 100000 ∧
      -100000 ≤ i - j' ∧ j - i' ≤ 99999) :
    EDg cc (e.step cur (fun c => quoOp c x y)).1 ∧
      Dg p (e.step cur (fun c => quoOp c x y)).2 (i - j' - 1) (j - i' + 1) ∧
      Rounded p (x.toRat / y.toRat) (e.step cur (fun c => quoOp c x y)).2 := by
  obtain ⟨x1, x2⟩ := hx.exp
  obtain ⟨y1, y2⟩ := hy.exp
  have r := hx.rng.div hy.rng
  have hxn := hx.nd
  have hyn := hy.nd
  exact Dg.of_step hp4 he (quoOp_ok cc hw.work hw.traps x y hx.pos hy.pos (by omega) (by omega) (by omega) (by omega)
    (r.lo (by omega)) (r.hi (by omega))) r

/-- `x + y`, both below `10^k` -/
theorem Dg.add_fw (hw : NCtx cc p) (hp4 : 4 ≤ p) (he : EDg cc e) (hx : Dg n x i j) (hy : Dg m y i' j') (k : ℤ)
    (h : j ≤ k ∧ j' ≤ k ∧ -100000 ≤ x.exp ∧ -100000 ≤ y.exp ∧ k ≤ 99998 ∧
      x.exp - y.exp ≤ 100000 ∧ y.exp - x.exp ≤ 100000 ∧ k + 1 - x.exp ≤ 99999 + p ∧ k + 1 - y.exp ≤ 99999 + p) :
    EDg cc (e.step cur (fun c => addOp c x y false)).1 ∧
      Dg p (e.step cur (fun c => addOp c x y false)).2 (i' - 1) (k + 1 + 1) ∧
      Rounded p (x.toRat + y.toRat) (e.step cur (fun c => addOp c x y false)).2 := by
  obtain ⟨x1, x2⟩ := hx.exp
  obtain ⟨y1, y2⟩ := hy.exp
  have r := hx.rng.add hy.rng h.1 h.2.1
  have F := addOp_ok cc hw.work hw.traps x y false hx.pos.hf hy.pos.hf (by omega) (by omega) (by omega) (by omega)
    (by omega) (by omega) (k + 1) (by omega) (by omega) (by omega)
    (by simp only [Bool.false_eq_true, if_false]; rw [abs_of_pos r.pos]; exact r.2)
  simp only [Bool.false_eq_true, if_false] at F
  exact Dg.of_step (cur := cur) (op := fun c => addOp c x y false) hp4 he F r

end

/-- a multiplication `z ← z·k` that did not fail raised neither Subnormal nor Overflow (both are trapped in the working
context), so the product is at least `10^-100000` and the result below `10^100001` -/
theorem scale_step (cc : Ctx) (p : Nat) (hw : NCtx cc p) (k : Dec) (hk : Pos k)
    (e : ED) (z : Dec) (he : EDg cc e) (hz : Pos z)
    (hnf : (e.step z (fun c => mulOp c z k)).1.failed = false) :
    EDg cc (e.step z (fun c => mulOp c z k)).1 ∧ Pos (e.step z (fun c => mulOp c z k)).2 ∧
    ndigits (e.step z (fun c => mulOp c z k)).2.coeff ≤ p ∧
    z.toRat * k.toRat * (1 - eps p) ≤ (e.step z (fun c => mulOp c z k)).2.toRat ∧
    (e.step z (fun c => mulOp c z k)).2.toRat ≤ z.toRat * k.toRat * (1 + eps p) ∧
    (10 : ℚ) ^ (-100000 : ℤ) ≤ z.toRat * k.toRat ∧
    (e.step z (fun c => mulOp c z k)).2.toRat < (10 : ℚ) ^ (100001 : ℤ) := by
  obtain ⟨g1, v1, he'⟩ := he.step_back rfl hnf
  rw [v1]
  have hv : 0 < z.toRat * k.toRat := mul_pos hz.toRat_pos hk.toRat_pos
  have R := mulOp_rounded cc hw.work z k hz.hf hk.hf g1
  obtain ⟨l, u⟩ := opr_bounds R hv
  have hP := R.pos hv
  have fsub := (ExpAcc.mulOp_wide cc hw.work.wide z k hz.hf hk.hf g1).2
  have hA := Props.C01_mul cc hw.work.wf z k hz.hf hk.hf (Or.inl g1)
  have hmag : (exactMul z k).mag = z.toRat * k.toRat := by
    rw [← Exact.abs_toRat, Rat_exactMul_toRat, abs_of_pos hv]
  have hemin : cc.emin = -100000 := hw.work.wide.emin
  have hemax : cc.emax = 100000 := hw.work.wide.emax
  refine ⟨he', hP, R.nd, l, u, ?_, ?_⟩
  · by_contra hlt
    have := (Rat_specRound_subnormal cc (exactMul z k) (Nat.mul_pos hz.h0 hk.h0) Nat.one_pos).2
      (by rw [hmag, hemin]; exact lt_of_not_ge hlt)
    rw [← hA.2.1.2.1, fsub] at this
    exact Bool.noConfusion this
  · have hfit := hA.2.2
    unfold fits at hfit
    rw [hP.hf] at hfit
    simp only [Bool.and_eq_true, Bool.or_eq_true, beq_iff_eq, decide_eq_true_eq] at hfit
    have h2 := hfit.1.2
    rw [hemax] at h2
    exact lt_of_lt_of_le (toRat_bounds hP).2 (zpow_le_zpow_right₀ ten_ge (by omega))

theorem scaleLoop_good (cc : Ctx) (p : Nat) (hw : NCtx cc p) (test : Dec → Bool)
    (k : Dec) (hk : Pos k) (fuel : ℕ) (e : ED) (z : Dec) (n : ℕ) (e' : ED) (z' : Dec) (n' : ℕ) (he : EDg cc e)
    (hz : Pos z) (h : scaleLoop test k fuel e z n = some (.inr (e', z', n'))) :
    (EDg cc e' ∧ Pos z') ∧ test z' = false :=
  scaleLoop_rule test k (fun e z _ => EDg cc e ∧ Pos z)
    (fun e z _ hI _ hnf => ⟨(scale_step cc p hw k hk e z hI.1 hI.2 hnf).1,
      (scale_step cc p hw k hk e z hI.1 hI.2 hnf).2.1⟩) fuel e z n _ h ⟨he, hz⟩

/-- `hstep`: as long as the test holds the step does not fail and the step count is below `B`.  By the rule of the loop:
`scale_step` keeps the invariant, and the error exit is taken from a state of the invariant by a step that failed -/
theorem scaleLoop_fw (cc : Ctx) (p : Nat) (hw : NCtx cc p) (hp4 : 4 ≤ p)
    (test : Dec → Bool) (k : Dec) (hk : Pos k) (s : Dec) (hs : Pos s) (B : ℕ)
    (hstep : ∀ (z : Dec) (n : ℕ), Pos z → (z = s ∨ ndigits z.coeff ≤ p) → test z = true →
        Upto (eps p) n (s.toRat * k.toRat ^ n) z.toRat →
        n < B ∧ ∀ e, EDg cc e → (e.step z (fun c => mulOp c z k)).1.failed = false)
    (fuel : ℕ) (e : ED) (he : EDg cc e) :
    (∀ er, scaleLoop test k fuel e s 0 ≠ some (.inl er)) ∧
    ∀ e' z' n', scaleLoop test k fuel e s 0 = some (.inr (e', z', n')) → EDg cc e' ∧ Pos z' ∧
      (z' = s ∨ ndigits z'.coeff ≤ p) ∧ n' ≤ B ∧ Upto (eps p) n' (s.toRat * k.toRat ^ n') z'.toRat ∧ test z' = false ∧
      ((n' = 0 ∧ z' = s) ∨ ∃ zp, test zp = true ∧ Pos zp ∧ zp.toRat * k.toRat * (1 - eps p) ≤ z'.toRat ∧
        z'.toRat ≤ zp.toRat * k.toRat * (1 + eps p)) := by
  have R := fun r hr => scaleLoop_rule test k
    (fun e z n => EDg cc e ∧ Pos z ∧ (z = s ∨ ndigits z.coeff ≤ p) ∧ n ≤ B ∧
      Upto (eps p) n (s.toRat * k.toRat ^ n) z.toRat ∧
      ((n = 0 ∧ z = s) ∨ ∃ zp, test zp = true ∧ Pos zp ∧ zp.toRat * k.toRat * (1 - eps p) ≤ z.toRat ∧
        z.toRat ≤ zp.toRat * k.toRat * (1 + eps p)))
    (fun e z n ⟨he, hz, hd, hn, hb, hl⟩ ht hnf => by
      obtain ⟨hlt, -⟩ := hstep z n hz hd ht hb
      obtain ⟨s1, s2, s3, s4, s5, -, -⟩ := scale_step cc p hw k hk e z he hz hnf
      exact ⟨s1, s2, Or.inr s3, by omega, hb.step hk.toRat_pos.le (eps_pos p).le (eps_le_one p hp4) s4 s5,
        Or.inr ⟨z, ht, hz, s4, s5⟩⟩)
    fuel e s 0 r hr ⟨he, hs, Or.inl rfl, Nat.zero_le _, Upto.start _ _ _, Or.inl ⟨rfl, rfl⟩⟩
  constructor
  · intro er h
    obtain ⟨e', z', n', ⟨he', hz', hd, hn, hb, -⟩, ht, hf, -⟩ := R _ h
    rw [(hstep z' n' hz' hd ht hb).2 e' he'] at hf
    cases hf
  · intro e' z' n' h
    obtain ⟨⟨a1, a2, a3, a4, a5, a6⟩, ht⟩ := R _ h
    exact ⟨a1, a2, a3, a4, a5, ht, a6⟩

theorem mulN_fw (cc : Ctx) (p : Nat) (hw : NCtx cc p) (hp4 : 4 ≤ p)
    (k : Dec) (hk : Pos k) (m : ℕ) (e : ED) (z : Dec) (he : EDg cc e)
    (hz : Pos z) (hd : ndigits z.coeff ≤ p)
    (hstep : ∀ (z' : Dec) (j : ℕ), j < m → Pos z' → ndigits z'.coeff ≤ p →
      Upto (eps p) j (z.toRat * k.toRat ^ j) z'.toRat →
      ∀ e, EDg cc e → (e.step z' (fun c => mulOp c z' k)).1.failed = false) :
    EDg cc (mulN k m e z).1 ∧ Pos (mulN k m e z).2 ∧ ndigits (mulN k m e z).2.coeff ≤ p ∧
    Upto (eps p) m (z.toRat * k.toRat ^ m) (mulN k m e z).2.toRat := by
  obtain ⟨a, b⟩ := mulN_rule k
    (fun e z' j => EDg cc e ∧ Pos z' ∧ ndigits z'.coeff ≤ p ∧ Upto (eps p) j (z.toRat * k.toRat ^ j) z'.toRat)
    (fun e z' j ⟨he, hz, hd, hb⟩ hnf => by
      obtain ⟨s1, s2, s3, s4, s5, -, -⟩ := scale_step cc p hw k hk e z' he hz hnf
      exact ⟨s1, s2, s3, hb.step hk.toRat_pos.le (eps_pos p).le (eps_le_one p hp4) s4 s5⟩)
    m e z 0 ⟨he, hz, hd, Upto.start _ _ _⟩
  rw [Nat.zero_add] at a b
  refine a ?_
  by_contra hf
  obtain ⟨e', z', j, ⟨he', hz', hd', hb'⟩, hlt, hf'⟩ := b (by simpa using hf) he.nf
  rw [hstep z' j hlt hz' hd' hb' e' he'] at hf'
  cases hf'

theorem exp_bounds_abs (d : Dec) (n : ℕ) (hnd : ndigits d.coeff ≤ n) (k m : ℤ)
    (lo : (10 : ℚ) ^ k ≤ |d.toRat|) (hi : |d.toRat| < (10 : ℚ) ^ m) : k - (n : ℤ) < d.exp ∧ d.exp ≤ m - 1 := by
  have A := abs_toRat_isAdj d (coeff_pos_of_pow_le lo)
  have := A.le_of_le lo
  have := A.lt_of_lt hi
  have := ndigits_pos d.coeff
  omega

theorem est_good (cc : Ctx) (p : Nat) (hw : NCtx cc p) (hp4 : 4 ≤ p)
    (ed : ED) (z : Dec) (down up : Nat) (he : EDg cc ed) (hz : Pos z) (h1 : z.toRat ≤ 1)
    (hnf : (est ed z down up).1.failed = false) : EDg cc (est ed z down up).1 ∧ Pos (est ed z down up).2 := by
  have hε := eps_le p hp4
  -- the halvings / doublings: a failed `ErrDecimal` stays failed, a step that did not fail keeps the state good
  have scale : ∀ (k : Dec), Pos k → ∀ (m : ℕ) (r : ED × Dec), (r.1.failed = false → EDg cc r.1 ∧ Pos r.2) →
      (mulN k m r.1 r.2).1.failed = false → EDg cc (mulN k m r.1 r.2).1 ∧ Pos (mulN k m r.1 r.2).2 := by
    intro k hk m r hr hm
    have h4 : r.1.failed = false := by
      by_contra h
      rw [mulN_failed k m _ _ (by simpa using h)] at hm; cases hm
    exact (mulN_rule k (fun e z _ => EDg cc e ∧ Pos z)
      (fun e z n h hs => ⟨(scale_step cc p hw k hk e z h.1 h.2 hs).1,
        (scale_step cc p hw k hk e z h.1 h.2 hs).2.1⟩) m r.1 r.2 0 (hr h4)).1 hm
  have h4 : (est4 ed z).1.failed = false → EDg cc (est4 ed z).1 ∧ Pos (est4 ed z).2 := by
    unfold est4
    dsimp only
    generalize h1' : ed.step z (fun c => mulOp c z cbrtC1) = r1
    generalize h2' : r1.1.step r1.2 (fun c => addOp c r1.2 cbrtC2 false) = r2
    generalize h3' : r2.1.step r2.2 (fun c => mulOp c r2.2 z) = r3
    generalize h4' : r3.1.step r3.2 (fun c => addOp c r3.2 cbrtC3 false) = r4
    intro hnf4
    have f3 := EDg.nf_back h4' hnf4
    have f2 := EDg.nf_back h3' f3
    have f1 := EDg.nf_back h2' f2
    have hzp := hz.toRat_pos
    -- r1 = z·c1, negative but small
    obtain ⟨E1, o1⟩ := he.mul_back hw.work h1' f1 hz.hf rfl
    rw [cbrtC1_toRat] at o1
    have b1 := (est_m1 z.toRat r1.2.toRat _ hzp h1 (by have := tp (-(p : ℤ)); positivity) hε o1.val).1
    -- r2 = r1 + c2 > 0
    obtain ⟨E2, o2⟩ := E1.add_back hw.work h2' f2 o1.fin rfl
    have P2 : Pos r2.2 := o2.pos (by simp only [Bool.false_eq_true, if_false]; rw [cbrtC2_toRat]; linarith)
    -- r3 = r2 · z > 0
    obtain ⟨E3, o3⟩ := E2.mul_back hw.work h3' f3 P2.hf hz.hf
    have P3 : Pos r3.2 := o3.pos (mul_pos P2.toRat_pos hzp)
    -- r4 = r3 + c3 > 0
    obtain ⟨E4, o4⟩ := E3.add_back hw.work h4' hnf4 P3.hf rfl
    exact ⟨E4, o4.pos (by
      simp only [Bool.false_eq_true, if_false]; rw [cbrtC3_toRat]; have := P3.toRat_pos; linarith)⟩
  unfold est at hnf ⊢
  split_ifs at hnf ⊢
  · exact scale decHalf decHalf_pos _ _ h4 hnf
  · exact scale decTwo decTwo_pos _ _ h4 hnf

theorem cbrtC1_nd : ndigits cbrtC1.coeff ≤ 8 := ndigits_le_of_lt_pow _ _ (by decide) (by show 46946116 < 10 ^ 8; norm_num)

theorem pc_eq (z : ℚ) :
    pc z = (z * -(46946116 / 100000000) + 1072302 / 1000000) * z + 3812513 / 10000000 := by unfold pc; ring

/-- after each operation the value is the exact one up to the roundings so far, hence within 0.3 % of it (`Upto.near`),
which gives the decimal range the next operation needs -/
theorem est4_fw (cc : Ctx) (p : Nat) (hw : NCtx cc p) (hp4 : 4 ≤ p) (hp2 : p ≤ 50000)
    (e : ED) (z : Dec) (he : EDg cc e) (hz : Pos z) (hnd : ndigits z.coeff ≤ 99990)
    (hze1 : -100000 + (p : ℤ) ≤ z.exp) (hze2 : -99992 ≤ z.exp)
    (hz1 : 1249 / 10000 ≤ z.toRat) (hz2 : z.toRat ≤ 1) :
    EDg cc (est4 e z).1 ∧ Pos (est4 e z).2 ∧ ndigits (est4 e z).2.coeff ≤ p ∧
    Upto (eps p) 4 (pc z.toRat) (est4 e z).2.toRat := by
  have hε0 := (eps_pos p).le
  have hε := eps_small p hp4
  have hε1 := eps_le_one p hp4
  have hzp := hz.toRat_pos
  have hze3 : z.exp ≤ 0 := by
    have := adj_le hz (k := 1) (by rw [t1]; linarith only [hz2])
    have := ndigits_pos z.coeff
    omega
  have c1e : cbrtC1.exp = -8 := rfl
  have c2e : cbrtC2.exp = -6 := rfl
  have c3e : cbrtC3.exp = -7 := rfl
  rw [pc_eq]
  obtain ⟨Q, hQ⟩ : ∃ Q, Q = z.toRat * -(46946116 / 100000000) + 1072302 / 1000000 := ⟨_, rfl⟩
  have hQ1 : 602 / 1000 ≤ Q := by rw [hQ]; linarith only [hz2]
  have hQ2 : Q ≤ 1072302 / 1000000 := by rw [hQ]; linarith only [hzp]
  rw [← hQ]
  unfold est4
  dsimp only
  -- m1 = z · c1
  have hv1 : |z.toRat * cbrtC1.toRat| = z.toRat * (46946116 / 100000000) := by
    rw [cbrtC1_toRat, abs_of_neg (by linarith only [hzp])]; ring
  have F1 := mulOp_ok cc hw.work hw.traps z cbrtC1 hz.hf rfl hz.h0 (by decide) (by omega) (by omega)
    (by rw [c1e]; norm_num) (by rw [c1e]; norm_num) (by rw [c1e]; omega)
    (by
      have := ndigits_mul_le z.coeff cbrtC1.coeff hz.h0 (by decide)
      have := cbrtC1_nd
      omega)
    (by rw [hv1]; apply widen_hi; rw [t2]; linarith only [hz2])
  obtain ⟨g1, R1⟩ := he.step_ok z (op := fun c => mulOp c z cbrtC1) F1
  generalize e.step z (fun c => mulOp c z cbrtC1) = r1 at g1 R1 ⊢
  rw [cbrtC1_toRat] at R1
  obtain ⟨m1a, m1b, U1⟩ := est_m1 z.toRat r1.2.toRat (eps p) hzp hz2 hε0 hε R1.val
  rw [← hQ] at U1
  have habs1 : |r1.2.toRat| = - r1.2.toRat := abs_of_neg (by linarith only [m1b, hzp])
  obtain ⟨x1, x2⟩ := exp_bounds_abs r1.2 p R1.nd (-2) 0 (by rw [habs1, tm2]; linarith only [m1b, hz1])
    (by rw [habs1, t0]; linarith only [m1a])
  have hS0 : 0 < r1.2.toRat + 1072302 / 1000000 := by linarith only [m1a]
  -- a2 = m1 + c2
  have F2 := addOp_ok cc hw.work hw.traps r1.2 cbrtC2 false R1.fin rfl (by omega) (by omega) (by rw [c2e]; norm_num)
    (by rw [c2e]; norm_num) (by rw [c2e]; omega) (by rw [c2e]; omega) 1 (by norm_num) (by omega) (by rw [c2e]; omega)
    (by
      simp only [Bool.false_eq_true, if_false]
      rw [cbrtC2_toRat, abs_of_pos hS0, t1]; linarith only [m1b, hzp])
  simp only [Bool.false_eq_true, if_false] at F2
  obtain ⟨g2, R2⟩ := g1.step_ok r1.2 (op := fun c => addOp c r1.2 cbrtC2 false) F2
  generalize r1.1.step r1.2 (fun c => addOp c r1.2 cbrtC2 false) = r2 at g2 R2 ⊢
  rw [cbrtC2_toRat] at R2
  have U2 := U1.round_abs hε0 hε1 hS0 R2.val
  obtain ⟨a2a, a2b⟩ := U2.near (by linarith only [hQ1]) (by norm_num) hε0 hε
  have D2 : Dg p r2.2 (-1) 1 :=
    ⟨R2.pos hS0, R2.nd, by rw [tm1]; linarith only [a2a, hQ1], by rw [t1]; linarith only [a2b, hQ2]⟩
  have E2 := D2.exp
  -- m3 = a2 · z
  have Z : Dg (ndigits z.coeff) z (-1) 1 :=
    ⟨hz, le_refl _, by rw [tm1]; linarith only [hz1], by rw [t1]; linarith only [hz2]⟩
  obtain ⟨g3, D3, R3⟩ := Dg.mul_fw (cur := r2.2) hw hp4 g2 D2 Z (by omega)
  generalize r2.1.step r2.2 (fun c => mulOp c r2.2 z) = r3 at g3 D3 R3 ⊢
  have hv3 : 0 < r2.2.toRat * z.toRat := mul_pos D2.pos.toRat_pos hzp
  have U3 := (U2.mul_right hzp.le).round_abs hε0 hε1 hv3 R3.val
  have hv4 : 0 < r3.2.toRat + 3812513 / 10000000 := by linarith only [D3.pos.toRat_pos]
  -- a4 = m3 + c3
  have E3 := D3.exp
  obtain ⟨g4, D4, R4⟩ := Dg.add_fw (cur := r3.2) hw hp4 g3 D3
    (⟨cbrtC3_pos, by decide, by rw [cbrtC3_toRat, tm1]; norm_num, by rw [cbrtC3_toRat, t0]; norm_num⟩ : Dg 7 cbrtC3 (-1) 0)
    3 (by rw [c3e]; omega)
  generalize r3.1.step r3.2 (fun c => addOp c r3.2 cbrtC3 false) = r4 at g4 D4 R4 ⊢
  rw [cbrtC3_toRat] at R4
  exact ⟨g4, D4.pos, D4.nd, (U3.add_right hε0 hε1 (by norm_num)).round_abs hε0 hε1 hv4 R4.val⟩

end Apd.CbrtC
