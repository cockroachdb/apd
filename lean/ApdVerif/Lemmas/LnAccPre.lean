import ApdVerif.Lemmas.LnAccLoops
import ApdVerif.Lemmas.LnAccSum
/-!
# `Ln` before its final rounding: on each path the sum `F = tmp1 + resAdjust` against `ln x`

The final rounding is left to the callers: `Ln` itself rounds `F` in the caller's mode, and `Log10` calls `Ln` in a
wide half-even context.  The two series paths (S0: `|x - 1| ≤ 0.1`; S1: the same for the rescaled `z`) are one
argument with the path's operands as parameters; the Halley path H has the same prologue as S1.  Which path a
delivered call took, and the values it went through, is read off `lnT_shape` (`LnExit`).
-/
namespace Apd.LnAcc
open Apd.ExpAcc Apd.C12IL

theorem lnNc_wide (c : Ctx) (h2 : c.prec + 2 ≤ 100000) : Wide (lnNc c) :=
  ⟨rfl, rfl, by show 1 ≤ c.prec + 2; omega, by show ((c.prec + 2 : ℕ) : ℤ) ≤ 100000; omega⟩

theorem lnSeries_inr_nf (eps tmp2 : Dec) (fuel n : Nat) (e : ED) (t1 t3 : Dec) (e' : ED) (t : Dec)
    (h : lnSeries eps tmp2 fuel n e t1 t3 = some (e', .inr t)) : e.failed = false := by
  cases fuel with
  | zero => simp [lnSeries] at h
  | succ fuel =>
    rw [lnSeries_succ] at h
    by_cases hf : (lR4 tmp2 n e t1 t3).1.failed = true
    · rw [if_pos hf] at h; simp at h
    · have hf' : (lR4 tmp2 n e t1 t3).1.failed = false := by simpa using hf
      exact EDg.nf_back rfl (EDg.nf_back rfl (EDg.nf_back rfl (EDg.nf_back rfl hf')))

theorem lnSeriesN_le (eps tmp2 : Dec) : ∀ (fuel n : Nat) (e : ED) (t1 t3 : Dec),
    lnSeriesN eps tmp2 fuel n e t1 t3 ≤ n + fuel := by
  intro fuel
  induction fuel with
  | zero => intro n e t1 t3; simp [lnSeriesN]
  | succ fuel ih =>
    intro n e t1 t3
    unfold lnSeriesN
    split_ifs
    · omega
    · omega
    · have := ih (n + 1) (lR4 tmp2 n e t1 t3).1 (lR4 tmp2 n e t1 t3).2 (lR2 tmp2 e t3).2
      omega

theorem rv_decTwo : rv decTwo = 2 := by unfold rv Dec.toRat decTwo; simp

/-- the test `|w| ≤ 0.1` that selects the series -/
theorem abs_le_tenth (w : Dec) (hwf : w.form = .finite) (h : w.absD.cmp lnTenth ≤ 0) : |rv w| ≤ 1 / 10 :=
  (abs_rv_le_of_cmp w lnTenth hwf rfl h).trans_eq (by unfold lnTenth; rw [rv_mk]; norm_num)

theorem ser_from_w (c : Ctx) (hc1 : 1 ≤ c.prec) (hc2 : c.prec + 2 ≤ 100000) (ed : ED) (hed : EDg (lnNc c) ed)
    (w : Dec) (hwf : w.form = .finite) (hw10 : |rv w| ≤ 1 / 10) (zr δw : ℝ)
    (hδw : |δw| ≤ uR (c.prec + 2)) (hwz : rv w = (zr - 1) * (1 + δw))
    (e' : ED) (t : Dec) (h : lnSer c ed w = some (e', .inr t)) :
    EDg (lnNc c) e' ∧ t.form = .finite ∧
      |rv t - Real.log zr| ≤ uR (c.prec + 2) * |Real.log zr| * serE (uR (c.prec + 2)) (lnSerN c ed w) := by
  have hw := lnNc_wide c hc2
  have hm : (lnNc c).mode = .halfEven := rfl
  have hp3 : 3 ≤ (lnNc c).prec := by show 3 ≤ c.prec + 2; omega
  have hprec : (lnNc c).prec = c.prec + 2 := rfl
  set u := uR (c.prec + 2) with hu
  have hu1 : u ≤ 1 / 200 := uR_small _ (by omega)
  have hu0 : 0 < u := uR_pos _
  unfold lnSer at h
  unfold lnSerN
  simp only [] at h ⊢
  set b1 := ed.step lnTenth (fun k => addOp k w decTwo false) with hb1
  set b2 := b1.1.step w.absD (fun k => quoOp k w b1.2) with hb2
  set b3 := b2.1.step b1.2 (fun k => addOp k b2.2 b2.2 false) with hb3
  have nf3 := lnSeries_inr_nf _ _ _ _ _ _ _ _ _ h
  have nf2 := EDg.nf_back hb3.symm nf3
  have nf1 := EDg.nf_back hb2.symm nf2
  obtain ⟨E1, p1f, δa, hδa, p1v⟩ := hed.add_real hw hm hb1.symm nf1 hwf rfl
  simp only [Bool.false_eq_true, if_false, rv_decTwo] at p1v
  rw [hprec] at hδa
  have p10 : rv b1.2 ≠ 0 := by
    rw [p1v]
    exact (mul_pos (by linarith only [(abs_le.1 hw10).1]) (by linarith only [(abs_le.1 hδa).1, hu1])).ne'
  obtain ⟨E2, p2f, δq, hδq, p2v⟩ := E1.quo_real hw hm hb2.symm nf2 hwf p1f p10
  rw [hprec] at hδq
  obtain ⟨E3, p3f, δ0, hδ0, p3v⟩ := E2.add_real hw hm hb3.symm nf3 p2f p2f
  simp only [Bool.false_eq_true, if_false] at p3v
  rw [hprec] at hδ0
  obtain ⟨hy18, hL2, hL2abs⟩ := series_arg zr (rv w) (rv b1.2) (rv b2.2) δw δa δq u hu0.le hu1 hδw hδa hδq hwz p1v p2v hw10
  have p3v' : rv b3.2 = 2 * rv b2.2 * (1 + δ0) := by rw [p3v]; ring
  obtain ⟨hT0, hs0⟩ := series_start (rv b2.2) u δ0 hy18 hu1 hδ0
  rw [← p3v'] at hT0 hs0
  have hloop := lnSeries_loop (lnNc c) hw hm hp3 b2.2 p2f hy18 (c.prec + 2 + 10) 0 b3.1 b3.2 b3.2 E3 p3f p3f
    (by rw [hprec]; omega) (by rw [hprec]; exact hT0) (by rw [hprec]; exact_mod_cast hs0) e' t h
  obtain ⟨Ee, tf, tb⟩ := hloop
  rw [hprec] at tb
  refine ⟨Ee, tf, ?_⟩
  have tb' : |rv t - L2 (rv b2.2)| ≤ u * |L2 (rv b2.2)| *
      serG u (lnSeriesN { coeff := 1, exp := -((c.prec + 2 : ℕ) : ℤ) } b2.2 (c.prec + 2 + 10) 1 b3.1 b3.2 b3.2) := tb
  clear tb
  generalize lnSeriesN { coeff := 1, exp := -((c.prec + 2 : ℕ) : ℤ) } b2.2 (c.prec + 2 + 10) 1 b3.1 b3.2 b3.2 = N at tb' ⊢
  have hG0 : 0 ≤ serG u N := by unfold serG; positivity
  have h1 : u * |L2 (rv b2.2)| * serG u N ≤ u * (1017 / 1000 * |Real.log zr|) * serG u N :=
    mul_le_mul_of_nonneg_right (mul_le_mul_of_nonneg_left hL2abs hu0.le) hG0
  unfold serE
  linarith only [abs_sub_le (rv t) (L2 (rv b2.2)) (Real.log zr), tb', h1, hL2]

theorem lnSer_nf (c : Ctx) (ed : ED) (w : Dec) (e' : ED) (t : Dec) (h : lnSer c ed w = some (e', .inr t)) :
    ed.failed = false := by
  unfold lnSer at h
  simp only [] at h
  exact EDg.nf_back rfl (EDg.nf_back rfl (EDg.nf_back rfl (lnSeries_inr_nf _ _ _ _ _ _ _ _ _ h)))

theorem lnSerN_le (c : Ctx) (ed : ED) (w : Dec) : lnSerN c ed w ≤ c.prec + 2 + 11 := by
  unfold lnSerN
  simp only []
  refine le_trans (lnSeriesN_le _ _ _ _ _ _ _) ?_
  omega

theorem lnTermsN_le (c : Ctx) (x : Dec) : lnTermsN c x ≤ c.prec + 2 + 11 := by
  unfold lnTermsN
  split_ifs
  · exact lnSerN_le _ _ _
  · exact lnSerN_le _ _ _
  · omega

theorem lnSerN_budget (c : Ctx) (hc1 : 1 ≤ c.prec) (ed : ED) (w : Dec) :
    ((lnSerN c ed w : ℕ) : ℝ) * uR (c.prec + 2) ≤ 7 / 100 := by
  have h : ((lnSerN c ed w : ℕ) : ℝ) ≤ ((c.prec + 2 + 11 : ℕ) : ℝ) := by exact_mod_cast lnSerN_le c ed w
  exact (mul_le_mul_of_nonneg_right h (uR_pos _).le).trans (budget_u _ (by omega))

theorem lnTapeOK_parts (c : Ctx) (x : Dec) (tape : Tape) (hok : LnTapeOK c x tape = true) :
    PosFin x ∧ 1 ≤ c.prec ∧ c.prec + 2 ≤ 100000 ∧
    (¬ (lnA1 c x).2.absD.cmp lnTenth ≤ 0 → (lnExpDelta x = 0 ∨ c.prec + 2 ≤ 90) ∧
      (¬ (lnA3 c x).2.absD.cmp lnTenth ≤ 0 → ∃ d tape', tape = .est d :: tape' ∧
        lnHalleyOK (lnNc c) ((c.prec : Int) + 1) (10 + (c.prec + 1)) (lnZ x) (10 + (c.prec + 1) + 2)
          (lnA3 c x).1 d {} tape' = true)) := by
  unfold LnTapeOK at hok
  simp only [Bool.and_eq_true, beq_iff_eq, Bool.not_eq_true', bne_iff_ne, ne_eq, decide_eq_true_eq] at hok
  obtain ⟨⟨⟨⟨⟨h1, h2⟩, h3⟩, h4⟩, h5⟩, hrest⟩ := hok
  refine ⟨⟨h1, h2, h3⟩, h4, h5, fun h0 => ?_⟩
  rw [if_neg h0] at hrest
  simp only [Bool.and_eq_true, Bool.or_eq_true, beq_iff_eq, decide_eq_true_eq] at hrest
  refine ⟨hrest.1, fun h1 => ?_⟩
  have hH := hrest.2
  rw [if_neg h1] at hH
  cases tape with
  | nil => simp at hH
  | cons e tape' =>
    cases e with
    | est d => exact ⟨d, tape', rfl, hH⟩
    | cp _ => simp at hH
    | n _ => simp at hH

theorem lnA1_ok (c : Ctx) (hp2 : c.prec + 2 ≤ 100000) (x : Dec) (hx : PosFin x)
    (hnf : (lnA1 c x).1.failed = false) :
    EDg (lnNc c) (lnA1 c x).1 ∧ (lnA1 c x).2.form = .finite ∧
    ∃ δw : ℝ, |δw| ≤ uR (c.prec + 2) ∧ rv (lnA1 c x).2 = (rv x - 1) * (1 + δw) := by
  obtain ⟨E1, wf, δw, hδw, wv⟩ :=
    (EDg.init (lnNc c)).add_real (lnNc_wide c hp2) rfl (rfl : _ = lnA1 c x) hnf hx.fin rfl
  simp only [if_true, rv_decOne] at wv
  exact ⟨E1, wf, δw, hδw, by rw [wv]; ring⟩

/-- `hp90`: the table of `ln 10` is certified for `p ≤ 90` only -/
theorem lnA3_ok (c : Ctx) (hc1 : 1 ≤ c.prec) (hp2 : c.prec + 2 ≤ 100000) (x : Dec) (hx : PosFin x)
    (hp90 : lnExpDelta x = 0 ∨ c.prec + 2 ≤ 90) (hnf : (lnA3 c x).1.failed = false) :
    EDg (lnNc c) (lnA3 c x).1 ∧ (lnA3 c x).2.form = .finite ∧ (lnA2 c x).2.form = .finite ∧
    (∃ δw : ℝ, |δw| ≤ uR (c.prec + 2) ∧ rv (lnA3 c x).2 = (rv (lnZ x) - 1) * (1 + δw)) ∧
    |rv (lnA2 c x).2 - (lnExpDelta x : ℝ) * Real.log 10| ≤
      33142 / 10000 * |(lnExpDelta x : ℝ)| * uR (c.prec + 2) := by
  have hw := lnNc_wide c hp2
  have nf2 := EDg.nf_back (rfl : _ = lnA3 c x) hnf
  obtain ⟨E1, -⟩ := lnA1_ok c hp2 x hx (EDg.nf_back (rfl : _ = lnA2 c x) nf2)
  obtain ⟨E2, Af, δm, hδm, Av⟩ := E1.mul_real hw rfl (rfl : _ = lnA2 c x) nf2 rfl (ln10At_finite _)
  obtain ⟨E3, wf, δw, hδw, wv⟩ := E2.add_real hw rfl (rfl : _ = lnA3 c x) hnf hx.fin rfl
  simp only [if_true, rv_decOne] at wv
  refine ⟨E3, wf, Af, ⟨δw, hδw, by rw [wv]; ring⟩, ?_⟩
  rw [Av, rv_lnRa0]
  rcases hp90 with he0 | h90
  · rw [he0]; simp
  · exact adjust_err _ _ δm _ (uR_pos _).le (uR_small _ (by omega)) hδm (ln10At_near _ (by omega) h90).2

theorem lnSum_ok (c : Ctx) (h2 : c.prec + 2 ≤ 100000) (ed : ED) (hed : EDg (lnNc c) ed)
    (tmp1 resAdjust : Dec) (h1f : tmp1.form = .finite) (hrf : resAdjust.form = .finite)
    (hf : (lnSum ed tmp1 resAdjust).1.failed = false) :
    (lnSum ed tmp1 resAdjust).2.form = .finite ∧
      ∃ δ : ℝ, |δ| ≤ uR (c.prec + 2) ∧ rv (lnSum ed tmp1 resAdjust).2 = (rv tmp1 + rv resAdjust) * (1 + δ) := by
  obtain ⟨-, Ff, δ, hδ, Fv⟩ :=
    hed.add_real (lnNc_wide c h2) rfl (rfl : _ = lnSum ed tmp1 resAdjust) hf h1f hrf
  exact ⟨Ff, δ, hδ, by simpa using Fv⟩

theorem int_zero_or_one_le (n : ℤ) : (n : ℝ) = 0 ∨ 1 ≤ |(n : ℝ)| := by
  by_cases h : n = 0
  · left; exact_mod_cast h
  · right; exact_mod_cast Int.one_le_abs h

theorem ln_sum_ser (c : Ctx) (hc1 : 1 ≤ c.prec) (hp2 : c.prec + 2 ≤ 100000) (ed : ED) (hed : EDg (lnNc c) ed)
    (w A : Dec) (hwf : w.form = .finite) (hAf : A.form = .finite) (h10 : w.absD.cmp lnTenth ≤ 0)
    (zr er R δw : ℝ) (hδw : |δw| ≤ uR (c.prec + 2)) (hwz : rv w = (zr - 1) * (1 + δw))
    (hR : R = Real.log zr + er * Real.log 10) (her : er = 0 ∨ 1 ≤ |er|)
    (hA : |rv A - er * Real.log 10| ≤ 33142 / 10000 * |er| * uR (c.prec + 2))
    (e' : ED) (t : Dec) (hser : lnSer c ed w = some (e', .inr t)) (hf : (lnSum e' t A).1.failed = false) :
    (lnSum e' t A).2.form = .finite ∧
      |rv (lnSum e' t A).2 - R| ≤
        ((lnSerN c ed w : ℕ) + 5 : ℝ) / 16 * (20 * uR (c.prec + 2)) * |rv (lnSum e' t A).2| := by
  have hu0 := (uR_pos (c.prec + 2)).le
  have hu1 : uR (c.prec + 2) ≤ 1 / 200 := uR_small _ (by omega)
  have hw10 := abs_le_tenth w hwf h10
  obtain ⟨ec, tf, tb⟩ := ser_from_w c hc1 hp2 ed hed w hwf hw10 zr δw hδw hwz e' t hser
  obtain ⟨Ff, δf, hδf, Fv⟩ := lnSum_ok c hp2 e' ec t A tf hAf hf
  exact ⟨Ff, series_sum_real zr (rv w) δw R er (rv t) (rv A) _ δf _ _ hu0 hu1
    (lnSerN_budget c hc1 ed w) hδw hwz hw10 hR her tb hA hδf Fv⟩

theorem ln_sum_series (c : Ctx) (x : Dec) (tape r' : Tape) (o : Out)
    (hok : LnTapeOK c x tape = true) (hsp : logSpecials c x = none)
    (hser : (lnA1 c x).2.absD.cmp lnTenth ≤ 0 ∨ (lnA3 c x).2.absD.cmp lnTenth ≤ 0)
    (h : lnT c x tape = some (o, r'))
    (hd : o.err = .none ∨ (o.err = .trap ∧ (o.fl &&& c.traps).any = true)) :
    ∃ F : Dec, F.form = .finite ∧ o.d = (ctxRound c F).1 ∧ NoSys (ctxRound c F).2 ∧
      |rv F - Real.log (rv x)| ≤ ((lnTermsN c x : ℕ) + 5 : ℝ) / 16 * (20 * uR (c.prec + 2)) * |rv F| := by
  obtain ⟨hx, hc1, hp2, hrest⟩ := lnTapeOK_parts c x tape hok
  obtain ⟨hex, hns⟩ := (lnT_shape h).deliv hsp hd
  unfold lnTermsN
  generalize o.d = d at hex ⊢
  generalize o.fl = fl at hex hns
  cases hex with
  | s0 h0 hs hf =>
    rw [if_pos h0]
    obtain ⟨hed, wf, δw, hδw, wv⟩ := lnA1_ok c hp2 x hx (lnSer_nf c _ _ _ _ hs)
    obtain ⟨Ff, hF⟩ := ln_sum_ser c hc1 hp2 _ hed _ decZero wf rfl h0 (rv x) 0 _ δw hδw wv
      (by rw [zero_mul, add_zero]) (Or.inl rfl) (by simp [rv_decZero]) _ _ hs hf
    exact ⟨_, Ff, rfl, noSys_left _ _ (noSys_left _ _ hns), hF⟩
  | s1 h0 h1 hs hf =>
    rw [if_neg h0, if_pos h1]
    obtain ⟨C3, wf, Af, ⟨δw, hδw, wv⟩, hA⟩ := lnA3_ok c hc1 hp2 x hx (hrest h0).1 (lnSer_nf c _ _ _ _ hs)
    obtain ⟨Ff, hF⟩ := ln_sum_ser c hc1 hp2 _ C3 _ _ wf Af h1 (rv (lnZ x)) (lnExpDelta x) _ δw hδw wv
      (log_scale x hx) (int_zero_or_one_le _) hA _ _ hs hf
    exact ⟨_, Ff, rfl, noSys_left _ _ (noSys_left _ _ hns), hF⟩
  | halley h0 h1 => exact (hser.elim h0 h1).elim

theorem lnHalleyOK_nf (nc : Ctx) (prec : Int) (mi : Nat) (z : Dec) (fuel : Nat) (e : ED) (t : Dec) (l : LoopSt)
    (tape : Tape) (h : lnHalleyOK nc prec mi z fuel e t l tape = true) : e.failed = false := by
  cases fuel with
  | zero => simp [lnHalleyOK] at h
  | succ fuel =>
    unfold lnHalleyOK at h
    simp only [Bool.and_eq_true, Bool.not_eq_true'] at h
    exact h.1

theorem ln_sum_halley (c : Ctx) (x : Dec) (tape r' : Tape) (o : Out)
    (hok : LnTapeOK c x tape = true) (hsp : logSpecials c x = none)
    (h0 : ¬ (lnA1 c x).2.absD.cmp lnTenth ≤ 0) (h1 : ¬ (lnA3 c x).2.absD.cmp lnTenth ≤ 0)
    (h : lnT c x tape = some (o, r'))
    (hd : o.err = .none ∨ (o.err = .trap ∧ (o.fl &&& c.traps).any = true))
    (ξb C : ℝ) (hξ : 266 * uR (c.prec + 2) + 23300 * uR (c.prec + 2) ^ 2 ≤ ξb) (hξb : ξb ≤ 2)
    (hC : 10124 / 10000 * (68582 / 10000 + 1005 / 1000 * ξb) ≤ C) :
    ∃ F : Dec, F.form = .finite ∧ o.d = (ctxRound c F).1 ∧ NoSys (ctxRound c F).2 ∧
      |rv F - Real.log (rv x)| ≤ C * uR (c.prec + 2) + 5 / 2 * uR (c.prec + 2) * |rv F| := by
  obtain ⟨hx, hc1, hp2, hrest⟩ := lnTapeOK_parts c x tape hok
  obtain ⟨d, tape', rfl, hOK⟩ := (hrest h0).2 h1
  obtain ⟨hex, hns⟩ := (lnT_shape h).deliv hsp hd
  generalize o.d = od at hex ⊢
  generalize o.fl = fl at hex hns
  cases hex with
  | s0 h0' => exact absurd h0' h0
  | s1 _ h1' => exact absurd h1' h1
  | halley _ _ hH hf =>
    obtain ⟨C3, _, Af, _, hA⟩ := lnA3_ok c hc1 hp2 x hx (hrest h0).1 (lnHalleyOK_nf _ _ _ _ _ _ _ _ _ hOK)
    have hzp := lnZ_posFin x hx
    have hprec : ((c.prec : Int) + 1) = (((lnNc c).prec : ℕ) : Int) - 1 := by
      show ((c.prec : Int) + 1) = ((c.prec + 2 : ℕ) : Int) - 1
      push_cast; ring
    have enf := EDg.nf_back rfl hf
    obtain ⟨ec, tf, t3, tb⟩ := halley_loop (lnNc c) (lnNc_wide c hp2) rfl (by show 3 ≤ c.prec + 2; omega) _ hprec
      (10 + (c.prec + 1)) (lnZ x) hzp.fin hzp.rv_pos _ _ d {} tape' C3.c (by intro hh; simp at hh) hOK _ _ _ hH enf
    obtain ⟨Ff, δf, hδf, Fv⟩ := lnSum_ok c hp2 _ ⟨enf, ec⟩ _ _ tf Af hf
    exact ⟨_, Ff, rfl, noSys_left _ _ (noSys_left _ _ hns), halley_sum_real _ _ (lnExpDelta x) _ _ _ (c.prec + 2)
      (by omega) δf ξb C hξ hξb tb t3 (log_lnZ_abs x hx) (log_scale x hx) hA hδf Fv hC⟩

end Apd.LnAcc
