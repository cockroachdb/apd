import ApdVerif.Lemmas.RoundCoreLemmas
import Mathlib.Tactic.Ring
import Mathlib.Tactic.Linarith
import Mathlib.Tactic.Positivity
import Mathlib.Tactic.FieldSimp
import Mathlib.Tactic.NormNum
import Mathlib.Algebra.Order.Field.Power
import Mathlib.Algebra.Order.Field.Rat
/-!
# The oracle's integer arithmetic read in ℚ

`adjRat` is the floor of the decimal logarithm, the fraction `roundAt` rounds is the value divided by the
quantum, and the truncated quotient has the digit count the quantum was chosen for.  At the end `specRound`
factored through `roundAt`: `specQ`, the quantum it chooses, and `specCore`, what it makes of the rounded
coefficient (`specRound_eq`).
-/
namespace Apd.C20L
open Apd Apd.Oracle

def qval (num den : Nat) (e10 : Int) : ℚ := (num : ℚ) / (den : ℚ) * (10 : ℚ) ^ e10

theorem ten_ne : (10 : ℚ) ≠ 0 := by norm_num
theorem ten_gt : (1 : ℚ) < 10 := by norm_num
theorem ten_ge : (1 : ℚ) ≤ 10 := by norm_num
theorem tp (z : Int) : (0 : ℚ) < (10 : ℚ) ^ z := zpow_pos (by norm_num) z

/-- from a bracket between powers of ten to the exponents (over `ℚ` and `ℝ`) -/
theorem exp_lt {K : Type*} [Field K] [LinearOrder K] [IsStrictOrderedRing K] {v : K} {a k : ℤ}
    (h1 : (10 : K) ^ a ≤ v) (h2 : v < (10 : K) ^ k) : a < k :=
  (zpow_lt_zpow_iff_right₀ (by norm_num)).1 (lt_of_le_of_lt h1 h2)

theorem zpow_toNat (z : Int) (hz : 0 ≤ z) : ((10 ^ z.toNat : ℕ) : ℚ) = (10 : ℚ) ^ z := by
  conv_rhs => rw [← Int.toNat_of_nonneg hz]
  rw [zpow_natCast]; push_cast; rfl

theorem zpow_ofNat (k : ℕ) : ((10 ^ k : ℕ) : ℚ) = (10 : ℚ) ^ (k : Int) := by
  rw [zpow_natCast]; push_cast; rfl

theorem scale_div (num den : Nat) (e10 q : Int) (hd : den ≠ 0) :
    ((scaleNum num (q - e10) : ℕ) : ℚ) / ((scaleDen den (q - e10) : ℕ) : ℚ) = qval num den e10 / (10 : ℚ) ^ q := by
  have hdq : (den : ℚ) ≠ 0 := by exact_mod_cast hd
  unfold scaleNum scaleDen qval
  by_cases h : q - e10 ≥ 0
  · simp only [h, if_true]
    rw [Nat.cast_mul, zpow_toNat _ h, zpow_sub₀ ten_ne]
    have := (tp q).ne'; have := (tp e10).ne'
    field_simp
  · simp only [h, if_false]
    rw [Nat.cast_mul, zpow_toNat _ (by omega), neg_sub, zpow_sub₀ ten_ne]
    have := (tp q).ne'; have := (tp e10).ne'
    field_simp

theorem nat_floor (N D : Nat) (hD : 0 < D) :
    ((N / D : ℕ) : ℚ) ≤ (N : ℚ) / D ∧ (N : ℚ) / D < ((N / D : ℕ) : ℚ) + 1 := by
  have hDq : (0 : ℚ) < D := by exact_mod_cast hD
  constructor
  · rw [le_div_iff₀ hDq]; exact_mod_cast Nat.div_mul_le_self N D
  · rw [div_lt_iff₀ hDq]; exact_mod_cast (Nat.mul_comm D _ ▸ Nat.lt_mul_div_succ N hD)

theorem ndigits_q (n : Nat) (hn : 0 < n) :
    (10 : ℚ) ^ ((ndigits n : Int) - 1) ≤ n ∧ (n : ℚ) < (10 : ℚ) ^ (ndigits n : Int) := by
  obtain ⟨h1, h2⟩ := ndigits_spec n hn
  have hp := ndigits_pos n
  constructor
  · have : ((ndigits n : Int) - 1) = ((ndigits n - 1 : ℕ) : Int) := by omega
    rw [this, ← zpow_ofNat]; exact_mod_cast h1
  · rw [← zpow_ofNat]; exact_mod_cast h2

theorem adjRat_spec (num den : Nat) (hn : 0 < num) (hd : 0 < den) :
    (10 : ℚ) ^ (adjRat num den) ≤ (num : ℚ) / den ∧ (num : ℚ) / den < (10 : ℚ) ^ (adjRat num den + 1) := by
  obtain ⟨n1, n2⟩ := ndigits_q num hn
  obtain ⟨d1, d2⟩ := ndigits_q den hd
  have hdq : (0 : ℚ) < den := by exact_mod_cast hd
  generalize hA : (ndigits num : Int) - (ndigits den : Int) = a0 at *
  -- from the digit counts alone: 10^(a0-1) < num/den < 10^(a0+1)
  have lo : (10 : ℚ) ^ (a0 - 1) < (num : ℚ) / den := by
    rw [lt_div_iff₀ hdq]
    calc (10 : ℚ) ^ (a0 - 1) * den < (10 : ℚ) ^ (a0 - 1) * (10 : ℚ) ^ (ndigits den : Int) :=
          mul_lt_mul_of_pos_left d2 (tp _)
      _ = (10 : ℚ) ^ ((ndigits num : Int) - 1) := by rw [← zpow_add₀ ten_ne]; congr 1; omega
      _ ≤ num := n1
  have hi : (num : ℚ) / den < (10 : ℚ) ^ (a0 + 1) := by
    rw [div_lt_iff₀ hdq]
    calc (num : ℚ) < (10 : ℚ) ^ (ndigits num : Int) := n2
      _ = (10 : ℚ) ^ (a0 + 1) * (10 : ℚ) ^ ((ndigits den : Int) - 1) := by
          rw [← zpow_add₀ ten_ne]; congr 1; omega
      _ ≤ (10 : ℚ) ^ (a0 + 1) * den := mul_le_mul_of_nonneg_left d1 (tp _).le
  -- the comparison `adjRat` makes decides between `a0` and `a0 - 1`
  have test : (if a0 ≥ 0 then decide (num ≥ den * 10 ^ a0.toNat)
        else decide (num * 10 ^ (-a0).toNat ≥ den)) = true ↔ (10 : ℚ) ^ a0 ≤ (num : ℚ) / den := by
    rw [le_div_iff₀ hdq]
    split
    · rename_i h
      rw [decide_eq_true_eq, ← zpow_toNat _ h, mul_comm]
      exact_mod_cast Iff.rfl
    · rename_i h
      rw [decide_eq_true_eq, show a0 = -(-a0) by omega, zpow_neg, ← zpow_toNat _ (by omega : 0 ≤ -a0),
        inv_mul_le_iff₀ (by positivity), mul_comm, neg_neg]
      exact_mod_cast Iff.rfl
  have hadj : adjRat num den =
      if (if a0 ≥ 0 then decide (num ≥ den * 10 ^ a0.toNat)
        else decide (num * 10 ^ (-a0).toNat ≥ den)) = true then a0 else a0 - 1 := by rw [← hA]; rfl
  rw [hadj]
  generalize (if a0 ≥ 0 then decide (num ≥ den * 10 ^ a0.toNat)
        else decide (num * 10 ^ (-a0).toNat ≥ den)) = ge at test
  cases ge
  · rw [if_neg Bool.false_ne_true, sub_add_cancel]
    exact ⟨lo.le, lt_of_not_ge fun h => Bool.false_ne_true (test.2 h)⟩
  · rw [if_pos rfl]
    exact ⟨test.1 rfl, hi⟩

theorem qval_bounds (num den : Nat) (e10 : Int) (hn : num ≠ 0) (hd : den ≠ 0) :
    (10 : ℚ) ^ (adjRat num den + e10) ≤ qval num den e10 ∧
    qval num den e10 < (10 : ℚ) ^ (adjRat num den + e10 + 1) := by
  obtain ⟨h1, h2⟩ := adjRat_spec num den (by omega) (by omega)
  unfold qval
  have hp := tp e10
  constructor
  · rw [zpow_add₀ ten_ne]; exact mul_le_mul_of_nonneg_right h1 hp.le
  · rw [show adjRat num den + e10 + 1 = (adjRat num den + 1) + e10 by ring, zpow_add₀ ten_ne]
    exact mul_lt_mul_of_pos_right h2 hp

theorem floor_lt (num den : Nat) (e10 q : Int) (k : Nat) (hn : num ≠ 0) (hd : den ≠ 0)
    (h : adjRat num den + e10 + 1 - k ≤ q) :
    scaleNum num (q - e10) / scaleDen den (q - e10) < 10 ^ k := by
  obtain ⟨f1, _⟩ := nat_floor (scaleNum num (q - e10)) (scaleDen den (q - e10)) (scaleDen_pos den (Nat.pos_of_ne_zero hd) _)
  rw [scale_div num den e10 q hd] at f1
  obtain ⟨_, b2⟩ := qval_bounds num den e10 hn hd
  have : qval num den e10 / (10 : ℚ) ^ q < (10 : ℚ) ^ (k : Int) := by
    rw [div_lt_iff₀ (tp q), ← zpow_add₀ ten_ne]
    exact lt_of_lt_of_le b2 (zpow_le_zpow_right₀ ten_ge (by omega))
  have : ((scaleNum num (q - e10) / scaleDen den (q - e10) : ℕ) : ℚ) < ((10 ^ k : ℕ) : ℚ) := by
    rw [zpow_ofNat]; linarith
  exact_mod_cast this

theorem floor_ge (num den : Nat) (e10 q : Int) (k : Nat) (hn : num ≠ 0) (hd : den ≠ 0)
    (h : q + k ≤ adjRat num den + e10) :
    10 ^ k ≤ scaleNum num (q - e10) / scaleDen den (q - e10) := by
  obtain ⟨_, f2⟩ := nat_floor (scaleNum num (q - e10)) (scaleDen den (q - e10)) (scaleDen_pos den (Nat.pos_of_ne_zero hd) _)
  rw [scale_div num den e10 q hd] at f2
  obtain ⟨b1, _⟩ := qval_bounds num den e10 hn hd
  have : (10 : ℚ) ^ (k : Int) ≤ qval num den e10 / (10 : ℚ) ^ q := by
    rw [le_div_iff₀ (tp q), ← zpow_add₀ ten_ne]
    exact le_trans (zpow_le_zpow_right₀ ten_ge (by omega)) b1
  have : ((10 ^ k : ℕ) : ℚ) < ((scaleNum num (q - e10) / scaleDen den (q - e10) + 1 : ℕ) : ℚ) := by
    rw [zpow_ofNat]; push_cast; linarith
  have : 10 ^ k < scaleNum num (q - e10) / scaleDen den (q - e10) + 1 := by exact_mod_cast this
  omega

theorem adj_mono (n1 d1 n2 d2 : Nat) (e1 e2 : Int) (h1 : n1 ≠ 0) (hd1 : d1 ≠ 0) (h2 : n2 ≠ 0) (hd2 : d2 ≠ 0)
    (h : qval n1 d1 e1 ≤ qval n2 d2 e2) : adjRat n1 d1 + e1 ≤ adjRat n2 d2 + e2 := by
  have := exp_lt (qval_bounds n1 d1 e1 h1 hd1).1 (lt_of_le_of_lt h (qval_bounds n2 d2 e2 h2 hd2).2)
  omega

/-- overflow test of `specCore` in terms of the rounded value -/
theorem inf_iff (m : Nat) (q emax : Int) :
    (m ≠ 0 ∧ q + (ndigits m : Int) - 1 > emax) ↔ (10 : ℚ) ^ (emax + 1) ≤ (m : ℚ) * (10 : ℚ) ^ q := by
  by_cases hm : m = 0
  · subst hm; simp; exact tp _
  · obtain ⟨a, b⟩ := ndigits_q m (by omega)
    have hq := tp q
    constructor
    · rintro ⟨_, h⟩
      calc (10 : ℚ) ^ (emax + 1) ≤ (10 : ℚ) ^ (((ndigits m : Int) - 1) + q) :=
            zpow_le_zpow_right₀ ten_ge (by omega)
        _ = (10 : ℚ) ^ ((ndigits m : Int) - 1) * (10 : ℚ) ^ q := zpow_add₀ ten_ne _ _
        _ ≤ (m : ℚ) * (10 : ℚ) ^ q := mul_le_mul_of_nonneg_right a hq.le
    · intro h
      refine ⟨hm, ?_⟩
      have := exp_lt h (lt_of_lt_of_eq (mul_lt_mul_of_pos_right b hq) (zpow_add₀ ten_ne _ _).symm)
      omega

/-- the comparison used in C20_round_monotone is the comparison of the rounded values -/
theorem cmp_iff (m1 m2 : Nat) (q1 q2 : Int) :
    (if q1 ≤ q2 then m1 ≤ m2 * 10 ^ (q2 - q1).toNat else m1 * 10 ^ (q1 - q2).toNat ≤ m2) ↔
    (m1 : ℚ) * (10 : ℚ) ^ q1 ≤ (m2 : ℚ) * (10 : ℚ) ^ q2 := by
  split
  · rename_i h
    have e : (10 : ℚ) ^ q2 = ((10 ^ (q2 - q1).toNat : ℕ) : ℚ) * (10 : ℚ) ^ q1 := by
      rw [zpow_toNat _ (by omega), ← zpow_add₀ ten_ne]; congr 1; omega
    rw [e, ← mul_assoc, mul_le_mul_iff_left₀ (tp q1)]
    exact_mod_cast Iff.rfl
  · rename_i h
    have e : (10 : ℚ) ^ q1 = ((10 ^ (q1 - q2).toNat : ℕ) : ℚ) * (10 : ℚ) ^ q2 := by
      rw [zpow_toNat _ (by omega), ← zpow_add₀ ten_ne]; congr 1; omega
    rw [e, ← mul_assoc, mul_le_mul_iff_left₀ (tp q2)]
    exact_mod_cast Iff.rfl

/-- the quantum chosen by `specRound` (mode independent) -/
def specQ (c : Ctx) (v : Exact) : Int :=
  max (adjRat v.num v.den + v.e10 - (c.prec : Int) + 1) (c.emin - (c.prec : Int) + 1)

def specCore (c : Ctx) (v : Exact) (r : Nat × Bool) : SpecOut :=
  if r.1 != 0 && specQ c v + (ndigits r.1 : Int) - 1 > c.emax then
    { inf := true, neg := v.neg, inexact := true,
      subnormal := decide (adjRat v.num v.den + v.e10 < c.emin), overflow := true }
  else { neg := v.neg, m := r.1, q := specQ c v, inexact := r.2,
         subnormal := decide (adjRat v.num v.den + v.e10 < c.emin) }

theorem specRound_eq (c : Ctx) (v : Exact) :
    specRound c v = if v.num == 0 then { neg := v.neg, m := 0, q := v.e10 }
      else specCore c v (roundAt c.mode v.neg v.num v.den v.e10 (specQ c v)) := rfl

theorem specCore_eq_pack (c : Ctx) (v : Exact) (r : Nat × Bool) :
    specCore c v r = specPack c.emax v.neg (decide (adjRat v.num v.den + v.e10 < c.emin)) (specQ c v) r := rfl

theorem specCore_mode (c : Ctx) (m : Mode) (v : Exact) (r : Nat × Bool) :
    specCore { c with mode := m } v r = specCore c v r := rfl

theorem specQ_mode (c : Ctx) (m : Mode) (v : Exact) :
    specQ { c with mode := m } v = specQ c v := rfl

theorem specCore_inf (c : Ctx) (v : Exact) (r : Nat × Bool) :
    (specCore c v r).inf = true ↔ (r.1 ≠ 0 ∧ specQ c v + (ndigits r.1 : Int) - 1 > c.emax) :=
  specPack_inf _ _ _ _ _

theorem specCore_fin (c : Ctx) (v : Exact) (r : Nat × Bool)
    (h : ¬ (r.1 ≠ 0 ∧ specQ c v + (ndigits r.1 : Int) - 1 > c.emax)) :
    (specCore c v r).inf = false ∧ (specCore c v r).m = r.1 ∧ (specCore c v r).q = specQ c v ∧
    (specCore c v r).inexact = r.2 := by
  rw [specCore_eq_pack, specPack_fin _ _ _ _ _ h]
  exact ⟨rfl, rfl, rfl, rfl⟩

theorem specCore_neg_sub (c : Ctx) (v : Exact) (r : Nat × Bool) :
    (specCore c v r).neg = v.neg ∧
    (specCore c v r).subnormal = decide (adjRat v.num v.den + v.e10 < c.emin) := by
  unfold specCore; split <;> exact ⟨rfl, rfl⟩

theorem specCore_of_fin (c : Ctx) (v : Exact) (r : Nat × Bool) (h : (specCore c v r).inf = false) :
    (specCore c v r).m = r.1 ∧ (specCore c v r).q = specQ c v ∧ (specCore c v r).inexact = r.2 :=
  (specCore_fin c v r (by rw [← specCore_inf, h]; exact Bool.false_ne_true)).2

end Apd.C20L
