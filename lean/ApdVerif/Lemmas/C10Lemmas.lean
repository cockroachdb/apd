import ApdVerif.Lemmas.RoundOut
/-!
# Lemmas for C10 (QuoInteger / Rem)

`QuoInteger` and `Rem` on finite operands with a non-zero divisor in terms of `upscale`, and when the rounding that
ends `Rem` is exact (`ctxRound_inexact`, read off `roundOut`).
-/
namespace Apd.C10L
open Apd Apd.Oracle Cond

theorem quoIntegerOp_eq (c : Ctx) (hp : 1 ≤ c.prec) (x y : Dec)
    (hx : x.form = .finite) (hy : y.form = .finite) (hy0 : y.coeff ≠ 0) (a b : Nat) (s : Int)
    (hu : upscale x y = some (a, b, s)) :
    quoIntegerOp c x y =
      if c.prec < ndigits (a / b) then
        { d := { decNaN with neg := (x.neg != y.neg) }, fl := Cond.cDivImpossible,
          err := goError c.traps Cond.cDivImpossible }
      else { d := { form := .finite, neg := (x.neg != y.neg), exp := 0, coeff := a / b } } := by
  unfold quoIntegerOp
  rw [quoSpecials_none c hp x y false hx hy hy0]
  simp only [hu]
  by_cases h : c.prec < ndigits (a / b)
  · have : ((ndigits (a / b) : Nat) : Int) > (c.prec : Int) := by omega
    simp [h, this]
  · have : ¬ ((ndigits (a / b) : Nat) : Int) > (c.prec : Int) := by omega
    simp [h, this]

theorem remOp_eq (c : Ctx) (x y : Dec)
    (hx : x.form = .finite) (hy : y.form = .finite) (hy0 : y.coeff ≠ 0) (a b : Nat) (s : Int)
    (hu : upscale x y = some (a, b, s)) :
    remOp c x y =
      if c.prec < ndigits (a / b) then
        { d := decNaN, fl := Cond.cDivImpossible, err := goError c.traps Cond.cDivImpossible }
      else finish c (ctxRoundFin c { form := .finite, neg := x.neg, exp := s, coeff := a % b }) := by
  unfold remOp
  simp only [shouldSetAsNaN_finite x y hx hy, hx, hy, Dec.isZero, hu]
  by_cases h : c.prec < ndigits (a / b)
  · have : ((ndigits (a / b) : Nat) : Int) > (c.prec : Int) := by omega
    simp [h, this, hy0]
  · have : ¬ ((ndigits (a / b) : Nat) : Int) > (c.prec : Int) := by omega
    simp [h, this, hy0, ctxRound_finite]

theorem noSys_of_delivered (t fl : Cond) (h : Delivered (goError t fl)) : NoSys fl :=
  Apd.noSys_of_delivered t fl h

@[simp] theorem or_inexact (a b : Cond) : (a ||| b).inexact = (a.inexact || b.inexact) := rfl
@[simp] theorem or_sysOverflow (a b : Cond) : (a ||| b).sysOverflow = (a.sysOverflow || b.sysOverflow) := rfl
@[simp] theorem or_sysUnderflow (a b : Cond) : (a ||| b).sysUnderflow = (a.sysUnderflow || b.sysUnderflow) := rfl

theorem ctxRound_inexact (c : Ctx) (hc : c.WF) (d : Dec) (hf : d.form = .finite)
    (hnd : ndigits d.coeff ≤ c.prec) (hns : NoSys (ctxRoundFin c d).2) :
    (ctxRoundFin c d).2.inexact = false ↔
      (d.coeff % 10 ^ (c.emin - (c.prec : Int) + 1 - d.exp).toNat = 0 ∧
        (d.coeff = 0 ∨ d.exp + (ndigits d.coeff : Int) - 1 ≤ c.emax)) := by
  obtain ⟨c1, c2, c3, c4, c5⟩ := hc
  rw [← ctxRound_finite c d hf] at hns ⊢
  rw [ctxRound_eq c c1 c4 (by omega) (by omega) d hf hns]
  exact roundOut_inexact_short c c1 (by omega) d hnd

end Apd.C10L
