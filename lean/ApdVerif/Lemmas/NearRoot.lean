import ApdVerif.Oracle.Roots
import Mathlib.Tactic.Ring
import Mathlib.Tactic.Linarith
import Mathlib.Tactic.NormNum
/-!
# The natural number nearest to a square root, on squares

`Near Y m`: `m` is the natural number nearest to `√Y`, ties to even; at most one `m` is (`Near_unique`).
`choice T Y`: `T` or `T + 1` by the comparison of `(2T+1)²` with `4Y`, which is the decision both `specSqrt`
(`specM_eq_choice`) and `sqrtSettle` make; it is `Near Y` whenever `T - 1/2 < √Y < T + 3/2` (`Near_choice_of`),
in particular for the floor of the root (`Near_choice_floor`).

The theorems of C11 state these facts on a fraction `Y = num/den` with the denominator cleared (`NearN`);
`near_frame`, `choice_frame` and `sq_frame` pass between the two forms.
-/
namespace Apd.C11Q
open Apd.Oracle

def Near (Y : ℚ) (m : ℕ) : Prop :=
  (m = 0 ∨ (2 * (m : ℚ) - 1) ^ 2 ≤ 4 * Y) ∧ 4 * Y ≤ (2 * (m : ℚ) + 1) ^ 2 ∧
  (4 * Y = (2 * (m : ℚ) + 1) ^ 2 → m % 2 = 0) ∧ (m ≠ 0 → (2 * (m : ℚ) - 1) ^ 2 = 4 * Y → m % 2 = 0)

theorem Near_lt_absurd {Y : ℚ} {m1 m2 : ℕ} (h1 : Near Y m1) (h2 : Near Y m2) (hlt : m1 < m2) : False := by
  obtain ⟨-, a2, a3, -⟩ := h1
  obtain ⟨b1, -, -, b4⟩ := h2
  have hm2 : m2 ≠ 0 := by omega
  have b1' : (2 * (m2 : ℚ) - 1) ^ 2 ≤ 4 * Y := by
    rcases b1 with h | h
    · exact absurd h hm2
    · exact h
  -- `4Y ≤ (2·m1+1)² ≤ (2·m2-1)² ≤ 4Y`: the two are neighbours with a tie between them, both even
  have hc : (m1 : ℚ) + 1 ≤ m2 := by exact_mod_cast hlt
  have hm1 : (0 : ℚ) ≤ m1 := Nat.cast_nonneg _
  have hsq : (2 * (m1 : ℚ) + 1) ^ 2 ≤ (2 * (m2 : ℚ) - 1) ^ 2 :=
    pow_le_pow_left₀ (by linarith only [hm1]) (by linarith only [hc]) 2
  have e : (2 * (m1 : ℚ) + 1) ^ 2 = (2 * (m2 : ℚ) - 1) ^ 2 := le_antisymm hsq (b1'.trans a2)
  have e1 : 4 * Y = (2 * (m1 : ℚ) + 1) ^ 2 := le_antisymm a2 (e ▸ b1')
  have p1 := a3 e1
  have p2 := b4 hm2 (e ▸ e1.symm)
  have h := (pow_left_inj₀ (by linarith only [hm1]) (by linarith only [hc, hm1]) two_ne_zero).1 e
  have : (m2 : ℚ) = ((m1 + 1 : ℕ) : ℚ) := by push_cast; linarith only [h]
  have : m2 = m1 + 1 := by exact_mod_cast this
  omega

theorem Near_unique {Y : ℚ} {m1 m2 : ℕ} (h1 : Near Y m1) (h2 : Near Y m2) : m1 = m2 := by
  rcases Nat.lt_trichotomy m1 m2 with h | h | h
  · exact (Near_lt_absurd h1 h2 h).elim
  · exact h
  · exact (Near_lt_absurd h2 h1 h).elim

theorem Near_of_lt {Y : ℚ} {m : ℕ} (a1 : (2 * (m : ℚ) - 1) ^ 2 < 4 * Y) (a2 : 4 * Y < (2 * (m : ℚ) + 1) ^ 2) :
    Near Y m :=
  ⟨Or.inr a1.le, a2.le, fun h => absurd h (ne_of_lt a2), fun _ h => absurd h (ne_of_lt a1)⟩

def choice (T : ℕ) (Y : ℚ) : ℕ :=
  if (2 * (T : ℚ) + 1) ^ 2 < 4 * Y ∨ ((2 * (T : ℚ) + 1) ^ 2 = 4 * Y ∧ T % 2 = 1) then T + 1 else T

theorem choice_cases (T : ℕ) (Y : ℚ) : choice T Y = T ∨ choice T Y = T + 1 := by
  unfold choice; split
  · exact Or.inr rfl
  · exact Or.inl rfl

theorem Near_choice_of (T : ℕ) (Y : ℚ) (F1 : T = 0 ∨ (2 * (T : ℚ) - 1) ^ 2 < 4 * Y)
    (F2 : 4 * Y < (2 * (T : ℚ) + 3) ^ 2) : Near Y (choice T Y) := by
  unfold choice
  split
  · rename_i hc
    have e : (2 * ((T + 1 : ℕ) : ℚ) - 1) = 2 * (T : ℚ) + 1 := by push_cast; ring
    have e' : (2 * ((T + 1 : ℕ) : ℚ) + 1) = 2 * (T : ℚ) + 3 := by push_cast; ring
    refine ⟨Or.inr ?_, ?_, ?_, ?_⟩
    · rw [e]; rcases hc with h | h
      · exact h.le
      · exact h.1.le
    · rw [e']; exact F2.le
    · rw [e']; intro h; exact absurd h (ne_of_lt F2)
    · intro _; rw [e]; intro h
      rcases hc with h' | h'
      · exact absurd h (ne_of_lt h')
      · omega
  · rename_i hc
    have hc' : 4 * Y ≤ (2 * (T : ℚ) + 1) ^ 2 := by
      by_contra hh
      exact hc (Or.inl (not_le.1 hh))
    refine ⟨?_, hc', ?_, ?_⟩
    · rcases F1 with h | h
      · exact Or.inl h
      · exact Or.inr h.le
    · intro h
      by_contra hodd
      exact hc (Or.inr ⟨h.symm, by omega⟩)
    · intro hT h
      rcases F1 with h' | h'
      · exact absurd h' hT
      · exact absurd h (ne_of_lt h')

theorem Near_choice_floor (T : ℕ) (Y : ℚ) (h1 : (T : ℚ) ^ 2 ≤ Y) (h2 : Y < ((T : ℚ) + 1) ^ 2) :
    Near Y (choice T Y) := by
  have hT0 : (0 : ℚ) ≤ T := Nat.cast_nonneg _
  refine Near_choice_of T Y ?_ (by linarith only [h2, hT0])
  rcases Nat.eq_zero_or_pos T with h | h
  · exact Or.inl h
  · have : (1 : ℚ) ≤ T := by exact_mod_cast h
    exact Or.inr (by linarith only [h1, this])

theorem choice_sq_iff (T : ℕ) (Y : ℚ) (h2 : Y < ((T : ℚ) + 1) ^ 2) :
    ((choice T Y : ℕ) : ℚ) ^ 2 = Y ↔ (T : ℚ) ^ 2 = Y := by
  have hT0 : (0 : ℚ) ≤ T := Nat.cast_nonneg _
  unfold choice
  split
  · rename_i hc
    push_cast
    refine ⟨fun h => absurd h (ne_of_gt h2), fun h => ?_⟩
    rcases hc with hc | hc
    · linarith only [hc, h, hT0]
    · linarith only [hc.1, h, hT0]
  · exact Iff.rfl

def NearN (num den m : ℕ) : Prop :=
  ((2 * m - 1) * (2 * m - 1) * den ≤ 4 * num ∨ m = 0) ∧ 4 * num ≤ (2 * m + 1) * (2 * m + 1) * den ∧
  (4 * num = (2 * m + 1) * (2 * m + 1) * den → m % 2 = 0) ∧
  (m ≠ 0 → (2 * m - 1) * (2 * m - 1) * den = 4 * num → m % 2 = 0)

theorem frame_mul {num den : ℕ} {Y : ℚ} (hd : 0 < den) (h : (num : ℚ) / (den : ℚ) = Y) (a : ℕ) :
    ((a * den < 4 * num ↔ (a : ℚ) < 4 * Y) ∧ (4 * num < a * den ↔ 4 * Y < (a : ℚ)) ∧
      (4 * num = a * den ↔ 4 * Y = (a : ℚ))) := by
  have hdq : (0 : ℚ) < den := by exact_mod_cast hd
  have e : 4 * Y = ((4 * num : ℕ) : ℚ) / den := by rw [← h]; push_cast; ring
  rw [e, lt_div_iff₀ hdq, div_lt_iff₀ hdq, div_eq_iff hdq.ne']
  exact ⟨by exact_mod_cast Iff.rfl, by exact_mod_cast Iff.rfl, by exact_mod_cast Iff.rfl⟩

theorem frame_le {num den : ℕ} {Y : ℚ} (hd : 0 < den) (h : (num : ℚ) / (den : ℚ) = Y) (a : ℕ) :
    (a * den ≤ 4 * num ↔ (a : ℚ) ≤ 4 * Y) ∧ (4 * num ≤ a * den ↔ 4 * Y ≤ (a : ℚ)) := by
  obtain ⟨p1, p2, -⟩ := frame_mul hd h a
  exact ⟨not_lt.symm.trans (p2.not.trans not_lt), not_lt.symm.trans (p1.not.trans not_lt)⟩

theorem cast_sq_add (m : ℕ) : (((2 * m + 1) * (2 * m + 1) : ℕ) : ℚ) = (2 * (m : ℚ) + 1) ^ 2 := by
  push_cast; ring

theorem cast_sq_sub (m : ℕ) (hm : m ≠ 0) : (((2 * m - 1) * (2 * m - 1) : ℕ) : ℚ) = (2 * (m : ℚ) - 1) ^ 2 := by
  have : 1 ≤ 2 * m := by omega
  rw [Nat.cast_mul, Nat.cast_sub this]; push_cast; ring

theorem near_frame {num den : ℕ} {Y : ℚ} (hd : 0 < den) (h : (num : ℚ) / (den : ℚ) = Y) (m : ℕ) :
    NearN num den m ↔ Near Y m := by
  obtain ⟨-, -, p3⟩ := frame_mul hd h ((2 * m + 1) * (2 * m + 1))
  obtain ⟨-, p2⟩ := frame_le hd h ((2 * m + 1) * (2 * m + 1))
  rw [cast_sq_add] at p2 p3
  have q : m ≠ 0 → _ := fun hm => by
    have := And.intro (frame_le hd h ((2 * m - 1) * (2 * m - 1))).1 (frame_mul hd h ((2 * m - 1) * (2 * m - 1))).2.2
    rwa [cast_sq_sub m hm] at this
  refine and_congr ?_ (and_congr p2 (and_congr (imp_congr p3 Iff.rfl)
    (forall_congr' fun hm => imp_congr (eq_comm.trans ((q hm).2.trans eq_comm)) Iff.rfl)))
  by_cases hm : m = 0
  · exact iff_of_true (Or.inr hm) (Or.inl hm)
  · exact or_comm.trans (or_congr Iff.rfl (q hm).1)

theorem choice_frame {num den : ℕ} {Y : ℚ} (hd : 0 < den) (h : (num : ℚ) / (den : ℚ) = Y) (T : ℕ) :
    choice T Y = if (2 * T + 1) * (2 * T + 1) * den < 4 * num ∨
        (4 * num = (2 * T + 1) * (2 * T + 1) * den ∧ T % 2 = 1) then T + 1 else T := by
  obtain ⟨p1, -, p3⟩ := frame_mul hd h ((2 * T + 1) * (2 * T + 1))
  rw [cast_sq_add] at p1 p3
  exact if_congr (or_congr p1.symm (and_congr (eq_comm.trans p3.symm) Iff.rfl)) rfl rfl

theorem sq_frame {num den : ℕ} {Y : ℚ} (hd : 0 < den) (h : (num : ℚ) / (den : ℚ) = Y) (m : ℕ) :
    (m * m * den ≤ num ↔ (m : ℚ) ^ 2 ≤ Y) ∧ (num < m * m * den ↔ Y < (m : ℚ) ^ 2) ∧
      (m * m * den = num ↔ (m : ℚ) ^ 2 = Y) := by
  have hdq : (0 : ℚ) < den := by exact_mod_cast hd
  rw [← h, le_div_iff₀ hdq, div_lt_iff₀ hdq, eq_div_iff hdq.ne', pow_two]
  exact ⟨by exact_mod_cast Iff.rfl, by exact_mod_cast Iff.rfl, by exact_mod_cast Iff.rfl⟩

theorem floor_frame {num den : ℕ} {Y : ℚ} (hd : 0 < den) (h : (num : ℚ) / (den : ℚ) = Y) (n : ℕ)
    (h1 : n * n * den ≤ num) (h2 : num < (n + 1) * (n + 1) * den) :
    (n : ℚ) ^ 2 ≤ Y ∧ Y < ((n : ℚ) + 1) ^ 2 := by
  have := (sq_frame hd h (n + 1)).2.1.1 h2
  push_cast at this
  exact ⟨(sq_frame hd h n).1.1 h1, this⟩

/-- the coefficient `specSqrt` computes from the floor `n` of the root is `choice n` -/
theorem specM_eq_choice (n num den : ℕ) (hd : 0 < den) :
    (if (n * n * den == num) = true then n
      else if specAddOne .halfEven n false (compare (4 * num) ((2 * n + 1) * (2 * n + 1) * den)) = true then n + 1
      else n) = choice n ((num : ℚ) / den) := by
  rw [choice_frame hd rfl]
  have e1 : (2 * n + 1) * (2 * n + 1) * den = 4 * (n * n * den) + 4 * (n * den) + den := by ring
  by_cases he : n * n * den = num
  · rw [if_pos (by simpa using he), if_neg (by omega)]
  · rw [if_neg (by simpa using he)]
    rcases Nat.lt_trichotomy (4 * num) ((2 * n + 1) * (2 * n + 1) * den) with hlt | heq | hgt
    · rw [compare_lt_iff_lt.mpr hlt, if_neg (by simp [specAddOne]), if_neg (by omega)]
    · rw [compare_eq_iff_eq.mpr heq]
      by_cases hp : n % 2 = 1
      · rw [if_pos (by simp [specAddOne, hp]), if_pos (Or.inr ⟨heq, hp⟩)]
      · rw [if_neg (by simp [specAddOne, hp]), if_neg (by omega)]
    · rw [compare_gt_iff_gt.mpr hgt, if_pos (by simp [specAddOne]), if_pos (Or.inl hgt)]

end Apd.C11Q
