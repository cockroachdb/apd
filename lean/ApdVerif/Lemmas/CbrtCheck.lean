import ApdVerif.Lemmas.CbrtTail
/-!
# `Context.Cbrt`: the exactness re-check

The re-check cubes a result of at most `P` digits under a context of `3P` digits: neither product is ever rounded, so
each multiplication delivers the exact product with no flag or hits a package limit, and which of the two is decided by
the exponents alone.  `mul_small`: a product that fits the precision returns no error iff the exponents are inside the
window `MulWin`, and is then the exact record.  `recheck_iff`: the re-check does not fail iff the cube is inside
`CubeWin`, and its value is then the cube, digit for digit.
-/
namespace Apd.CbrtC
open Apd.CbrtL Apd.CbrtT

theorem nc3_nctx (c : Ctx) (h1 : 1 ≤ c.prec * 3) (h3 : c.prec * 3 ≤ 100000) :
    NCtx (nc3 c) (c.prec * 3) :=
  ⟨⟨rfl, ⟨rfl, rfl, h1, Int.ofNat_le.2 h3⟩, Or.inl rfl⟩, rfl⟩

theorem mul_small (cc : Ctx) (p : Nat) (hw : NCtx cc p)
    (x y : Dec) (hx : x.form = .finite) (hy : y.form = .finite) (hnd : ndigits (x.coeff * y.coeff) ≤ p) :
    ((mulOp cc x y).err = .none ↔ MulWin x y) ∧ (MulWin x y → mulOp cc x y = { d := x.prod y }) := by
  have hemin : cc.emin = -100000 := hw.work.wide.emin
  have hemax : cc.emax = 100000 := hw.work.wide.emax
  have hp1 : 1 ≤ cc.prec := hw.work.wide.prec1
  have fw := Props.mulOp_exact cc hp1 hemin hemax x y hx hy (hw.work.hp ▸ hnd)
  refine ⟨⟨fun he => ?_, fun h => by rw [fw h]⟩, fw⟩
  -- no error: no system flag, so `setExponent` and `Round` have seen the exponents
  exact (Props.mulOp_noSys_inv cc hemin hemax (by omega) x y hx hy
    (ExpAcc.noSys_of_none _ _ (ExpAcc.mulOp_err cc x y hx hy ▸ he))).1

theorem cube_digits (cf P : ℕ) (hP : 1 ≤ P) (h : ndigits cf ≤ P) :
    ndigits (cf * cf) ≤ P * 3 ∧ ndigits (cf * cf * cf) ≤ P * 3 := by
  have hC : cf < 10 ^ P := lt_pow_of_ndigits_le _ _ h
  constructor
  · apply ndigits_le_of_lt_pow _ _ (by omega)
    calc cf * cf < 10 ^ P * 10 ^ P := Nat.mul_lt_mul'' hC hC
      _ = 10 ^ (P * 2) := by rw [← Nat.pow_add]; congr 1; omega
      _ ≤ 10 ^ (P * 3) := Nat.pow_le_pow_right (by decide) (by omega)
  · apply ndigits_le_of_lt_pow _ _ (by omega)
    calc cf * cf * cf < 10 ^ P * 10 ^ P * 10 ^ P := Nat.mul_lt_mul'' (Nat.mul_lt_mul'' hC hC) hC
      _ = 10 ^ (P * 3) := by rw [← Nat.pow_add, ← Nat.pow_add]; congr 1; omega

/-- the cube of a decimal stays inside the package limits -/
def CubeWin (d : Dec) : Prop :=
  -100000 ≤ 3 * d.exp ∧ 3 * d.exp + (ndigits (d.coeff * d.coeff * d.coeff) : ℤ) - 1 ≤ 100000

/-- the windows of the two products of the cube of a decimal of at most `P` digits: the exponent of such a decimal is
then within `100000/3 + 3P` of zero, and the square has no more digits than the cube -/
theorem CubeWin.mulWin {d : Dec} (P : ℕ) (hP : 1 ≤ P) (hP3 : P * 3 ≤ 100000) (hdn : ndigits d.coeff ≤ P)
    (h : CubeWin d) :
    MulWin d d ∧ MulWin (d.prod d) d := by
  obtain ⟨h1, h2⟩ := h
  obtain ⟨m1, m2⟩ := cube_digits d.coeff P hP hdn
  have n1 := ndigits_pos (d.coeff * d.coeff)
  have n2 := ndigits_pos (d.coeff * d.coeff * d.coeff)
  have hmono : ndigits (d.coeff * d.coeff) ≤ ndigits (d.coeff * d.coeff * d.coeff) := by
    rcases Nat.eq_zero_or_pos d.coeff with h0 | h0
    · rw [h0]
    · have := ndigits_mul_ge (d.coeff * d.coeff) d.coeff (Nat.mul_pos h0 h0) h0
      have := ndigits_pos d.coeff
      omega
  rw [MulWin, MulWin, Dec.prod_exp, Dec.prod_coeff]
  exact ⟨⟨⟨by omega, by omega⟩, ⟨by omega, by omega⟩, by omega, by omega⟩,
    ⟨by omega, by omega⟩, ⟨by omega, by omega⟩, by omega, by omega⟩

theorem recheck_iff (c : Ctx) (hP1 : 1 ≤ c.prec) (hP3 : c.prec * 3 ≤ 100000) (fl0 : Cond) (z d : Dec)
    (hd : d.form = .finite) (hdn : ndigits d.coeff ≤ c.prec) :
    ((recheck c fl0 z d).1.failed = false ↔ goError defaultTraps fl0 = .none ∧ CubeWin d) ∧
    ((recheck c fl0 z d).1.failed = false → (recheck c fl0 z d).2 =
      { form := .finite, neg := (d.neg != d.neg) != d.neg, exp := d.exp + d.exp + d.exp,
        coeff := d.coeff * d.coeff * d.coeff }) := by
  have hw := nc3_nctx c (by omega) hP3
  obtain ⟨hm1, hm2⟩ := cube_digits d.coeff c.prec hP1 hdn
  obtain ⟨i1, x1⟩ := mul_small _ _ hw d d hd hd hm1
  obtain ⟨i2, x2⟩ := mul_small _ _ hw (d.prod d) d rfl hd hm2
  -- backwards: both products returned no error
  have back : (recheck c fl0 z d).1.failed = false →
      (goError defaultTraps fl0 = .none ∧ CubeWin d) ∧ (recheck c fl0 z d).2 =
        { form := .finite, neg := (d.neg != d.neg) != d.neg, exp := d.exp + d.exp + d.exp,
          coeff := d.coeff * d.coeff * d.coeff } := by
    intro hnf
    unfold recheck at hnf ⊢
    dsimp only at hnf ⊢
    generalize h1' : ({ c := nc3 c, fl := fl0, err := .none } : ED).step z
      (fun cc => mulOp cc d d) = q1 at hnf ⊢
    generalize h2' : q1.1.step q1.2 (fun cc => mulOp cc q1.2 d) = q2 at hnf ⊢
    have f1 := (ED.step_back_at rfl h2' hnf).1
    have f0 := (ED.step_back_at rfl h1' f1).1
    obtain ⟨g1, v1, E1⟩ := EDg.step_back ⟨f0, rfl⟩ h1' f1
    obtain ⟨g2, v2, -⟩ := E1.step_back h2' hnf
    have W1 := i1.1 g1
    have v1' : q1.2 = _ := v1.trans (congrArg Out.d (x1 W1))
    rw [v1'] at g2 v2
    have W2 := i2.1 g2
    rw [v2, x2 W2]
    obtain ⟨-, -, w1, w2⟩ := W2
    rw [Dec.prod_exp] at w1 w2
    exact ⟨⟨((ED.failed_false_iff _).1 f0).2, by omega, by rw [Dec.prod_coeff] at w2; omega⟩, rfl⟩
  refine ⟨⟨fun h => (back h).1, fun ⟨hfl0, hW⟩ => ?_⟩, fun h => (back h).2⟩
  -- forwards: inside the window both products are exact and raise nothing
  obtain ⟨W1, W2⟩ := hW.mulWin c.prec hP1 hP3 hdn
  unfold recheck
  dsimp only
  have he0 : EDg (nc3 c) ({ c := nc3 c, fl := fl0, err := .none } : ED) :=
    ⟨(ED.failed_false_iff _).2 ⟨rfl, hfl0⟩, rfl⟩
  obtain ⟨g1, v1⟩ := he0.step_fw z (op := fun cc => mulOp cc d d) (by rw [x1 W1])
    (by rw [x1 W1]; exact goError_noFlags _)
  generalize ({ c := nc3 c, fl := fl0, err := .none } : ED).step z
    (fun cc => mulOp cc d d) = q1 at g1 v1 ⊢
  rw [x1 W1] at v1
  dsimp only at v1
  rw [v1]
  exact (g1.step_fw _ (op := fun cc => mulOp cc _ d) (by rw [x2 W2]) (by rw [x2 W2]; exact goError_noFlags _)).1.nf

end Apd.CbrtC
