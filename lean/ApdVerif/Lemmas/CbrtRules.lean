import ApdVerif.Lemmas.CbrtShape
import ApdVerif.Props.C11CbrtObs
/-!
# `Context.Cbrt`: the prefix of `cbrtOp` as its three loops in sequence, and what it has done when it returns

`cbrtPrefix_eq`: past the special values the prefix is the two scaling loops, the estimate and the Newton loop, each
with its three exits.  `prefix_some`, `cbrtOp_some`: a call that returned left with `failOut` of a real error (the error
exits of `Lemmas/ErrExits.lean`) or ran all three loops to their normal exits; what is known there is read off the
rules of the loops (`scaleLoop_rule`, `mulN_rule`, `cbrtIter_rule`, also in `Lemmas/ErrExits.lean`).
-/
namespace Apd.CbrtL

theorem cbrtPrefix_eq (c : Ctx) (x : Dec) (h : rootSpecials c x 3 = none) :
    cbrtPrefix c x =
      match scaleLoop (fun z => decide (z.cmp decOneEighth < 0)) decEight 400000 { c := nc c } x.absD 0 with
      | none => none
      | some (.inl er) => some (.inl (failOut er))
      | some (.inr (ed1, z1, down)) =>
      match scaleLoop (fun z => decide (z.cmp decOne > 0)) decOneEighth 400000 ed1 z1 0 with
      | none => none
      | some (.inl er) => some (.inl (failOut er))
      | some (.inr (ed2, z2, up)) =>
      match cbrtIter (nc c) ((c.prec : Int) + 1) (10 + (c.prec + 1)) x.absD (10 + (c.prec + 1) + 2)
          (est ed2 z2 down up).1 (est ed2 z2 down up).2 {} with
      | none => none
      | some (.inl er) => some (.inl (failOut er))
      | some (.inr z) => some (.inr ((est ed2 z2 down up).1.fl, z)) := by
  unfold cbrtPrefix est est4 nc
  rw [h]
  dsimp only
  generalize scaleLoop (fun z => decide (z.cmp decOneEighth < 0)) decEight 400000 _ _ 0 = r1
  rcases r1 with _ | er | ⟨ed1, z1, down⟩
  · rfl
  · rfl
  dsimp only
  generalize scaleLoop (fun z => decide (z.cmp decOne > 0)) decOneEighth 400000 ed1 z1 0 = r2
  rcases r2 with _ | er | ⟨ed2, z2, up⟩
  · rfl
  · rfl
  dsimp only
  generalize cbrtIter _ _ _ _ _ _ _ _ = r3
  rcases r3 with _ | er | z <;> rfl

theorem prefix_some (c : Ctx) (x : Dec) (s : Sum Out (Cond × Dec)) (h : rootSpecials c x 3 = none)
    (hs : cbrtPrefix c x = some s) :
    (∃ er, er ≠ .none ∧ s = .inl (failOut er)) ∨
    ∃ ed1 z1 down ed2 z2 up zf,
      scaleLoop (fun z => z.cmp decOneEighth < 0) decEight 400000 { c := nc c } x.absD 0 = some (.inr (ed1, z1, down)) ∧
      scaleLoop (fun z => z.cmp decOne > 0) decOneEighth 400000 ed1 z1 0 = some (.inr (ed2, z2, up)) ∧
      cbrtIter (nc c) ((c.prec : Int) + 1) (10 + (c.prec + 1)) x.absD (10 + (c.prec + 1) + 2)
            (est ed2 z2 down up).1 (est ed2 z2 down up).2 {} = some (.inr zf) ∧
      s = .inr ((est ed2 z2 down up).1.fl, zf) := by
  rw [cbrtPrefix_eq c x h] at hs
  rcases h1 : scaleLoop (fun z => decide (z.cmp decOneEighth < 0)) decEight 400000 { c := nc c } x.absD 0 with
    _ | er | ⟨ed1, z1, down⟩ <;> rw [h1] at hs <;> dsimp only at hs
  · cases hs
  · cases hs; exact Or.inl ⟨er, scaleLoop_inl_ne _ _ _ _ _ _ h1, rfl⟩
  rcases h2 : scaleLoop (fun z => decide (z.cmp decOne > 0)) decOneEighth 400000 ed1 z1 0 with
    _ | er | ⟨ed2, z2, up⟩ <;> rw [h2] at hs <;> dsimp only at hs
  · cases hs
  · cases hs; exact Or.inl ⟨er, scaleLoop_inl_ne _ _ _ _ _ _ h2, rfl⟩
  rcases h3 : cbrtIter (nc c) ((c.prec : Int) + 1) (10 + (c.prec + 1)) x.absD (10 + (c.prec + 1) + 2)
      (est ed2 z2 down up).1 (est ed2 z2 down up).2 {} with _ | er | zf <;> rw [h3] at hs <;> cases hs
  · exact Or.inl ⟨er, cbrtIter_inl_ne _ _ _ _ _ _ _ _ h3, rfl⟩
  · exact Or.inr ⟨ed1, z1, down, ed2, z2, up, zf, rfl, h2, h3, rfl⟩

theorem cbrtOp_some (c : Ctx) (x : Dec) (o : Out) (h : rootSpecials c x 3 = none) (ho : cbrtOp c x = some o) :
    (∃ er, er ≠ .none ∧ o = failOut er) ∨
    ∃ ed1 z1 down ed2 z2 up zf,
      scaleLoop (fun z => z.cmp decOneEighth < 0) decEight 400000 { c := nc c } x.absD 0 = some (.inr (ed1, z1, down)) ∧
      scaleLoop (fun z => z.cmp decOne > 0) decOneEighth 400000 ed1 z1 0 = some (.inr (ed2, z2, up)) ∧
      cbrtIter (nc c) ((c.prec : Int) + 1) (10 + (c.prec + 1)) x.absD (10 + (c.prec + 1) + 2)
            (est ed2 z2 down up).1 (est ed2 z2 down up).2 {} = some (.inr zf) ∧
      o = tail c x (est ed2 z2 down up).1.fl zf := by
  rw [Props.C11_cbrt_obs_factor, Option.map_eq_some_iff] at ho
  obtain ⟨s, hs, rfl⟩ := ho
  rcases prefix_some c x s h hs with ⟨er, he, rfl⟩ | ⟨ed1, z1, down, ed2, z2, up, zf, h1, h2, h3, rfl⟩
  · exact Or.inl ⟨er, he, rfl⟩
  · exact Or.inr ⟨ed1, z1, down, ed2, z2, up, zf, h1, h2, h3, rfl⟩

end Apd.CbrtL
