import ApdVerif.Lemmas.ExpAccMath
import ApdVerif.Lemmas.RelErr
import ApdVerif.Props.Rational
/-!
# The real value of a decimal and the unit roundoffs of the working precisions of `Exp`, `Ln` and `Log10`

`rv d` is the value of `d` in `ℝ`; `uR p = 10^(1-p)/2` is the relative error of one operation rounded to nearest at
`p` digits, `uL p = uR p/(1 - uR p)` the same on the log scale.
-/
namespace Apd.ExpAcc
open Apd.Oracle

noncomputable def rv (d : Dec) : ℝ := ((d.toRat : ℚ) : ℝ)

noncomputable def uR (p : Nat) : ℝ := (10 : ℝ) ^ (1 - (p : ℤ)) / 2

theorem ten_ne : (10 : ℝ) ≠ 0 := by norm_num

theorem uR_cast (p : Nat) : ((5 * (10 : ℚ) ^ (-(p : ℤ)) : ℚ) : ℝ) = uR p := by
  unfold uR
  rw [show (1 : ℤ) - (p : ℤ) = 1 + -(p : ℤ) by ring, zpow_add₀ ten_ne]
  push_cast; ring

theorem uR_pos (p : Nat) : 0 < uR p := by unfold uR; positivity

theorem uR_eq (p : Nat) : uR p = 5 / (10 : ℝ) ^ p := by
  unfold uR
  rw [zpow_sub₀ ten_ne, zpow_one, zpow_natCast]
  ring

theorem uR_small (p : Nat) (hp : 3 ≤ p) : uR p ≤ 1 / 200 := by
  rw [uR_eq]
  have : (10 : ℝ) ^ 3 ≤ (10 : ℝ) ^ p := pow_le_pow_right₀ (by norm_num) hp
  rw [div_le_div_iff₀ (by positivity) (by norm_num)]
  nlinarith

noncomputable def uL (p : Nat) : ℝ := uR p / (1 - uR p)

theorem rv_eq_zero_iff (d : Dec) : rv d = 0 ↔ d.coeff = 0 := by
  have hs : (if d.neg then (-1 : ℚ) else 1) ≠ 0 := by split_ifs <;> norm_num
  rw [rv, Rat.cast_eq_zero, Dec.toRat, mul_eq_zero, mul_eq_zero, Nat.cast_eq_zero]
  exact ⟨fun h => (h.resolve_right (zpow_pos (by norm_num) _).ne').resolve_left hs, fun h => Or.inl (Or.inr h)⟩

theorem absD_toRat (x : Dec) : x.absD.toRat = |x.toRat| := by
  rw [abs_toRat]; unfold Dec.absD Dec.toRat; simp

theorem abs_rv (d : Dec) : |rv d| = (d.coeff : ℝ) * (10 : ℝ) ^ d.exp := by
  unfold rv; rw [← Rat.cast_abs, abs_toRat]; simp

theorem rv_pos_of_not_neg (x : Dec) (hx0 : x.coeff ≠ 0) (h : x.neg = false) : 0 < rv x := by
  have h1 : |rv x| = rv x := by
    rw [abs_rv]; unfold rv Dec.toRat; rw [h]; push_cast; simp
  rw [← h1]; exact abs_pos.2 fun h0 => hx0 ((rv_eq_zero_iff x).1 h0)

theorem abs_rv_isAdj (d : Dec) (h0 : d.coeff ≠ 0) :
    (10 : ℝ) ^ ((ndigits d.coeff : ℤ) - 1 + d.exp) ≤ |rv d| ∧ |rv d| < (10 : ℝ) ^ ((ndigits d.coeff : ℤ) + d.exp) := by
  have h := abs_toRat_isAdj d (Nat.pos_of_ne_zero h0)
  rw [IsAdj, sub_add_cancel, add_comm d.exp, add_sub_right_comm] at h
  have h1 := (Rat.cast_le (K := ℝ)).2 h.1
  have h2 := (Rat.cast_lt (K := ℝ)).2 h.2
  push_cast at h1 h2
  exact ⟨h1, h2⟩

theorem rv_mk (n : ℕ) (e : ℤ) : rv { coeff := n, exp := e } = (n : ℝ) * (10 : ℝ) ^ e := by
  unfold rv Dec.toRat; simp

theorem rv_natDec (n : ℕ) : rv { coeff := n } = (n : ℝ) := by
  rw [show ({ coeff := n } : Dec) = { coeff := n, exp := 0 } from rfl, rv_mk, zpow_zero, mul_one]

theorem rv_decOne : rv decOne = 1 := by
  unfold rv Dec.toRat decOne; simp

theorem rv_decZero : rv decZero = 0 := by unfold rv Dec.toRat decZero; simp

end Apd.ExpAcc

namespace Apd.LnAcc
open Apd.ExpAcc

theorem uR_pow (P : Nat) : uR (P + 2) * (10 : ℝ) ^ P = 1 / 20 := by
  rw [uR_eq, pow_add]
  have : (0 : ℝ) < (10 : ℝ) ^ P := by positivity
  field_simp; norm_num

theorem uR_prec (P : Nat) : uR (P + 2) = (10 : ℝ) ^ (-(P : ℤ) - 1) / 2 := by
  unfold uR; congr 2; push_cast; ring

theorem uR_add_two (p : Nat) : uR (p + 2) = uR p / 100 := by
  rw [uR_eq, uR_eq, pow_add]; field_simp; ring

theorem uR_lt_one (p : Nat) (hp : 1 ≤ p) : uR p < 1 := by
  rw [uR_eq, div_lt_one (by positivity)]
  have : (10 : ℝ) ^ 1 ≤ (10 : ℝ) ^ p := pow_le_pow_right₀ (by norm_num) hp
  linarith

theorem uR_le_uL (p : Nat) (hp : 1 ≤ p) : uR p ≤ uL p := le_v (uR_pos p).le (uR_lt_one p hp)

end Apd.LnAcc
