import ApdVerif.Spec.Agrees
import ApdVerif.Lemmas.Digits
import ApdVerif.Lemmas.Flags
/-!
# `setExponent` by regime, the oracle's rounding of a fraction, and `Rounder.Round` as one equation

`setExponent` is entered through `setExponent_noSys` (no system flag: the summands and the adjusted exponent are inside
the package limits), then read by regime.  `roundQuot` is the oracle's `roundAt` with the power of ten on one side of
the fraction; `roundStep` relates the one rounding step (divide, maybe add one, renormalise a carry) of
`Rounder.Round`, `Quo` and `quantize` to it.  Core Lean only: `Lemmas/RoundOut` and, on it, `Lemmas/C09Lemmas` and
`Lemmas/C10Lemmas` state their results without Mathlib in scope.
-/
namespace Apd
open Apd Apd.Oracle Cond

/-- none of the flags that `FlagsOK` constrains is set -/
def Benign (fl : Cond) : Prop :=
  fl.inexact = false ∧ fl.subnormal = false ∧ fl.underflow = false ∧ fl.overflow = false ∧
  fl.divUndefined = false ∧ fl.divByZero = false ∧ fl.divImpossible = false ∧ fl.invalidOp = false

theorem benign_empty : Benign {} := ⟨rfl, rfl, rfl, rfl, rfl, rfl, rfl, rfl⟩

theorem benign_or {a b : Cond} (ha : Benign a) (hb : Benign b) : Benign (a ||| b) := by
  obtain ⟨a1, a2, a3, a4, a5, a6, a7, a8⟩ := ha
  obtain ⟨b1, b2, b3, b4, b5, b6, b7, b8⟩ := hb
  simp [Benign, *]

/-- as `Benign`, but Subnormal may be set: what `Rounder.Round` passes to `setExponent` below `emin` -/
def Quiet (res : Cond) : Prop :=
  res.inexact = false ∧ res.underflow = false ∧ res.overflow = false ∧ res.divUndefined = false ∧
  res.divByZero = false ∧ res.divImpossible = false ∧ res.invalidOp = false

/-- only Rounded, and Inexact exactly when `inex`: what `Rounder.Round` and `Quo` pass to `setExponent`
after they have divided the coefficient -/
def RoundedOnly (res : Cond) (inex : Bool) : Prop :=
  res.inexact = inex ∧ (inex = true → res.rounded = true) ∧ res.subnormal = false ∧ res.underflow = false ∧
  res.overflow = false ∧ res.divUndefined = false ∧ res.divByZero = false ∧ res.divImpossible = false ∧
  res.invalidOp = false

theorem roundedOnly_round (b : Bool) : RoundedOnly (if b = true then cRounded ||| cInexact else cRounded) b := by
  cases b <;> exact ⟨rfl, fun _ => rfl, rfl, rfl, rfl, rfl, rfl, rfl, rfl⟩

theorem roundedOnly_quo (b : Bool) : RoundedOnly (if b = true then cInexact ||| cRounded else {}) b := by
  cases b
  · exact ⟨rfl, nofun, rfl, rfl, rfl, rfl, rfl, rfl, rfl⟩
  · exact ⟨rfl, fun _ => rfl, rfl, rfl, rfl, rfl, rfl, rfl, rfl⟩

theorem r05_aux (n : Nat) : (decide (n % 5 = 0) || n % 10 == 0) = (n % 10 == 0 || n % 10 == 5) := by
  rw [Bool.eq_iff_iff]; simp; omega

theorem cmpNat_eq (a b : Nat) : cmpNat a b = match compare a b with | .lt => -1 | .eq => 0 | .gt => 1 := by
  unfold cmpNat
  rcases Nat.lt_trichotomy a b with h | h | h
  · rw [if_pos h, Nat.compare_eq_lt.2 h]
  · subst h; rw [if_neg (Nat.lt_irrefl a), if_neg (Nat.lt_irrefl a), Nat.compare_eq_eq.2 rfl]
  · rw [if_neg (Nat.lt_asymm h), if_pos h, Nat.compare_eq_gt.2 h]

theorem shouldAddOne_eq_spec (m : Mode) (n : Nat) (neg : Bool) (a b : Nat) :
    shouldAddOne m n neg (cmpNat a b) = specAddOne m n neg (compare a b) := by
  rw [cmpNat_eq]
  cases compare a b <;> cases m <;> first | rfl | simp [shouldAddOne, specAddOne, r05_aux]

theorem shouldSetAsNaN_finite (x y : Dec) (hx : x.form = .finite) (hy : y.form = .finite) :
    shouldSetAsNaN x (some y) = false := by
  simp [shouldSetAsNaN, Dec.isNaN, hx, hy]

theorem notNaN_of_finite (x : Dec) (hx : x.form = .finite) : shouldSetAsNaN x none = false := by
  simp [shouldSetAsNaN, Dec.isNaN, hx]

theorem quoSpecials_none (c : Ctx) (hp : 1 ≤ c.prec) (x y : Dec) (b : Bool)
    (hx : x.form = .finite) (hy : y.form = .finite) (hy0 : y.coeff ≠ 0) :
    quoSpecials c x y b = none := by
  have hp' : c.prec ≠ 0 := by omega
  simp [quoSpecials, shouldSetAsNaN_finite x y hx hy, hx, hy, Dec.isZero, hy0, hp']

theorem upscale_eq (x y : Dec)
    (hgap : x.exp - y.exp ≤ 100000 ∧ y.exp - x.exp ≤ 100000) :
    upscale x y = some (x.coeff * 10 ^ (x.exp - min x.exp y.exp).toNat,
                        y.coeff * 10 ^ (y.exp - min x.exp y.exp).toNat, min x.exp y.exp) := by
  unfold upscale MaxExponent
  simp only [beq_iff_eq]
  by_cases h1 : x.exp = y.exp
  · simp [h1]
  · by_cases h2 : x.exp < y.exp
    · have hm : min x.exp y.exp = x.exp := by omega
      have h3 : ¬ (y.exp - x.exp > 100000) := by omega
      simp [h1, h2, hm, h3]
    · have hm : min x.exp y.exp = y.exp := by omega
      have h3 : ¬ (x.exp - y.exp > 100000) := by omega
      simp [h1, h2, hm, h3]

theorem upscale_some (x y : Dec) (a b : Nat) (s : Int) (h : upscale x y = some (a, b, s)) :
    s = min x.exp y.exp ∧ a = x.coeff * 10 ^ (x.exp - min x.exp y.exp).toNat ∧
    b = y.coeff * 10 ^ (y.exp - min x.exp y.exp).toNat := by
  unfold upscale at h
  by_cases h1 : x.exp = y.exp
  · simp [h1] at h
    obtain ⟨rfl, rfl, rfl⟩ := h
    simp [h1]
  · have h1' : (x.exp == y.exp) = false := by simpa using h1
    simp only [h1', Bool.false_eq_true, if_false] at h
    by_cases h2 : x.exp < y.exp
    · simp only [h2, if_true] at h
      split at h
      · cases h
      · simp only [Option.some.injEq, Prod.mk.injEq] at h
        obtain ⟨rfl, rfl, rfl⟩ := h
        have hm : min x.exp y.exp = x.exp := by omega
        rw [hm]; simp
    · simp only [h2, if_false] at h
      split at h
      · cases h
      · simp only [Option.some.injEq, Prod.mk.injEq] at h
        obtain ⟨rfl, rfl, rfl⟩ := h
        have hm : min x.exp y.exp = y.exp := by omega
        rw [hm]; simp

theorem upscale_swap (x y : Dec) :
    upscale y x = (upscale x y).map (fun t => (t.2.1, t.1, t.2.2)) := by
  unfold upscale
  by_cases h1 : x.exp = y.exp
  · simp [h1]
  · have h1' : ¬ y.exp = x.exp := fun h => h1 h.symm
    by_cases h2 : x.exp < y.exp
    · have h3 : ¬ y.exp < x.exp := by omega
      simp only [beq_iff_eq, h1, h1', h2, h3, if_true, if_false]
      split <;> simp
    · have h3 : y.exp < x.exp := by omega
      simp only [beq_iff_eq, h1, h1', h2, h3, if_true, if_false]
      split <;> simp

theorem adjRat_one (n : Nat) (hn : 0 < n) : adjRat n 1 = (ndigits n : Int) - 1 := by
  obtain ⟨a, _⟩ := ndigits_spec n hn
  have hp := ndigits_pos n
  unfold adjRat
  simp only [ndigits_one]
  have h0 : ((ndigits n : Int) - ((1 : Nat) : Int)) ≥ 0 := by omega
  have h1 : ((ndigits n : Int) - ((1 : Nat) : Int)).toNat = ndigits n - 1 := by omega
  simp only [h0, h1, if_true, Nat.one_mul]
  simp [a]

def SysExit (fl : Cond) (hi lo : Prop) : Prop :=
  (fl = cSysOverflow ||| cOverflow ∧ hi) ∨ (fl = cSysUnderflow ||| cUnderflow ∧ lo)

theorem SysExit.not_noSys {fl : Cond} {hi lo : Prop} (h : SysExit fl hi lo) : ¬ NoSys fl := by
  rcases h with ⟨rfl, -⟩ | ⟨rfl, -⟩
  · exact fun h => Bool.noConfusion h.1
  · exact fun h => Bool.noConfusion h.2

theorem SysExit.mono {fl : Cond} {hi lo hi' lo' : Prop} (h : SysExit fl hi lo) (h1 : hi → hi') (h2 : lo → lo') :
    SysExit fl hi' lo' :=
  h.imp (fun a => ⟨a.1, h1 a.2⟩) (fun a => ⟨a.1, h2 a.2⟩)

theorem checkXs_some_exit {xs : List Int} {fl : Cond} (h : checkXs xs = some fl) :
    SysExit fl (∃ x ∈ xs, 100000 < x) (∃ x ∈ xs, x < -100000) := by
  induction xs with
  | nil => simp [checkXs] at h
  | cons x xs ih =>
    simp only [checkXs] at h
    split at h
    · rename_i h1; injection h with h; exact Or.inl ⟨h.symm, x, List.mem_cons_self, h1⟩
    · split at h
      · rename_i h1; injection h with h; exact Or.inr ⟨h.symm, x, List.mem_cons_self, h1⟩
      · exact (ih h).mono (fun ⟨y, a, b⟩ => ⟨y, List.mem_cons_of_mem _ a, b⟩)
          (fun ⟨y, a, b⟩ => ⟨y, List.mem_cons_of_mem _ a, b⟩)

theorem checkXs_cons_iff (x : Int) (xs : List Int) :
    checkXs (x :: xs) = none ↔ (-100000 ≤ x ∧ x ≤ 100000) ∧ checkXs xs = none := by
  simp only [checkXs]
  split
  · rename_i h1
    exact ⟨nofun, fun h => by simp only [MaxExponent] at h1; omega⟩
  · rename_i h1
    split
    · rename_i h2
      exact ⟨nofun, fun h => by simp only [MinExponent] at h2; omega⟩
    · rename_i h2
      exact ⟨fun h => ⟨by simp only [MaxExponent, MinExponent] at h1 h2; omega, h⟩, fun h => h.2⟩

theorem checkXs_none_iff (xs : List Int) :
    checkXs xs = none ↔ ∀ x ∈ xs, -100000 ≤ x ∧ x ≤ 100000 := by
  induction xs with
  | nil => simp [checkXs]
  | cons x xs ih => rw [checkXs_cons_iff, ih, List.forall_mem_cons]

theorem checkXs_single (x : Int) (h1 : -100000 ≤ x) (h2 : x ≤ 100000) : checkXs [x] = none :=
  (checkXs_cons_iff _ _).2 ⟨⟨h1, h2⟩, rfl⟩

theorem checkXs_pair (x y : Int) (h1 : -100000 ≤ x) (h2 : x ≤ 100000) (h3 : -100000 ≤ y) (h4 : y ≤ 100000) :
    checkXs [x, y] = none :=
  (checkXs_cons_iff _ _).2 ⟨⟨h1, h2⟩, checkXs_single y h3 h4⟩

theorem sumInts_single (a : Int) : sumInts [a] = a := Int.add_zero a
theorem sumInts_pair (a b : Int) : sumInts [a, b] = a + b := by rw [sumInts, sumInts_single]

def Ctx.etiny (c : Ctx) : Int := c.emin - (c.prec : Int) + 1

theorem Ctx.etiny_eq (c : Ctx) : c.etiny = c.emin - (c.prec : Int) + 1 := rfl

theorem seFinish_form (d : Dec) (r : Int) (res : Cond) : (seFinish d r res).1.form = d.form := rfl

theorem seFinish_coeff (d : Dec) (r : Int) (res : Cond) : (seFinish d r res).1.coeff = d.coeff := rfl

theorem seFinish_noSys (d : Dec) (r : Int) (res : Cond) : NoSys (seFinish d r res).2 ↔ NoSys res := by
  unfold seFinish
  split
  · exact NoSys.or_iff.trans (and_iff_left ⟨rfl, rfl⟩)
  · exact Iff.rfl

theorem seFinish_plain (d : Dec) (r : Int) (res : Cond) (h : res.subnormal = false) :
    seFinish d r res = ({ d with exp := r }, res) := by
  simp [seFinish, h]

theorem seFinish_subnormal (d : Dec) (r : Int) (res : Cond) : (seFinish d r res).2.subnormal = res.subnormal := by
  unfold seFinish
  split <;> simp [cUnderflow]

/-! ## `setExponent` by regime

Each regime is stated on the sum `r` of the summands (`hs : sumInts xs = r`; a caller passes `sumInts_single _`,
`sumInts_pair _ _` or `rfl`): what `setExponent` tests is the adjusted exponent `r + ndigits d.coeff - 1`, a linear
expression in the caller's own exponents.  A caller that leaves `d` to `rw` passes a bound `h` as `(by exact h)`: given
as a term it is unified with `ndigits ?d.coeff` before `d` is known. -/

section
variable (c : Ctx) (d : Dec) (res : Cond) (xs : List Int) {r : Int}

theorem setExponent_noSys (hs : sumInts xs = r) (h : NoSys (setExponent c d res xs).2) :
    checkXs xs = none ∧ -100000 ≤ r + (ndigits d.coeff : Int) - 1 ∧ r + (ndigits d.coeff : Int) - 1 ≤ 100000 := by
  subst hs
  unfold setExponent at h
  cases hx : checkXs xs with
  | some fl =>
    rw [hx] at h
    exact absurd h (checkXs_some_exit hx).not_noSys
  | none =>
    rw [hx] at h
    simp only [MaxExponent, MinExponent] at h
    refine ⟨rfl, ?_, ?_⟩
    · apply Classical.byContradiction; intro hlt
      rw [if_neg (by omega), if_pos (by omega)] at h
      cases h.2
    · apply Classical.byContradiction; intro hlt
      rw [if_pos (by omega)] at h
      cases h.1

theorem setExponent_normal (hs : sumInts xs = r)
    (hx : checkXs xs = none) (h2 : r + (ndigits d.coeff : Int) - 1 ≤ 100000)
    (hlo : c.emin ≤ r + (ndigits d.coeff : Int) - 1) (hhi : r + (ndigits d.coeff : Int) - 1 ≤ c.emax)
    (hemin : -100000 ≤ c.emin) :
    setExponent c d res xs = seFinish d r res := by
  subst hs
  unfold setExponent
  rw [hx]
  simp only [MaxExponent, MinExponent]
  rw [if_neg (by omega), if_neg (by omega), if_neg (by omega), if_neg (by omega)]

theorem setExponent_overflow (hs : sumInts xs = r)
    (hx : checkXs xs = none) (h2 : r + (ndigits d.coeff : Int) - 1 ≤ 100000)
    (hhi : c.emax < r + (ndigits d.coeff : Int) - 1) (hc : c.emin ≤ c.emax) (hemin : -100000 ≤ c.emin)
    (hz : d.isZero = false) :
    setExponent c d res xs = seFinish { d with form := .infinite } r (res ||| cOverflow ||| cInexact) := by
  subst hs
  unfold setExponent
  rw [hx]
  simp only [MaxExponent, MinExponent]
  rw [if_neg (by omega), if_neg (by omega), if_neg (by omega), if_pos (by omega), hz, if_neg Bool.false_ne_true]

theorem setExponent_clampZero (hs : sumInts xs = r)
    (hx : checkXs xs = none) (h2 : r + (ndigits d.coeff : Int) - 1 ≤ 100000)
    (hhi : c.emax < r + (ndigits d.coeff : Int) - 1) (hc : c.emin ≤ c.emax) (hemin : -100000 ≤ c.emin)
    (hz : d.isZero = true) :
    setExponent c d res xs = seFinish d c.emax (res ||| cClamped) := by
  subst hs
  unfold setExponent
  rw [hx]
  simp only [MaxExponent, MinExponent]
  rw [if_neg (by omega), if_neg (by omega), if_neg (by omega), if_pos (by omega), if_pos hz]

theorem setExponent_adjOver (hs : sumInts xs = r) (hx : checkXs xs = none)
    (h : 100000 < r + (ndigits d.coeff : Int) - 1) :
    setExponent c d res xs = (d, cSysOverflow ||| cOverflow) := by
  subst hs
  unfold setExponent
  rw [hx]
  simp only [MaxExponent]
  rw [if_pos h]

theorem setExponent_subnormal_exact (hs : sumInts xs = r)
    (hx : checkXs xs = none) (h1 : -100000 ≤ r + (ndigits d.coeff : Int) - 1)
    (hsub : r + (ndigits d.coeff : Int) - 1 < c.emin) (hemin : c.emin ≤ 100000) (hr : c.etiny ≤ r) :
    setExponent c d res xs = seFinish d r (if !d.isZero then res ||| cSubnormal else res) := by
  subst hs
  unfold Ctx.etiny at hr
  unfold setExponent
  rw [hx]
  simp only [MaxExponent, MinExponent]
  rw [if_neg (by omega), if_neg (by omega), if_pos (by omega), if_neg (by omega)]

theorem setExponent_subnormal_round (hs : sumInts xs = r)
    (hx : checkXs xs = none) (h1 : -100000 ≤ r + (ndigits d.coeff : Int) - 1)
    (hsub : r + (ndigits d.coeff : Int) - 1 < c.emin) (hemin : c.emin ≤ 100000) (hr : r < c.etiny) :
    setExponent c d res xs =
      (let ra := roundAt c.mode d.neg d.coeff 1 r c.etiny
       let res := if !d.isZero then res ||| cSubnormal else res
       let res := if ra.2 then res ||| cInexact else res
       let res := if ra.1 == 0 then res ||| cClamped else res
       seFinish { d with coeff := ra.1 } c.etiny (res ||| cRounded)) := by
  subst hs
  have het : c.emin - ((c.prec : Int) - 1) = c.etiny := by unfold Ctx.etiny; omega
  unfold setExponent
  rw [hx]
  simp only [MaxExponent, MinExponent, het]
  rw [if_neg (by omega), if_neg (by omega), if_pos (by omega), if_pos hr]
  unfold roundAt
  have b1 : c.etiny - sumInts xs ≥ 0 := by omega
  simp only [b1, if_true, Nat.one_mul, shouldAddOne_eq_spec]
  by_cases hf : d.coeff % 10 ^ (c.etiny - sumInts xs).toNat = 0
  · simp [hf]
  · simp [hf]

theorem setExponent_noSys_of (hs : sumInts xs = r)
    (hx : checkXs xs = none) (h1 : -100000 ≤ r + (ndigits d.coeff : Int) - 1)
    (h2 : r + (ndigits d.coeff : Int) - 1 ≤ 100000) (hr : NoSys res) :
    NoSys (setExponent c d res xs).2 := by
  subst hs
  unfold setExponent
  rw [hx]
  simp only [MaxExponent, MinExponent]
  rw [if_neg (by omega), if_neg (by omega)]
  -- every remaining exit is `seFinish` applied to `res` joined, conditionally, with ordinary conditions
  have k : ∀ {p : Prop} [Decidable p] {a b : Cond}, NoSys a → NoSys b → NoSys (if p then a ||| b else a) := by
    intro p _ a b ha hb; split
    · exact ha.or hb
    · exact ha
  by_cases a3 : sumInts xs + (ndigits d.coeff : Int) - 1 < c.emin
  · rw [if_pos a3]
    by_cases a4 : sumInts xs < c.emin - ((c.prec : Int) - 1)
    · rw [if_pos a4]
      exact (seFinish_noSys _ _ _).2 ((k (k (k hr ⟨rfl, rfl⟩) ⟨rfl, rfl⟩) ⟨rfl, rfl⟩).or ⟨rfl, rfl⟩)
    · rw [if_neg a4]
      exact (seFinish_noSys _ _ _).2 (k hr ⟨rfl, rfl⟩)
  · rw [if_neg a3]
    by_cases a5 : sumInts xs + (ndigits d.coeff : Int) - 1 > c.emax
    · rw [if_pos a5]
      split
      · exact (seFinish_noSys _ _ _).2 (hr.or ⟨rfl, rfl⟩)
      · exact (seFinish_noSys _ _ _).2 ((hr.or ⟨rfl, rfl⟩).or ⟨rfl, rfl⟩)
    · rw [if_neg a5]
      exact (seFinish_noSys _ _ _).2 hr

theorem setExponent_nosub (hs : sumInts xs = r) (h0 : d.coeff ≠ 0) (hns : NoSys (setExponent c d res xs).2)
    (hf : (setExponent c d res xs).1.form = .finite) (hsub : (setExponent c d res xs).2.subnormal = false) :
    (setExponent c d res xs).1.coeff = d.coeff ∧ c.emin ≤ r + (ndigits d.coeff : Int) - 1 := by
  obtain ⟨hx, h1, h2⟩ := setExponent_noSys c d res xs hs hns
  subst hs
  have hz : d.isZero = false := by simp [Dec.isZero, h0]
  unfold setExponent at hf hsub ⊢
  rw [hx] at hf hsub ⊢
  simp only [MaxExponent, MinExponent] at hf hsub ⊢
  rw [if_neg (by omega), if_neg (by omega)] at hf hsub ⊢
  by_cases a3 : sumInts xs + (ndigits d.coeff : Int) - 1 < c.emin
  · -- below `emin` Subnormal is joined to the flags at once, and nothing takes it out again
    exfalso
    rw [if_pos a3] at hsub
    by_cases a4 : sumInts xs < c.emin - ((c.prec : Int) - 1)
    · rw [if_pos a4, seFinish_subnormal] at hsub
      simp [hz, apply_ite Cond.subnormal, cSubnormal, cInexact, cClamped, cRounded] at hsub
    · rw [if_neg a4, seFinish_subnormal] at hsub
      simp [hz, cSubnormal] at hsub
  · rw [if_neg a3] at hf ⊢
    by_cases a5 : sumInts xs + (ndigits d.coeff : Int) - 1 > c.emax
    · rw [if_pos a5, hz] at hf; cases hf
    · rw [if_neg a5]; exact ⟨rfl, by omega⟩
end

theorem setExponent_pad (c : Ctx) (d : Dec) (res : Cond) (e : Int) :
    setExponent c d res [e] = setExponent c d res [e, 0] := by
  have h : checkXs [e, 0] = checkXs [e] := by
    by_cases a : e > MaxExponent
    · simp only [checkXs, if_pos a]
    · by_cases b : e < MinExponent
      · simp only [checkXs, if_neg a, if_pos b]
      · simp only [checkXs, if_neg a, if_neg b]; rfl
  unfold setExponent
  rw [h, sumInts_pair, sumInts_single, Int.add_zero]

/-- `N / D` rounded to an integer in the given mode, `(result, inexact)`: what `roundAt` does once the
power of ten is on the right side of the fraction -/
def roundQuot (mode : Mode) (neg : Bool) (N D : Nat) : Nat × Bool :=
  if N % D == 0 then (N / D, false)
  else (if specAddOne mode (N / D) neg (compare (2 * (N % D)) D) then N / D + 1 else N / D, true)

/-- numerator and denominator of `num/den × 10^(-t)` -/
def scaleNum (num : Nat) (t : Int) : Nat := if t ≥ 0 then num else num * 10 ^ (-t).toNat
def scaleDen (den : Nat) (t : Int) : Nat := if t ≥ 0 then den * 10 ^ t.toNat else den

theorem scaleDen_pos (den : Nat) (hd : 0 < den) (t : Int) : 0 < scaleDen den t := by
  unfold scaleDen; split
  · exact Nat.mul_pos hd (Nat.pow_pos (by decide))
  · exact hd

theorem roundAt_eq (mode : Mode) (neg : Bool) (num den : Nat) (e10 q : Int) :
    roundAt mode neg num den e10 q =
      roundQuot mode neg (scaleNum num (q - e10)) (scaleDen den (q - e10)) := rfl

theorem roundQuot_bounds (mode : Mode) (neg : Bool) (N D : Nat) :
    N / D ≤ (roundQuot mode neg N D).1 ∧ (roundQuot mode neg N D).1 ≤ N / D + 1 := by
  unfold roundQuot
  split
  · simp
  · split <;> simp

theorem roundQuot_congr (mode : Mode) (neg : Bool) (N D N' D' : Nat) (hq : N / D = N' / D')
    (hz : N % D = 0 ↔ N' % D' = 0) (hc : compare (2 * (N % D)) D = compare (2 * (N' % D')) D') :
    roundQuot mode neg N D = roundQuot mode neg N' D' := by
  unfold roundQuot
  simp only [beq_iff_eq, hq, hc, hz]

theorem roundAt_scale (mode : Mode) (neg : Bool) (n : Nat) (e q : Int) (h : q ≤ e) :
    roundAt mode neg n 1 e q = (n * 10 ^ (e - q).toNat, false) := by
  unfold roundAt
  by_cases h0 : q - e ≥ 0
  · have : q = e := by omega
    subst this
    simp [Nat.mod_one]
  · have : (-(q - e)).toNat = (e - q).toNat := by congr 1; omega
    have h1 : ¬ e ≤ q := by omega
    simp [h1, Nat.mod_one, this]

theorem roundAt_dec (mode : Mode) (neg : Bool) (n : Nat) (e q : Int) (h : e ≤ q) :
    roundAt mode neg n 1 e q = roundQuot mode neg n (10 ^ (q - e).toNat) := by
  rw [roundAt_eq, scaleNum, scaleDen, if_pos (by omega), if_pos (by omega), Nat.one_mul]

theorem sign_beq_zero (x : Dec) : (x.sign == 0) = x.isZero := by
  unfold Dec.sign Dec.isZero
  cases (x.form == .finite && x.coeff == 0) <;> cases x.neg <;> rfl

theorem sign_ne_zero (x : Dec) (hx : x.form = .finite) : (x.sign != 0) = (x.coeff != 0) := by
  simp [bne, sign_beq_zero, Dec.isZero, hx]

theorem roundXFin_eq (c : Ctx) (x : Dec) (b : Bool) (hx : x.form = .finite) (h0 : (b && c.prec == 0) = false) :
    roundXFin c x b =
      if x.coeff ≠ 0 ∧ x.exp + (ndigits x.coeff : Int) - 1 < c.emin then
        ((setExponent c x cSubnormal [x.exp]).1, cSubnormal ||| (setExponent c x cSubnormal [x.exp]).2)
      else if (ndigits x.coeff : Int) - (c.prec : Int) > 0 then
        if (ndigits x.coeff : Int) - (c.prec : Int) > 100000 then (x, cSysOverflow ||| cOverflow)
        else
          (let diff : Int := (ndigits x.coeff : Int) - (c.prec : Int)
           let e := 10 ^ diff.toNat
           let y := x.coeff / e
           let m := x.coeff % e
           let res := if m != 0 then cRounded ||| cInexact else cRounded
           let yd := if m != 0 && shouldAddOne c.mode y x.neg (cmpNat (2 * m) e) then roundAddOne y diff else (y, diff)
           let r := setExponent c { x with coeff := yd.1 } res [x.exp, yd.2]
           (r.1, res ||| r.2))
      else setExponent c x {} [x.exp, 0] := by
  unfold roundXFin
  simp only [h0, sign_ne_zero x hx, Bool.false_eq_true, if_false, MaxExponent, Bool.and_eq_true, bne_iff_ne, ne_eq,
    decide_eq_true_eq]

theorem prec_pos_enabled (c : Ctx) (b : Bool) (hp : 1 ≤ c.prec) : (b && c.prec == 0) = false := by
  have : (c.prec == 0) = false := by simp; omega
  rw [this, Bool.and_false]

theorem roundX_subnormal (c : Ctx) (x : Dec) (b : Bool) (hx : x.form = .finite) (hp : 1 ≤ c.prec)
    (hn : x.coeff ≠ 0) (hadj : x.exp + (ndigits x.coeff : Int) - 1 < c.emin) :
    roundXFin c x b =
      ((setExponent c x cSubnormal [x.exp]).1, cSubnormal ||| (setExponent c x cSubnormal [x.exp]).2) := by
  rw [roundXFin_eq c x b hx (prec_pos_enabled c b hp), if_pos ⟨hn, hadj⟩]

theorem roundX_short (c : Ctx) (x : Dec) (b : Bool) (hx : x.form = .finite) (hp : 1 ≤ c.prec)
    (hnd : ndigits x.coeff ≤ c.prec)
    (hadj : x.coeff = 0 ∨ c.emin ≤ x.exp + (ndigits x.coeff : Int) - 1) :
    roundXFin c x b = setExponent c x {} [x.exp, 0] := by
  rw [roundXFin_eq c x b hx (prec_pos_enabled c b hp), if_neg (by omega), if_neg (by omega)]

/-- with Precision 0 rounding is disabled: `Context.round` only sets the exponent -/
theorem ctxRound_prec0 (c : Ctx) (hp : c.prec = 0) (x : Dec) (hx : x.form = .finite) :
    ctxRound c x = setExponent c x {} [x.exp] := by
  rw [ctxRound_finite c x hx]; unfold ctxRoundFin roundXFin; simp [hp]

theorem roundQuot_one (mode : Mode) (neg : Bool) (N : Nat) : roundQuot mode neg N 1 = (N, false) := by
  simp [roundQuot, Nat.mod_one]

theorem roundQuot_zero (mode : Mode) (neg : Bool) (D : Nat) : roundQuot mode neg 0 D = (0, false) := by
  simp [roundQuot]

theorem roundQuot_inexact (mode : Mode) (neg : Bool) (N D : Nat) :
    (roundQuot mode neg N D).2 = !(N % D == 0) := by
  unfold roundQuot; split <;> simp_all

theorem roundQuot_exact (mode : Mode) (neg : Bool) (N D : Nat) (h : N % D = 0) :
    roundQuot mode neg N D = (N / D, false) := by
  simp [roundQuot, h]

theorem roundQuot_down (neg : Bool) (N D : Nat) (h : N % D ≠ 0) : roundQuot .down neg N D = (N / D, true) := by
  simp [roundQuot, h, specAddOne]

theorem roundQuot_up (neg : Bool) (N D : Nat) (h : N % D ≠ 0) : roundQuot .up neg N D = (N / D + 1, true) := by
  simp [roundQuot, h, specAddOne]

theorem roundQuot_trunc (mode : Mode) (neg : Bool) (N D : Nat) (h : N % D = 0 ∨ mode = .down) :
    (roundQuot mode neg N D).1 = N / D := by
  by_cases hr : N % D = 0
  · rw [roundQuot_exact _ _ _ _ hr]
  · rw [h.resolve_left hr, roundQuot_down _ _ _ hr]

theorem roundQuot_down_or_up (mode : Mode) (neg : Bool) (N D : Nat) :
    roundQuot mode neg N D = roundQuot .down neg N D ∨ roundQuot mode neg N D = roundQuot .up neg N D := by
  by_cases h : N % D = 0
  · left; rw [roundQuot_exact _ _ _ _ h, roundQuot_exact _ _ _ _ h]
  · rw [roundQuot_down _ _ _ h, roundQuot_up _ _ _ h, roundQuot]
    simp only [beq_iff_eq, h, if_false]
    cases specAddOne mode (N / D) neg (compare (2 * (N % D)) D) <;> simp

theorem roundAddOne_cases (y : Nat) (δ : Int) :
    (ndigits (y + 1) = ndigits y ∧ roundAddOne y δ = (y + 1, δ)) ∨
    (ndigits (y + 1) = ndigits y + 1 ∧ roundAddOne y δ = ((y + 1) / 10, δ + 1) ∧ (y + 1) / 10 * 10 = y + 1 ∧
      ndigits ((y + 1) / 10) = ndigits y) := by
  unfold roundAddOne
  by_cases hc : ndigits (y + 1) > ndigits y
  · have hy : 0 < y := by
      rcases Nat.eq_zero_or_pos y with h0 | h0
      · rw [h0] at hc; exact absurd hc (by decide)
      · exact h0
    obtain ⟨v1, v2⟩ := carry_value _ hy hc
    rw [if_pos hc]
    exact Or.inr ⟨by rw [carry _ hy hc, ndigits_pow], rfl, v1, v2⟩
  · rw [if_neg hc]
    refine Or.inl ⟨?_, rfl⟩
    rcases Nat.eq_zero_or_pos y with h0 | h0
    · rw [h0]; decide
    · have := ndigits_mono h0 (Nat.le_add_right y 1); omega

/-- divide, maybe add one, renormalise a carry: against the oracle's rounding of the same fraction (after a carry the
oracle's coefficient has one digit more and ends in a zero, which went into the summand) -/
theorem roundStep (mode : Mode) (neg : Bool) (N D : Nat) (δ : Int) :
    let yd := if N % D != 0 && shouldAddOne mode (N / D) neg (cmpNat (2 * (N % D)) D)
              then roundAddOne (N / D) δ else (N / D, δ)
    let ra := roundQuot mode neg N D
    ra.2 = (N % D != 0) ∧
    ((ndigits ra.1 = ndigits (N / D) ∧ yd = (ra.1, δ)) ∨
     (ndigits ra.1 = ndigits (N / D) + 1 ∧ yd = (ra.1 / 10, δ + 1) ∧ ra.1 / 10 * 10 = ra.1 ∧
        ndigits (ra.1 / 10) = ndigits (N / D))) := by
  intro yd ra
  by_cases hm : N % D = 0
  · have hyd : yd = (N / D, δ) := by simp [yd, hm]
    have hra : ra = (N / D, false) := by simp [ra, roundQuot, hm]
    rw [hra, hyd]
    exact ⟨by simp [hm], Or.inl ⟨rfl, rfl⟩⟩
  · by_cases hadd : specAddOne mode (N / D) neg (compare (2 * (N % D)) D) = true
    · have hyd : yd = roundAddOne (N / D) δ := by simp [yd, hm, shouldAddOne_eq_spec, hadd]
      have hra : ra = (N / D + 1, true) := by simp [ra, roundQuot, hm, hadd]
      rw [hra, hyd]
      exact ⟨by simp [hm], roundAddOne_cases (N / D) δ⟩
    · have hyd : yd = (N / D, δ) := by simp [yd, shouldAddOne_eq_spec, hadd]
      have hra : ra = (N / D, true) := by simp [ra, roundQuot, hm, hadd]
      rw [hra, hyd]
      exact ⟨by simp [hm], Or.inl ⟨rfl, rfl⟩⟩

theorem ndigits_roundQuot_le (mode : Mode) (neg : Bool) (n k P : Nat) (hP : 1 ≤ P) (h : ndigits n ≤ P - 1 + k) :
    ndigits (roundQuot mode neg n (10 ^ k)).1 ≤ P := by
  have hle := (roundQuot_bounds mode neg n (10 ^ k)).2
  have hdiv : n / 10 ^ k < 10 ^ (P - 1) := by
    rw [Nat.div_lt_iff_lt_mul (Nat.pow_pos (by decide)), ← Nat.pow_add]; exact lt_pow_of_ndigits_le _ _ h
  exact ndigits_le_of_le_pow _ _ hP (by omega)

end Apd
