import ApdVerif.Lemmas.ExpAccLoops
import ApdVerif.Lemmas.ExpAccBudget
import ApdVerif.Lemmas.FinalRound
import ApdVerif.Lemmas.TransLogRuns
/-!
# `Exp` on the tape model: the assembly of the error bound

`truncOK` as an inequality of reals; the chain reduction → series → power → rounding (`exp_final` is `round_final` of
`Lemmas/FinalRound`); what a delivered call computed (`exp_delivered`), read off `expT_shape`.
-/
namespace Apd.ExpAcc

theorem factN_eq (n : Nat) : factN n = n.factorial := by
  induction n with
  | zero => rfl
  | succ n ih => simp [factN, Nat.factorial_succ, ih]

theorem truncOK_real (r : Dec) (p n : Nat) (hn : 1 ≤ n) (h : truncOK r p n = true) :
    |rv r| ≤ 1 ∧
    ((|rv r| ≤ 3 / 4 ∧ |rv r| ^ n / (n.factorial : ℝ) * (((n : ℝ) + 1) / (n : ℝ)) ≤ 6 / 5 * uR p) ∨
      |rv r| ^ n / (n.factorial : ℝ) * (((n : ℝ) + 1) / (n : ℝ)) ≤ 2 / 5 * uR p) := by
  unfold truncOK at h
  simp only [Bool.and_eq_true, decide_eq_true_eq] at h
  obtain ⟨⟨hexp, hle1⟩, hcond⟩ := h
  have hEe : r.exp = -(((-r.exp).toNat : ℕ) : ℤ) := by omega
  generalize (-r.exp).toNat = E at *
  have hpowE : (0 : ℝ) < (10 : ℝ) ^ E := by positivity
  have hA : |rv r| = (r.coeff : ℝ) / (10 : ℝ) ^ E := by
    rw [abs_rv, hEe, zpow_neg, zpow_natCast]; rfl
  have hnpos : (0 : ℝ) < n := by exact_mod_cast hn
  have hfpos : (0 : ℝ) < (n.factorial : ℝ) := by exact_mod_cast n.factorial_pos
  -- the integer comparison of `truncOK`, divided through
  have conv : ∀ τ : ℕ, r.coeff ^ n * (n + 1) * 10 ^ p ≤ τ * (n * factN n * 10 ^ (E * n)) →
      |rv r| ^ n / (n.factorial : ℝ) * (((n : ℝ) + 1) / (n : ℝ)) ≤ (τ : ℝ) / 5 * uR p := by
    intro τ hτ
    rw [factN_eq] at hτ
    have hτ' := (Nat.cast_le (α := ℝ)).2 hτ
    push_cast [pow_mul] at hτ'
    rw [hA, uR_eq, div_pow, div_div, div_mul_div_comm, show (τ : ℝ) / 5 * (5 / (10 : ℝ) ^ p) = τ / (10 : ℝ) ^ p by ring,
      div_le_div_iff₀ (by positivity) (by positivity)]
    calc (r.coeff : ℝ) ^ n * ((n : ℝ) + 1) * (10 : ℝ) ^ p
        ≤ (τ : ℝ) * ((n : ℝ) * (n.factorial : ℝ) * ((10 : ℝ) ^ E) ^ n) := hτ'
      _ = (τ : ℝ) * (((10 : ℝ) ^ E) ^ n * (n.factorial : ℝ) * (n : ℝ)) := by ring
  refine ⟨by rw [hA, div_le_one hpowE]; exact_mod_cast hle1, ?_⟩
  split_ifs at hcond with h34
  · refine Or.inl ⟨?_, by have := conv 6 (of_decide_eq_true hcond); rwa [Nat.cast_ofNat] at this⟩
    rw [hA, div_le_iff₀ hpowE]
    have := (Nat.cast_le (α := ℝ)).2 h34
    push_cast at this
    linarith only [this]
  · exact Or.inr (by have := conv 2 (of_decide_eq_true hcond); rwa [Nat.cast_ofNat] at this)

theorem rv_pow10 (t : Nat) : rv { coeff := 1, exp := (t : Int) } = (10 : ℝ) ^ t := by
  rw [rv_mk, Nat.cast_one, one_mul, zpow_natCast]

theorem abs_rv_lt (x : Dec) (hx0 : x.coeff ≠ 0) : |rv x| < (10 : ℝ) ^ (expTt x) := by
  have h2 : (ndigits x.coeff : ℤ) + x.exp ≤ ((expTt x : ℕ) : ℤ) := by
    unfold expTt; split_ifs <;> omega
  rw [← zpow_natCast]
  exact (abs_rv_isAdj x hx0).2.trans_le (zpow_le_zpow_right₀ (by norm_num) h2)

theorem pow_mul_uR (cp t : Nat) : (10 : ℝ) ^ t * uR (cp + t + 2) = (10 : ℝ) ^ (-(cp : ℤ)) / 20 := by
  rw [uR_eq, pow_add, pow_add, zpow_neg, zpow_natCast]
  field_simp
  ring

theorem zpow_neg_le_tenth (cp : Nat) (h : 1 ≤ cp) : (10 : ℝ) ^ (-(cp : ℤ)) ≤ 1 / 10 := by
  have := zpow_le_zpow_right₀ (by norm_num : (1 : ℝ) ≤ 10) (by omega : -(cp : ℤ) ≤ -1)
  rwa [zpow_neg_one, ← one_div] at this

theorem reduce_real (X ρ δ u K : ℝ) (hX : X ≠ 0) (hK : 0 < K) (hXK : |X| ≤ K) (hδ : |δ| ≤ u) (hu : u < 1)
    (h : ρ = X / K * (1 + δ)) : ρ ≠ 0 ∧ (0 < X → 0 < ρ) ∧ |K * ρ - X| ≤ K * u := by
  have h1 : 0 < 1 + δ := by linarith only [(abs_le.1 hδ).1, hu]
  refine ⟨by rw [h]; exact mul_ne_zero (div_ne_zero hX hK.ne') h1.ne',
    fun hp => by rw [h]; exact mul_pos (div_pos hp hK) h1, ?_⟩
  have h2 := (abs_le_of_rounded hδ hu.le (show K * ρ = X * (1 + δ) by rw [h]; field_simp)).2
  exact h2.trans (by rw [mul_comm]; exact mul_le_mul_of_nonneg_right hXK ((abs_nonneg δ).trans hδ))

theorem series_near (nc : Ctx) (hw : Wide nc) (hm : nc.mode = .halfEven) (r : Dec) (hr : r.form = .finite)
    (hr0 : rv r ≠ 0) (hnd : ndigits r.coeff ≤ nc.prec) (hu : uR nc.prec ≤ 1 / 200) (n : Nat) (hn : 1 ≤ n)
    (htr : truncOK r nc.prec n = true) (s : ED × Dec) (hs : s = expSeries r (n - 1) { c := nc } decOne)
    (hfin : s.1.failed = false) :
    s.2.form = .finite ∧ 0 < rv s.2 ∧
    |rv s.2 - Real.exp (rv r)| ≤ 1083 / 100 * uR nc.prec * Real.exp (rv r) ∧
    (0 < rv r → |rv s.2 - Real.exp (rv r)| ≤ 62 / 10 * uR nc.prec * Real.exp (rv r)) := by
  subst hs
  obtain ⟨hρ1, htrunc⟩ := truncOK_real r nc.prec n hn htr
  have hu0 := (uR_pos nc.prec).le
  have htr65 : |rv r| ^ n / (n.factorial : ℝ) * (((n : ℝ) + 1) / (n : ℝ)) ≤ 6 / 5 * uR nc.prec :=
    htrunc.elim And.right fun h => h.trans (mul_le_mul_of_nonneg_right (by norm_num) hu0)
  obtain ⟨sf, hsE⟩ := series_total nc hw hm r hr hr0 hnd hu hρ1 n hn hfin
  have hnear := exp_near (rv r) _ _ n hn hρ1 hu0 hsE (htrunc.imp_left (And.imp_left (neg_le_abs _).trans))
  refine ⟨sf, ?_, hnear, fun hpos => ?_⟩
  · have := mul_le_mul_of_nonneg_right (show 1083 / 100 * uR nc.prec ≤ 1 / 2 by linarith only [hu])
      (Real.exp_pos (rv r)).le
    linarith only [this, (abs_le.1 hnear).1, Real.exp_pos (rv r)]
  · rw [HF_of_pos (not_le.2 hpos)] at hsE
    exact exp_near_pos (rv r) _ _ n hn hpos.le (abs_le.1 hρ1).2 hu0 hsE htr65

/-- Stages 2–4 of `Context.Exp` (as numbered in context.go) and the power after them, in a wide half-even working
context `nc`: `r = x/10^t`, the series at `r`, its `10^t`-th power. -/
theorem exp_core (nc : Ctx) (hw : Wide nc) (hm : nc.mode = .halfEven) (x : Dec) (hxf : x.form = .finite)
    (hx0 : x.coeff ≠ 0) (t N : Nat) (hN : 1 ≤ N) (hxt : |rv x| ≤ (10 : ℝ) ^ t)
    (hν : (10 : ℝ) ^ t * uR nc.prec ≤ 1 / 200) (q : Out) (s : ED × Dec) (v : Dec × Cond × ErrKind)
    (hqd : q = quoOp nc x { coeff := 1, exp := t }) (hsd : s = expSeries q.d (N - 1) { c := nc } decOne)
    (hvd : v = integerPower nc s.2 ((10 : Int) ^ t))
    (hq : q.err = .none) (htr : truncOK q.d nc.prec N = true) (hs : s.1.failed = false)
    (hip : v.2.2 = .none) :
    v.1.form = .finite ∧ 0 < rv v.1 ∧
    LogNear (134551 / 10000 * ((10 : ℝ) ^ t * uR nc.prec)) (Real.exp (rv x)) (rv v.1) ∧
    (x.neg = false → LogNear (84034 / 10000 * ((10 : ℝ) ^ t * uR nc.prec)) (Real.exp (rv x)) (rv v.1)) := by
  subst hvd hsd hqd
  have hu0 := uR_pos nc.prec
  have hk0 : (0 : ℝ) < (10 : ℝ) ^ t := by positivity
  have hu1 : uR nc.prec ≤ 1 / 200 :=
    (le_mul_of_one_le_left hu0.le (one_le_pow₀ (by norm_num))).trans hν
  have hxr : rv x ≠ 0 := fun h => hx0 ((rv_eq_zero_iff x).1 h)
  obtain ⟨rf, δ0, hδ0, hrv⟩ := quo_rel nc hw hm x { coeff := 1, exp := (t : Int) } hxf rfl
    (by rw [rv_pow10]; exact hk0.ne') hq
  have hnd := C11Q.fits_digits nc _ hw.prec1 rf
    (Props.C01_quo nc hw.wf x { coeff := 1, exp := (t : Int) } hxf rfl Nat.one_ne_zero (Or.inl hq)).2.2
  rw [rv_pow10] at hrv
  generalize (quoOp nc x { coeff := 1, exp := (t : Int) }).d = r at *
  obtain ⟨hρ0, hρpos, hred⟩ :=
    reduce_real (rv x) (rv r) δ0 (uR nc.prec) _ hxr hk0 hxt hδ0 (by linarith only [hu1]) hrv
  obtain ⟨sf, hs0, hnear, hnearpos⟩ := series_near nc hw hm r rf hρ0 hnd hu1 N hN htr _ rfl hs
  generalize (expSeries r (N - 1) { c := nc } decOne).2 = s at *
  have hKr : ((10 ^ t : ℕ) : ℝ) = (10 : ℝ) ^ t := by rw [Nat.cast_pow, Nat.cast_ofNat]
  rw [show ((10 : Int) ^ t) = ((10 ^ t : ℕ) : Int) by rw [Nat.cast_pow, Nat.cast_ofNat]] at hip ⊢
  obtain ⟨pf, hpL⟩ := intPower_near nc hw hm (by linarith only [hu1]) s sf hs0 (10 ^ t) hip
  generalize (integerPower nc s ((10 ^ t : ℕ) : Int)).1 = v at *
  rw [← hKr] at hν hred
  have htot := exp_total (rv x) (rv r) (rv s) (rv v) _ (10 ^ t) (Nat.pow_pos (by decide)) hu0.le hν hred hnear hpL
  rw [hKr] at htot
  refine ⟨pf, htot.pos (Real.exp_pos _), htot, fun hxn => ?_⟩
  -- `B = 1 + A/(1 - A/200) + 1.005026` with `A = 6.2`
  have := exp_total_gen (62 / 10) (84034 / 10000) (rv x) (rv r) (rv s) (rv v) _ (10 ^ t) (by norm_num)
    (by norm_num) (by norm_num) (Nat.pow_pos (by decide)) hu0.le hν hred
    (hnearpos (hρpos (rv_pos_of_not_neg x hx0 hxn))) hpL
  rwa [hKr] at this

theorem exp_main_path (c : Ctx) (x : Dec) (hxf : x.form = .finite) (hx0 : x.coeff ≠ 0) (cp N : Nat)
    (hcp1 : 1 ≤ cp) (hp : cp + expTt x + 2 ≤ 100000) (hN : 1 ≤ N)
    (hq : (expQ c x cp).err = .none)
    (htr : truncOK (expQ c x cp).d (cp + expTt x + 2) N = true)
    (hs : (expS c x cp N).1.failed = false)
    (hip : (expIP c x cp N).2.2 = .none) :
    (expIP c x cp N).1.form = .finite ∧ 0 < rv (expIP c x cp N).1 ∧
      LogNear (134551 / 10000 * ((10 : ℝ) ^ (-(cp : ℤ)) / 20)) (Real.exp (rv x)) (rv (expIP c x cp N).1) ∧
      (x.neg = false →
        LogNear (84034 / 10000 * ((10 : ℝ) ^ (-(cp : ℤ)) / 20)) (Real.exp (rv x)) (rv (expIP c x cp N).1)) := by
  have hw : Wide (expNc c (cp + expTt x + 2)) :=
    ⟨rfl, rfl, Nat.le_add_left _ _, by exact_mod_cast hp⟩
  have hKu := pow_mul_uR cp (expTt x)
  have := exp_core (expNc c (cp + expTt x + 2)) hw rfl x hxf hx0 (expTt x) N hN (abs_rv_lt x hx0).le
    (by rw [show (expNc c (cp + expTt x + 2)).prec = cp + expTt x + 2 from rfl, hKu]
        linarith only [zpow_neg_le_tenth cp hcp1]) _ _ _ rfl rfl rfl hq htr hs hip
  rw [show (expNc c (cp + expTt x + 2)).prec = cp + expTt x + 2 from rfl, hKu] at this
  exact this

/-- the last step of `Exp` is `round_final` at `a = 0`, `κ = η·10^-cp`, mode half-even: the budget gives
`|v - exp X| ≤ (e^Ω - 1)·v ≤ η·10^-cp·v` -/
theorem exp_final (B η : ℝ) (hB0 : 0 ≤ B) (hB : B ≤ 20)
    (hη : B / 20 + (B / 20) ^ 2 / 20 + 2 / 9 * (B / 20) ^ 3 / 100 ≤ η)
    (c : Ctx) (hc : c.WF) (cp : Nat) (hP : c.prec ≤ cp) (v : Dec) (hv : v.form = .finite)
    (hv0 : 0 < rv v) (X : ℝ)
    (hL : LogNear (B * ((10 : ℝ) ^ (-(cp : ℤ)) / 20)) (Real.exp X) (rv v))
    (hns : NoSys (ctxRound { c with mode := .halfEven } v).2)
    (hf : (ctxRound { c with mode := .halfEven } v).1.form = .finite) :
    |rv (ctxRound { c with mode := .halfEven } v).1 - Real.exp X| ≤
      (1 / 2 + η) * (10 : ℝ) ^ (ulpExp c (ctxRound { c with mode := .halfEven } v).1) := by
  have hy0 : (0 : ℝ) < (10 : ℝ) ^ (-(cp : ℤ)) := zpow_pos (by norm_num) _
  have hη0 : 0 ≤ η := le_trans (by positivity) hη
  have hb := exp_budget_gen B η _ _ hB0 hB hη (mul_nonneg hB0 (div_nonneg hy0.le (by norm_num))) hy0.le
    (zpow_neg_le_tenth cp (hc.1.trans hP)) le_rfl
  have hB' : |rv v - Real.exp X| ≤ 0 + η * (10 : ℝ) ^ (-(cp : ℤ)) * |rv v| := by
    rw [zero_add, abs_of_pos hv0, mul_comm]
    exact (hL.abs_sub_le (Real.exp_pos X)).trans (mul_le_mul_of_nonneg_left hb hv0.le)
  have := LnAcc.round_final { c with mode := .halfEven } hc v hv _ 0 _ η (mul_nonneg hη0 hy0.le) ?_ hB' hns hf
  · rwa [add_zero, show ({ c with mode := Mode.halfEven } : Ctx).mode = .halfEven from rfl,
      LnAcc.rhoMode_halfEven] at this
  · rw [mul_assoc, ← zpow_natCast, ← zpow_add₀ ten_ne]
    exact mul_le_of_le_one_right hη0 (zpow_le_one_of_nonpos₀ (by norm_num) (by
      show -(cp : ℤ) + (c.prec : ℤ) ≤ 0; omega))

theorem exp_one_branch (c : Ctx) (hc : c.WF) (x : Dec) (cp : Nat) (hP : c.prec ≤ cp)
    (h1 : |rv x| ≤ 9 * (10 : ℝ) ^ (-(cp : ℤ) - 1)) (η : ℝ) (hη : 0 ≤ η) :
    |rv decOne - Real.exp (rv x)| ≤ (1 / 2 + η) * (10 : ℝ) ^ (ulpExp c decOne) := by
  -- `|x| ≤ 0.9·10^-cp ≤ 0.9·10^-prec`
  have hle' : |rv x| ≤ 9 * ((10 : ℝ) ^ (-(c.prec : ℤ)) / 10) :=
    calc |rv x| ≤ 9 * (10 : ℝ) ^ (-(cp : ℤ) - 1) := h1
      _ ≤ 9 * (10 : ℝ) ^ (-(c.prec : ℤ) - 1) := mul_le_mul_of_nonneg_left
          (zpow_le_zpow_right₀ (by norm_num) (by omega)) (by norm_num)
      _ = 9 * ((10 : ℝ) ^ (-(c.prec : ℤ)) / 10) := by rw [zpow_sub_one₀ ten_ne, div_eq_mul_inv]
  have hy := zpow_neg_le_tenth c.prec hc.1
  have hy0 : (0 : ℝ) < (10 : ℝ) ^ (-(c.prec : ℤ)) := zpow_pos (by norm_num) _
  have h2 := Real.abs_exp_sub_one_le (x := rv x) (by linarith only [hle', hy])
  -- one unit in the last place of `1` is at least `10^(1-prec)`
  have hul : 10 * (10 : ℝ) ^ (-(c.prec : ℤ)) ≤ (10 : ℝ) ^ (ulpExp c decOne) := by
    rw [← zpow_one_add₀ ten_ne]
    apply zpow_le_zpow_right₀ (by norm_num)
    rw [ulpExp_eq]
    exact le_trans (by simp [decOne, ndigits_one]) (le_max_left _ _)
  rw [rv_decOne, abs_sub_comm]
  have h3 := mul_le_mul_of_nonneg_left hul (by linarith only [hη] : 0 ≤ 1 / 2 + η)
  have h4 := mul_nonneg hη hy0.le
  linarith only [h2, hle', h3, h4, hy0]

theorem expSpecials_finite (c : Ctx) (x : Dec) (hxf : x.form = .finite) (hP : 1 ≤ c.prec) :
    (x.coeff = 0 ∧ expSpecials c x = some { d := decOne }) ∨ (x.coeff ≠ 0 ∧ expSpecials c x = none) := by
  have h3 : (c.prec == 0) = false := by simp; omega
  by_cases h0 : x.coeff = 0
  · exact Or.inl ⟨h0, by simp [expSpecials, shouldSetAsNaN, Dec.isNaN, Dec.isZero, hxf, h0]⟩
  · exact Or.inr ⟨h0, by simp [expSpecials, shouldSetAsNaN, Dec.isNaN, Dec.isZero, hxf, h0, h3]⟩

theorem exp_delivered (c : Ctx) (x : Dec) (cp0 : Nat) (n : Int) (rest r' : Tape) (o : Out)
    (hok : ExpTapeOK c x cp0 n = true)
    (h : expT c x (.cp cp0 :: .n n :: rest) = some (o, r'))
    (hd : o.err = .none ∨ (o.err = .trap ∧ (o.fl &&& c.traps).any = true)) :
    x.form = .finite ∧ 1 ≤ c.prec ∧ c.prec ≤ expCp x cp0 ∧
    ((o.d = decOne ∧ |rv x| ≤ 9 * (10 : ℝ) ^ (-(expCp x cp0 : ℤ) - 1)) ∨
      ∃ v : Dec, v.form = .finite ∧ 0 < rv v ∧
        LogNear (134551 / 10000 * ((10 : ℝ) ^ (-(expCp x cp0 : ℤ)) / 20)) (Real.exp (rv x)) (rv v) ∧
        (x.neg = false →
          LogNear (84034 / 10000 * ((10 : ℝ) ^ (-(expCp x cp0 : ℤ)) / 20)) (Real.exp (rv x)) (rv v)) ∧
        o.d = (ctxRound { c with mode := .halfEven } v).1 ∧ NoSys (ctxRound { c with mode := .halfEven } v).2) := by
  unfold ExpTapeOK at hok
  simp only [Bool.and_eq_true, beq_iff_eq, decide_eq_true_eq, Bool.not_eq_true', decide_eq_false_iff_not] at hok
  obtain ⟨⟨⟨⟨⟨⟨hxf, hP1⟩, hPcp⟩, hp⟩, hnov⟩, hn1⟩, htr⟩ := hok
  refine ⟨hxf, hP1, hPcp, ?_⟩
  rcases expSpecials_finite c x hxf hP1 with ⟨hx0, hsp⟩ | ⟨hx0, hsp⟩
  · rw [(expT_shape h).of_some hsp]
    rw [(rv_eq_zero_iff x).2 hx0, abs_zero]
    exact Or.inl ⟨rfl, by positivity⟩
  · obtain ⟨hex, hns⟩ := (expT_shape h).deliv hsp hd
    generalize o.d = d at hex ⊢
    generalize o.fl = fl at hex hns
    cases hex with
    | under hov => exact absurd hov hnov
    | over hov => exact absurd hov hnov
    | one _ hone =>
      have hle := abs_rv_le_of_cmp x _ hxf rfl hone
      rw [rv_mk, Nat.cast_ofNat] at hle
      exact Or.inl ⟨rfl, hle⟩
    | main _ _ hq _ hS hip =>
      obtain ⟨pf, ppos, pL, pLpos⟩ :=
        exp_main_path c x hxf hx0 (expCp x cp0) n.toNat (by omega) hp (by omega) hq htr hS hip
      exact Or.inr ⟨_, pf, ppos, pL, pLpos, rfl, noSys_right _ _ hns⟩

end Apd.ExpAcc
