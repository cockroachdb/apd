import ApdVerif.Lemmas.CbrtShape
import ApdVerif.Oracle.Roots
import ApdVerif.Lemmas.RoundedOp
import ApdVerif.Lemmas.RoundShape
import ApdVerif.Lemmas.CbrtNewton
import Mathlib.Tactic.Ring
import Mathlib.Tactic.Linarith
import Mathlib.Tactic.NormNum
import Mathlib.Tactic.Positivity
import Mathlib.Tactic.SplitIfs
import Mathlib.Tactic.FieldSimp
/-!
# `Context.Cbrt`: the working context, `loop.done`

`Cbrt` computes under `BaseContext` at `2·Precision+2` digits, its exactness re-check at `3·Precision`: a `Work` context
of `Lemmas/RoundedOp.lean` with `DefaultTraps` (`NCtx`), so that an operation that reported no error delivered the exact
value rounded once (`mulOp_rounded` …), and one whose operands are in range goes through (`mulOp_ok` …).  Between two
steps the `ErrDecimal` has not failed and carries that context (`EDg`, of the same file).
-/
namespace Apd.CbrtL
open Apd.C20L Apd.SqrtL

structure NCtx (cc : Ctx) (p : Nat) : Prop where
  work : Work cc p
  ht : cc.traps = defaultTraps

theorem NCtx.traps {cc : Ctx} {p : Nat} (h : NCtx cc p) : NoSoftTrap cc.traps := by
  rw [h.ht]; exact noSoftTrap_default

theorem ten_negP (P : Nat) (hP : 1 ≤ P) : (10 : ℚ) ^ (-(P : ℤ)) ≤ 1 / 10 := by
  have : (10 : ℚ) ^ (-(P : ℤ)) ≤ (10 : ℚ) ^ (-1 : ℤ) := zpow_le_zpow_right₀ ten_gt.le (by omega)
  rwa [tm1] at this

theorem decEight_pos : Pos decEight := ⟨rfl, rfl, by decide⟩
theorem decOneEighth_pos : Pos decOneEighth := ⟨rfl, rfl, by decide⟩
theorem decTwo_pos : Pos decTwo := ⟨rfl, rfl, by decide⟩
theorem decThree_pos : Pos decThree := ⟨rfl, rfl, by decide⟩
theorem decThree_toRat : decThree.toRat = 3 := by norm_num [Dec.toRat, decThree]
theorem decOne_toRat : decOne.toRat = 1 := by norm_num [Dec.toRat, decOne]
theorem decOneEighth_toRat : decOneEighth.toRat = 1 / 8 := by norm_num [Dec.toRat, decOneEighth]
theorem decEight_toRat : decEight.toRat = 8 := by norm_num [Dec.toRat, decEight]
theorem decTwo_toRat : decTwo.toRat = 2 := by norm_num [Dec.toRat, decTwo]
theorem cbrtC1_toRat : cbrtC1.toRat = -(46946116 / 100000000) := by norm_num [Dec.toRat, cbrtC1]
theorem cbrtC2_toRat : cbrtC2.toRat = 1072302 / 1000000 := by norm_num [Dec.toRat, cbrtC2]
theorem cbrtC3_toRat : cbrtC3.toRat = 3812513 / 10000000 := by norm_num [Dec.toRat, cbrtC3]
theorem cbrtC2_pos : Pos cbrtC2 := ⟨rfl, rfl, by decide⟩
theorem cbrtC3_pos : Pos cbrtC3 := ⟨rfl, rfl, by decide⟩

theorem test_down (z : Dec) (hz : Pos z) : decide (z.cmp decOneEighth < 0) = true ↔ z.toRat < 1 / 8 := by
  rw [decide_eq_true_eq, (cmp_toRat_lt z decOneEighth hz.hf rfl).1, decOneEighth_toRat]

theorem test_up (z : Dec) (hz : Pos z) : decide (z.cmp decOne > 0) = true ↔ 1 < z.toRat := by
  rw [decide_eq_true_eq, gt_iff_lt, (cmp_toRat_lt z decOne hz.hf rfl).2, decOne_toRat]

theorem stop_arith {v dv ε t z B : ℚ} (hε : ε ≤ 1 / 2000) (hv : |dv - v| ≤ ε * |v|) (hle : |dv| ≤ t * B)
    (hB : B ≤ z) (ht : 0 ≤ t) : |v| ≤ 1001 / 1000 * t * z := by
  have h1 := abs_sub_abs_le_abs_sub v dv
  rw [abs_sub_comm v] at h1
  have h2 := mul_le_mul_of_nonneg_right hε (abs_nonneg v)
  have h3 := mul_le_mul_of_nonneg_left hB ht
  have h4 := abs_nonneg v
  linarith

theorem done_core (cc : Ctx) (p P : Nat) (hw : NCtx cc p) (hp : p = 2 * P + 2) (hP : 1 ≤ P)
    (maxIter : Nat) (l : LoopSt) (zf : Dec) (hprev : l.prevZ.form = .finite) (hzf : Pos zf)
    (h : loopDone cc ((P : ℤ) + 1) maxIter l zf = .done) :
    |l.prevZ.toRat - zf.toRat| ≤ 1001 / 1000 * (10 : ℚ) ^ (-(P : ℤ)) * zf.toRat := by
  have hx := loopDone_exits cc ((P : ℤ) + 1) maxIter l zf
  rw [h] at hx
  have R := addOp_rounded cc hw.work l.prevZ zf true hprev hzf.hf hx.1
  have hv := R.val
  rw [if_pos rfl, ← sub_eq_add_neg] at hv
  have hle := (stop_iff _ zf _ R.fin).1 hx.2
  rw [show -((P : ℤ) + 1) + (ndigits zf.coeff : ℤ) + zf.exp = -(P : ℤ) + (zf.exp + (ndigits zf.coeff : ℤ) - 1) by ring,
    zpow_add₀ ten_ne] at hle
  exact stop_arith (eps_le p (by omega)) hv hle (toRat_bounds hzf).1 (tp _).le

theorem done_first (cc : Ctx) (p P : Nat) (hw : NCtx cc p) (hp : p = 2 * P + 2) (hP : 1 ≤ P)
    (maxIter : Nat) (l : LoopSt) (zf : Dec) (hprev : l.prevZ = {}) (hzf : Pos zf)
    (h : loopDone cc ((P : ℤ) + 1) maxIter l zf = .done) : False := by
  have := done_core cc p P hw hp hP maxIter l zf (by rw [hprev]) hzf h
  rw [hprev] at this
  have h0 : ({} : Dec).toRat = 0 := by simp [Dec.toRat]
  rw [h0, zero_sub, abs_neg, abs_of_pos hzf.toRat_pos] at this
  have ht := ten_negP P hP
  have hzp := hzf.toRat_pos
  have htp := tp (-(P : ℤ))
  have : (10 : ℚ) ^ (-(P : ℤ)) * zf.toRat ≤ 1 / 10 * zf.toRat := mul_le_mul_of_nonneg_right ht hzp.le
  linarith

theorem absD_pos (x : Dec) (hx : x.form = .finite) (h0 : x.coeff ≠ 0) : Pos x.absD :=
  ⟨hx, rfl, Nat.pos_of_ne_zero h0⟩

open Apd.C11Q in
theorem absD_toRat (x : Dec) : x.absD.toRat = magQ x := by
  unfold Dec.absD Dec.toRat magQ; simp

theorem nc_nctx (c : Ctx) (h : c.prec * 2 + 2 ≤ 100000) : NCtx (nc c) (c.prec * 2 + 2) :=
  ⟨⟨rfl, ⟨rfl, rfl, Nat.le_add_left 1 _, Int.ofNat_le.2 h⟩, Or.inl rfl⟩, rfl⟩

theorem eps_eq (P : Nat) : 5 * (10 : ℚ) ^ (-((P * 2 + 2 : ℕ) : ℤ)) = ((10 : ℚ) ^ (-(P : ℤ))) ^ 2 / 20 := by
  have : (-((P * 2 + 2 : ℕ) : ℤ)) = -(P : ℤ) + -(P : ℤ) + (-2) := by push_cast; ring
  rw [this, zpow_add₀ ten_ne, zpow_add₀ ten_ne, sq]
  norm_num
  ring

end Apd.CbrtL
