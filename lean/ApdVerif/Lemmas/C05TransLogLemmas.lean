import ApdVerif.Lemmas.C05TransLemmas
import ApdVerif.Lemmas.TransLogRuns
/-!
# Run lemmas for `expP`, `lnP`, `log10P` (`Imp/TransOps.lean`)

The models `expT`, `lnT`, `log10T` are cut where the programs are: `expT_cp` and `log10T_eq` here, with the parts as
value-level text, and for `lnT` the cut `lnT_eq` of `Lemmas/TransLogRuns` with its tail `LnAcc.lnTail`.  `Log10` calls
`Ln` with its destination a Go local: `TTRes.localize_none/_some`.
-/
namespace Apd.Imp
open Apd.Cond

@[simp, prog_run] theorem run_setFiniteP (d : Cell) (v e : Int) (h : Heap) :
    run (setFiniteP d v e) h = ((), h.set d { form := .finite, neg := decide (v < 0), exp := e, coeff := v.natAbs }) := by
  unfold setFiniteP
  simp

/-- `nc.Quo(&r, x, &k)` with the local `r` at a fresh virtual address -/
theorem run_quoLoc (cc : Ctx) (a b : Cell) (x : Src) (k : Dec) (z : Dec) (h : Heap) :
    LocRun (run (localize (freshCell a x.addr b) (quoP cc (freshCell a x.addr b) x (.const k)) z) h) h
      (quoOp cc (x.val h) k) := by
  have : LocRun _ h _ := (quoP_run cc (freshCell a x.addr b) x (.const k) (h.set (freshCell a x.addr b) z)).localize
  simpa [Src.val_set_of_ne (Src.ne_cell_fresh x a b)] using this

/-- Stage 3 and Stage 4 of `Context.Exp` (the text of `expT`) -/
def expSeriesV (c nc : Ctx) (r : Dec) (t : Nat) (tape : Tape) : Option (Out × Tape) :=
  match tape with
  | .n n :: tape =>
    if n < 0 then some (failOut .other, tape) else
    let s := expSeries r (n.toNat - 1) { c := nc } decOne
    if s.1.failed then some (failOut s.1.errOf, tape) else
    let ip := integerPower nc s.2 ((10 : Int) ^ t)
    if ip.2.2 != .none then some (failOut ip.2.2, tape) else
    let res := (cInexact ||| cRounded) ||| ip.2.1
    let rr := ctxRound { c with mode := .halfEven } ip.1
    let res := res ||| rr.2
    some ({ d := rr.1, fl := res, err := goError c.traps res }, tape)
  | _ => none

/-- `expT` from the overflow test on (its text), as a function of the corrected working precision -/
def expMainV (c : Ctx) (x : Dec) (cp : Nat) (tape : Tape) : Option (Out × Tape) :=
  let res0 := cInexact ||| cRounded
  let ax := x.absD
  if ax.cmp { coeff := cp * 23 } > 0 then
    let res := res0 ||| cOverflow
    if x.sign < 0 then
      let res := res.negateOverflowFlags ||| cClamped
      some ({ d := { coeff := 0, exp := c.emin - (c.prec : Int) + 1 }, fl := res, err := goError c.traps res }, tape)
    else some ({ d := decInf, fl := res, err := goError c.traps res }, tape)
  else if ax.cmp { coeff := 9, exp := -(cp : Int) - 1 } ≤ 0 then
    some ({ d := decOne, fl := res0, err := goError c.traps res0 }, tape)
  else
    let t0 : Int := x.exp + (ndigits x.coeff : Int)
    let t : Nat := if t0 < 0 then 0 else t0.toNat
    let k : Dec := { coeff := 1, exp := t }
    let p : Nat := cp + t + 2
    let nc : Ctx := { c with prec := p, mode := .halfEven, emin := MinExponent, emax := MaxExponent }
    let q := quoOp nc x k
    if q.err != .none then some (failOut q.err, tape) else
    expSeriesV c nc q.d t tape

theorem expT_cp (c : Ctx) (x : Dec) (cp : Nat) (tape : Tape) (hsp : expSpecials c x = none) :
    expT c x (.cp cp :: tape) = expMainV c x (expCp x.absD cp) tape := by
  unfold expT
  rw [hsp]
  rfl

theorem expT_not_cp (c : Ctx) (x : Dec) (tape : Tape) (hsp : expSpecials c x = none)
    (ht : ∀ cp t, tape ≠ .cp cp :: t) : expT c x tape = none := by
  unfold expT
  rw [hsp]
  cases tape with
  | nil => rfl
  | cons e t =>
    cases e with
    | cp cp => exact absurd rfl (ht cp t)
    | n n => rfl
    | est v => rfl

theorem expSeriesP_run (c nc : Ctx) (d : Cell) (r : Dec) (t : Nat) (tape : Tape) (h : Heap) :
    TTRes (run (expSeriesP c nc d r t tape) h) d h (expSeriesV c nc r t tape) := by
  unfold expSeriesP expSeriesV
  cases tape with
  | nil => exact TTRes.reject d h
  | cons e tp =>
    cases e with
    | cp cp => exact TTRes.reject d h
    | est v => exact TTRes.reject d h
    | n n =>
      dsimp only
      by_cases hn : n < 0
      · simp only [hn, if_true, run_retT]
        exact TTRes.mk (TRes.abort d h (by simp))
      · simp only [hn, if_false]
        generalize expSeries r (n.toNat - 1) { c := nc } decOne = s
        by_cases hf : s.1.failed = true
        · simp only [hf, if_true, run_retT]
          exact TTRes.mk (TRes.abort d h (ED.errOf_ne_none hf))
        · simp only [hf, if_false, Bool.false_eq_true, run_bind, run_retT]
          have := run_expFinishP c nc d s.2 t h
          unfold expTailV at this
          generalize integerPower nc s.2 ((10 : Int) ^ t) = ip at this ⊢
          by_cases h1 : (ip.2.2 != ErrKind.none) = true
          · simp only [h1, if_true] at this ⊢
            exact TTRes.ofRun this
          · simp only [h1] at this ⊢
            exact TTRes.ofRun this

theorem expMainP_run (c : Ctx) (d : Cell) (x : Src) (cp : Nat) (tape : Tape) (h : Heap) :
    TTRes (run (expMainP c d x (x.val h).absD cp tape) h) d h (expMainV c (x.val h) cp tape) := by
  unfold expMainP expMainV
  simp only []
  by_cases h1 : (x.val h).absD.cmp { coeff := cp * 23 } > 0
  · simp only [prog_run, h1, if_true]
    by_cases h2 : (x.val h).sign < 0
    · simp only [prog_run, h2, if_true]
      exact TTRes.mk (TRes.exact d h { d := _, fl := _, err := _ })
    · simp only [prog_run, h2, if_false]
      exact TTRes.mk (TRes.exact d h { d := _, fl := _, err := _ })
  · simp only [h1, if_false]
    by_cases h2 : (x.val h).absD.cmp { coeff := 9, exp := -(cp : Int) - 1 } ≤ 0
    · simp only [prog_run, h2, if_true]
      exact TTRes.mk (TRes.exact d h { d := _, fl := _, err := _ })
    · simp only [prog_run, h2, if_false]
      generalize (if (x.val h).exp + (ndigits (x.val h).coeff : Int) < 0 then 0
        else ((x.val h).exp + (ndigits (x.val h).coeff : Int)).toNat) = t
      obtain ⟨fl, aux, w, hq, hd⟩ := run_quoLoc
        { c with prec := cp + t + 2, mode := .halfEven, emin := MinExponent, emax := MaxExponent } d 0 x
        { coeff := 1, exp := t } {} h
      simp only [hq]
      generalize quoOp { c with prec := cp + t + 2, mode := .halfEven, emin := MinExponent, emax := MaxExponent }
        (x.val h) { coeff := 1, exp := t } = q at hd ⊢
      by_cases he : (q.err != ErrKind.none) = true
      · simp only [he, if_true]
        exact TTRes.mk (TRes.abort d h (by simpa using he))
      · simp only [he, if_false, Bool.false_eq_true]
        have hnone : q.err = .none := by simpa using he
        obtain ⟨_, _, rfl⟩ := hd (Or.inl hnone)
        exact expSeriesP_run c _ d _ t tape h

theorem expP_run (c : Ctx) (d : Cell) (x : Src) (tape : Tape) (h : Heap) :
    TTRes (run (expP c d x tape) h) d h (expT c (x.val h) tape) := by
  unfold expP
  simp only [prog_run, Option.map_none]
  by_cases hn : shouldSetAsNaN (x.val h) none = true
  · have hm : expT c (x.val h) tape = some (setAsNaN c (x.val h) none, tape) := by
      unfold expT expSpecials; simp only [hn, if_true]
    simp only [hn, if_true, hm, run_setAsNaNP c d x none h hn, Option.map_none]
    exact TTRes.mk ⟨_, _, _, rfl, fun _ => ⟨rfl, by simp, fun _ => rfl⟩⟩
  · bsimp [hn]
    cases hi : ((x.val h).form == Form.infinite) <;> bsimp [hi]
    rotate_left
    · cases hneg : (x.val h).neg <;> bsimp [hneg]
      · have hm : expT c (x.val h) tape = some ({ d := decInf }, tape) := by
          unfold expT expSpecials; bsimp [hn, hi, hneg]
        simp only [prog_run, hm]
        exact TTRes.mk (TRes.exact d h { d := decInf })
      · have hm : expT c (x.val h) tape = some ({ d := decZero }, tape) := by
          unfold expT expSpecials; bsimp [hn, hi, hneg]
        simp only [prog_run, hm]
        exact TTRes.mk (TRes.exact d h { d := decZero })
    cases hz : (x.val h).isZero <;> bsimp [hz]
    rotate_left
    · have hm : expT c (x.val h) tape = some ({ d := decOne }, tape) := by
        unfold expT expSpecials; bsimp [hn, hi, hz]
      simp only [prog_run, hm]
      exact TTRes.mk (TRes.exact d h { d := decOne })
    cases hp : (c.prec == 0) <;> bsimp [hp]
    rotate_left
    · have hm : expT c (x.val h) tape = some (failWith .zeroPrec, tape) := by
        unfold expT expSpecials; bsimp [hn, hi, hz, hp]
      simp only [hm]
      exact TTRes.mk (TRes.ofOp (SRes.undelivered d h not_delivered_zeroPrec {} 0))
    have hsp : expSpecials c (x.val h) = none := by
      unfold expSpecials; bsimp [hn, hi, hz, hp]
    have hax : ({ form := (x.val h).form, neg := false, exp := (x.val h).exp, coeff := (x.val h).coeff } : Dec) =
        (x.val h).absD := rfl
    simp only [hax]
    cases tape with
    | nil => rw [expT_not_cp _ _ _ hsp (fun _ _ e => by cases e)]; exact TTRes.reject d h
    | cons e t =>
      cases e with
      | cp cp => rw [expT_cp _ _ _ _ hsp]; exact expMainP_run c d x _ t h
      | n n => rw [expT_not_cp _ _ _ hsp (fun _ _ e => by cases e)]; exact TTRes.reject d h
      | est v => rw [expT_not_cp _ _ _ hsp (fun _ _ e => by cases e)]; exact TTRes.reject d h

theorem spRun_logSpecialsP (c : Ctx) (d : Cell) (x : Src) (h : Heap) :
    SpRun (run (logSpecialsP c d x) h) d h (logSpecials c (x.val h)) := by
  unfold SpRun logSpecialsP logSpecials
  simp only [prog_run, Option.map_none]
  by_cases hn : shouldSetAsNaN (x.val h) none = true
  · simp only [hn, if_true, run_setAsNaNP c d x none h hn, Option.map_none]
    exact Or.inr ⟨_, _, rfl, rfl, fun _ => rfl, by simp⟩
  bsimp [hn]
  bcases hs : (x.val h).sign < 0
  · exact Or.inr ⟨_, _, rfl, rfl, fun _ => rfl, rfl⟩
  cases hi : ((x.val h).form == Form.infinite) <;> bsimp [hi]
  rotate_left
  · exact Or.inr ⟨_, _, rfl, rfl, fun _ => rfl, rfl⟩
  cases h0 : ((x.val h).cmp decZero == 0) <;> bsimp [h0]
  rotate_left
  · exact Or.inr ⟨_, _, rfl, rfl, fun _ => rfl, rfl⟩
  cases h1 : ((x.val h).cmp decOne == 0) <;> bsimp [h1]
  · exact Or.inl ⟨trivial, trivial⟩
  · exact Or.inr ⟨_, _, rfl, rfl, fun _ => rfl, rfl⟩

theorem lnFinishP_run (c : Ctx) (d : Cell) (ed : ED) (tmp1 ra : Dec) (tape : Tape) (h : Heap) :
    TTRes (some ((run (lnFinishP c d ed tmp1 ra) h).1, tape), (run (lnFinishP c d ed tmp1 ra) h).2) d h
      (LnAcc.lnTail c ed tmp1 ra tape) := by
  unfold lnFinishP LnAcc.lnTail LnAcc.lnSum
  simp only []
  by_cases hf : (ed.step tmp1 (fun cc => addOp cc tmp1 ra false)).1.failed = true
  · simp only [hf, if_true, run_retErr]
    exact TTRes.mk (TRes.abort d h (ED.errOf_ne_none hf))
  · simp only [prog_run, hf, if_false, Bool.false_eq_true, ctxRound]
    exact TTRes.mk (TRes.exact d h { d := _, fl := _, err := _ })

theorem lnP_run (c : Ctx) (d : Cell) (x : Src) (tape : Tape) (h : Heap) :
    TTRes (run (lnP c d x tape) h) d h (lnT c (x.val h) tape) := by
  unfold lnP
  rcases spRun_logSpecialsP c d x h with ⟨hs, hr⟩ | ⟨o, v, hs, hr, hd, ha⟩
  · rw [lnT_eq c _ _ hs]
    simp only [run_bind, hr, run_snapP]
    cases hpre : lnPre c (x.val h) tape with
    | none => exact TTRes.reject d h
    | some pre =>
      obtain ⟨ed, z, tmp1, ra, series, tp⟩ := pre
      simp only [run_bind]
      have hskip : (run (if series = true then pure () else do let _ ← snapP x; pure ()) h).2 = h := by
        cases series <;> simp
      rw [hskip]
      unfold LnAcc.lnFinish
      cases hb : lnBody c ed z tmp1 series tp with
      | none => exact TTRes.reject d h
      | some b =>
        obtain ⟨e2, r, tp2⟩ := b
        cases r with
        | inl er =>
          simp only [run_retT]
          exact TTRes.mk (TRes.abort d h (lnBody_inl_ne hb))
        | inr t1 =>
          simp only [run_bind, run_retT]
          exact lnFinishP_run c d e2 t1 ra tp2 h
  · have hm : lnT c (x.val h) tape = some (o, tape) := by unfold lnT; simp only [hs]
    simp only [run_bind, hr, run_retT, hm]
    exact TTRes.mk (TRes.ofOp (SRes.of_special ha hd))

theorem TTRes.localize_none {p : Prog (Option (Res × Tape))} {L : Cell} {h : Heap} {v : Dec}
    (hr : TTRes (run p (h.set L v)) L (h.set L v) none) :
    ∃ w, run (Imp.localize L p v) h = ((none, w), h) := by
  obtain ⟨h1, w, h2⟩ := hr
  refine ⟨w, ?_⟩
  rw [run_localize, h1, h2]; simp

theorem TTRes.localize_some {p : Prog (Option (Res × Tape))} {L : Cell} {h : Heap} {v : Dec} {m : Out} {t : Tape}
    (hr : TTRes (run p (h.set L v)) L (h.set L v) (some (m, t))) :
    ∃ fl aux w, run (Imp.localize L p v) h = ((some ((fl, m.err, aux), t), w), h) ∧
        (Delivered m.err → fl = m.fl ∧ aux = m.aux ∧ (¬ m.Aborted → w = m.d)) := by
  obtain ⟨res, h1, fl, aux, w, h2, hd⟩ := hr
  refine ⟨fl, aux, w, ?_, hd⟩
  have e1 : res = (fl, m.err, aux) := (Prod.mk.inj h2).1
  have e2 : (run p (h.set L v)).2 = (h.set L v).set L w := (Prod.mk.inj h2).2
  rw [run_localize, h1, e2, e1]; simp

/-- `log10T` from the multiplication by `1/ln 10` on (its text) -/
def log10FinV (c : Ctx) (l : Out) (tape : Tape) : Option (Out × Tape) :=
  let nc : Ctx := { baseCtx with prec := c.prec + 2, mode := .halfEven }
  if l.err != .none then some (failOut l.err, tape) else
  let m := mulOp { nc with prec := c.prec } l.d (invLn10At (c.prec + 2))
  if m.err != .none then some (failOut m.err, tape) else
  let rr := ctxRound c m.d
  let res := (cInexact ||| cRounded) ||| m.fl ||| rr.2
  some ({ d := rr.1, fl := res, err := goError c.traps res }, tape)

theorem log10T_eq (c : Ctx) (x : Dec) (tape : Tape) (hsp : logSpecials c x = none) :
    log10T c x tape =
      match lnT { baseCtx with prec := c.prec + 2, mode := .halfEven } x tape with
      | none => none
      | some (l, tape) => log10FinV c l tape := by
  unfold log10T
  rw [hsp]
  simp only []
  generalize lnT _ x tape = r
  cases r with
  | none => rfl
  | some lt => rfl

theorem log10P_run (c : Ctx) (d : Cell) (x : Src) (tape : Tape) (h : Heap) :
    TTRes (run (log10P c d x tape) h) d h (log10T c (x.val h) tape) := by
  unfold log10P
  rcases spRun_logSpecialsP c d x h with ⟨hs, hr⟩ | ⟨o, v, hs, hr, hd, ha⟩
  · rw [log10T_eq c _ _ hs]
    simp only [run_bind, hr]
    have hl0 := lnP_run { baseCtx with prec := c.prec + 2, mode := .halfEven } (freshCell d x.addr 0) x tape
      (h.set (freshCell d x.addr 0) {})
    rw [Src.val_set_of_ne (Src.ne_cell_fresh x d 0)] at hl0
    cases hm : lnT { baseCtx with prec := c.prec + 2, mode := .halfEven } (x.val h) tape with
    | none =>
      rw [hm] at hl0
      obtain ⟨w, hw⟩ := hl0.localize_none
      rw [hw]
      exact TTRes.reject d h
    | some lt =>
      obtain ⟨l, tp⟩ := lt
      rw [hm] at hl0
      obtain ⟨fl, aux, w, hw, hd⟩ := hl0.localize_some
      rw [hw]
      unfold log10FinV
      simp only [run_ite]
      by_cases he : (l.err != ErrKind.none) = true
      · simp only [he, if_true, run_retT]
        exact TTRes.mk (TRes.abort d h (by simpa using he))
      · simp only [he, if_false, Bool.false_eq_true]
        have hnone : l.err = .none := by simpa using he
        have hna : ¬ l.Aborted := fun ha => by rw [ha.2] at hnone; cases hnone
        obtain ⟨_, _, hw2⟩ := hd (Or.inl hnone)
        have hw3 := hw2 hna
        subst hw3
        obtain ⟨fl2, aux2, v2, hv, hd2⟩ := mulP_run { baseCtx with prec := c.prec, mode := .halfEven } d (.const l.d)
          (.const (invLn10At (c.prec + 2))) h
        simp only [Src.val_const] at hv hd2
        simp only [run_bind, hv, run_ite]
        generalize mulOp { baseCtx with prec := c.prec, mode := .halfEven } l.d (invLn10At (c.prec + 2)) = m at hv hd2 ⊢
        by_cases he2 : (m.err != ErrKind.none) = true
        · simp only [he2, if_true, run_retT]
          exact TTRes.mk (TRes.abort_set d h v2 (by simpa using he2))
        · simp only [he2, if_false, Bool.false_eq_true]
          have hnone2 : m.err = .none := by simpa using he2
          obtain ⟨rfl, _, rfl⟩ := hd2 (Or.inl hnone2)
          simp only [prog_run, ctxRound]
          exact TTRes.mk (TRes.exact d h { d := _, fl := _, err := _ })
  · have hm : log10T c (x.val h) tape = some (o, tape) := by unfold log10T; simp only [hs]
    simp only [run_bind, hr, run_retT, hm]
    exact TTRes.mk (TRes.ofOp (SRes.of_special ha hd))

end Apd.Imp
