/-!
# Bit length

`Decomp.bitLen`, `bitLen` (table.go) and `BigInt.bitLen` are three copies of one expression, each next to the Go
function it models; its two facts are proved here once, about the expression.
-/
namespace Apd

theorem bitLenExpr_le_iff (n k : Nat) : (if n = 0 then 0 else Nat.log2 n + 1) ≤ k ↔ n < 2 ^ k := by
  split
  · rename_i h; subst h; simp [Nat.pow_pos]
  · rename_i h; rw [Nat.add_one_le_iff, Nat.log2_lt h]

theorem bitLenExpr_spec (n : Nat) (h : n ≠ 0) :
    1 ≤ (if n = 0 then 0 else Nat.log2 n + 1) ∧ 2 ^ ((if n = 0 then 0 else Nat.log2 n + 1) - 1) ≤ n ∧
      n < 2 ^ (if n = 0 then 0 else Nat.log2 n + 1) := by
  rw [if_neg h]
  exact ⟨Nat.succ_pos _, Nat.log2_self_le h, Nat.lt_log2_self⟩

end Apd
