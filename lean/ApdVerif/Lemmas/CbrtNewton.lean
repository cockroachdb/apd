import Mathlib.Analysis.SpecialFunctions.Pow.Real
import Mathlib.Tactic.Linarith
import Mathlib.Tactic.Positivity
import Mathlib.Tactic.Ring
import Mathlib.Tactic.NormNum
import Mathlib.Tactic.FieldSimp
/-!
# Newton's iteration for the cube root with rounded operations — the numerical core

`Context.Cbrt` repeats `z ← (2·z0 + X/z0²)/3` at `2P+2` digits (five rounded operations, each with a relative
error of at most `ε = 5·10^(-2P-2)`) and stops as soon as two consecutive iterates differ by at most
`η·z`, `η ≈ 10^(-P)`.  This file shows that the stopping rule ALONE forces the last iterate to be within
`3·10^(-2P)` (relative) of the cube root — whatever the previous iterate was.

Everything is parametrised by `t = 10^(-P) ∈ (0, 1/10]`: `η = 1.001·t`, `ε = t²/20`.
`rel_round` and `five_ops` (the five rounded operations of a round are a Newton step up to `5.02·ε`: `NStep`) hold over
any ordered field; `newton_stop` is the statement over ℝ, `newton_stop_q` over ℚ.
-/
namespace Apd.CbrtN

section Field
variable {K : Type*} [Field K] [LinearOrder K] [IsStrictOrderedRing K]

theorem rel_round {a A e u k k' : K} (hA : 0 ≤ A) (hk : 0 ≤ k) (hu : u ≤ 1 / 2000) (he : |e| ≤ u)
    (hk' : k + 1 + k / 2000 ≤ k') (ha : |a - A| ≤ k * u * A) : |a * (1 + e) - A| ≤ k' * u * A := by
  have hu0 : 0 ≤ u := (abs_nonneg e).trans he
  have hkuA : 0 ≤ k * u * A := mul_nonneg (mul_nonneg hk hu0) hA
  have h1 : |(a - A) * (1 + e)| ≤ k * u * A * (1 + u) := by
    rw [abs_mul]
    exact mul_le_mul ha ((abs_add_le 1 e).trans (by rw [abs_one]; linarith)) (abs_nonneg _) hkuA
  have h2 : |A * e| ≤ A * u := by
    rw [abs_mul, abs_of_nonneg hA]; exact mul_le_mul_of_nonneg_left he hA
  have h3 : k * u * A * u ≤ k * u * A * (1 / 2000) := mul_le_mul_of_nonneg_left hu hkuA
  have h4 : (k + 1 + k / 2000) * (u * A) ≤ k' * (u * A) := mul_le_mul_of_nonneg_right hk' (mul_nonneg hu0 hA)
  calc |a * (1 + e) - A| = |(a - A) * (1 + e) + A * e| := by congr 1; ring
    _ ≤ |(a - A) * (1 + e)| + |A * e| := abs_add_le _ _
    _ ≤ k' * u * A := by linarith

theorem rel_inv {A e u : K} (hA : 0 ≤ A) (hu : u ≤ 1 / 2000) (he : |e| ≤ u) :
    |A / (1 + e) - A| ≤ 1001 / 1000 * u * A := by
  have hu0 : 0 ≤ u := (abs_nonneg e).trans he
  have hlo : 1999 / 2000 ≤ 1 + e := by linarith [(abs_le.mp he).1]
  have hpos : 0 < 1 + e := by linarith
  have h3 : |e| / (1 + e) ≤ 1001 / 1000 * u := by
    rw [div_le_iff₀ hpos]
    calc |e| ≤ 1001 / 1000 * u * (1999 / 2000) := by linarith
      _ ≤ 1001 / 1000 * u * (1 + e) := mul_le_mul_of_nonneg_left hlo (by positivity)
  rw [div_sub' hpos.ne', add_mul, one_mul, sub_add_cancel_left, abs_div, abs_neg, abs_mul, abs_of_nonneg hA,
    abs_of_pos hpos, mul_div_right_comm]
  exact mul_le_mul_of_nonneg_right h3 hA

theorem rel_add {a A B δ : K} (hB : 0 ≤ δ * B) (ha : |a - A| ≤ δ * A) : |a + B - (A + B)| ≤ δ * (A + B) := by
  rw [add_sub_add_right_eq_sub, mul_add]; linarith

theorem rel_div {a A δ c : K} (hc : 0 < c) (ha : |a - A| ≤ δ * A) : |a / c - A / c| ≤ δ * (A / c) := by
  rw [← sub_div, abs_div, abs_of_pos hc, ← mul_div_assoc]; exact div_le_div_of_nonneg_right ha hc.le

/-- each operation adds `u` to the relative error accumulated so far (`rel_round`) -/
theorem five_ops {X z0 t1 t2 t3 t4 z e1 e2 e3 e4 e5 u : K} (hX : 0 < X) (hz : 0 < z0)
    (hu : u ≤ 1 / 2000)
    (h1 : |e1| ≤ u) (h2 : |e2| ≤ u) (h3 : |e3| ≤ u) (h4 : |e4| ≤ u) (h5 : |e5| ≤ u)
    (d1 : t1 = z0 * z0 * (1 + e1)) (d2 : t2 = X / t1 * (1 + e2)) (d3 : t3 = (t2 + z0) * (1 + e3))
    (d4 : t4 = (t3 + z0) * (1 + e4)) (d5 : z = t4 / 3 * (1 + e5)) :
    |z - (2 * z0 + X / (z0 * z0)) / 3| ≤ 502 / 100 * u * ((2 * z0 + X / (z0 * z0)) / 3) := by
  have hu0 : 0 ≤ u := (abs_nonneg e1).trans h1
  have hQ : 0 ≤ X / (z0 * z0) := (div_pos hX (mul_pos hz hz)).le
  rw [d1, div_mul_eq_div_div] at d2
  generalize X / (z0 * z0) = Q at hQ d2 ⊢
  have k2 : |t2 - Q| ≤ 2002 / 1000 * u * Q :=
    d2 ▸ rel_round hQ (by norm_num) hu h2 (by norm_num) (rel_inv hQ hu h1)
  have k3 : |t3 - (Q + z0)| ≤ 3004 / 1000 * u * (Q + z0) :=
    d3 ▸ rel_round (by positivity) (by norm_num) hu h3 (by norm_num) (rel_add (by positivity) k2)
  have k4 : |t4 - (Q + z0 + z0)| ≤ 4007 / 1000 * u * (Q + z0 + z0) :=
    d4 ▸ rel_round (by positivity) (by norm_num) hu h4 (by norm_num) (rel_add (by positivity) k3)
  have k5 : |z - (Q + z0 + z0) / 3| ≤ 502 / 100 * u * ((Q + z0 + z0) / 3) :=
    d5 ▸ rel_round (by positivity) (by norm_num) hu h5 (by norm_num) (rel_div (by norm_num) k4)
  rwa [show (2 * z0 + Q) / 3 = (Q + z0 + z0) / 3 by ring]

end Field

theorem perturb5 (X z0 t1 t2 t3 t4 z e1 e2 e3 e4 e5 u : ℝ) (hX : 0 < X) (hz : 0 < z0)
    (hu : u ≤ 1 / 2000)
    (h1 : |e1| ≤ u) (h2 : |e2| ≤ u) (h3 : |e3| ≤ u) (h4 : |e4| ≤ u) (h5 : |e5| ≤ u)
    (d1 : t1 = z0 * z0 * (1 + e1)) (d2 : t2 = X / t1 * (1 + e2)) (d3 : t3 = (t2 + z0) * (1 + e3))
    (d4 : t4 = (t3 + z0) * (1 + e4)) (d5 : z = t4 / 3 * (1 + e5)) :
    |z - (2 * z0 + X / (z0 * z0)) / 3| ≤ 502 / 100 * u * ((2 * z0 + X / (z0 * z0)) / 3) :=
  five_ops hX hz hu h1 h2 h3 h4 h5 d1 d2 d3 d4 d5

/-! ## Newton's map `a ↦ n = (2a³ + 1)/(3a²)` for the root 1 -/

theorem newton_sub_one {a n : ℝ} (hn : 3 * a ^ 2 * n = 2 * a ^ 3 + 1) :
    3 * a ^ 2 * (n - 1) = (a - 1) ^ 2 * (2 * a + 1) := by linear_combination hn

theorem newton_ge_one {a n : ℝ} (ha : 0 < a) (hn : 3 * a ^ 2 * n = 2 * a ^ 3 + 1) : 0 ≤ n - 1 := by
  refine nonneg_of_mul_nonneg_right ?_ (show 0 < 3 * a ^ 2 by positivity)
  rw [newton_sub_one hn]; positivity

theorem newton_sub_one_le {a n c : ℝ} (ha : 0 < a) (hn : 3 * a ^ 2 * n = 2 * a ^ 3 + 1)
    (hc : 2 * a + 1 ≤ c * (3 * a ^ 2)) : n - 1 ≤ c * (a - 1) ^ 2 := by
  refine le_of_mul_le_mul_left ?_ (show 0 < 3 * a ^ 2 by positivity)
  rw [newton_sub_one hn]
  calc (a - 1) ^ 2 * (2 * a + 1) ≤ (a - 1) ^ 2 * (c * (3 * a ^ 2)) := mul_le_mul_of_nonneg_left hc (sq_nonneg _)
    _ = 3 * a ^ 2 * (c * (a - 1) ^ 2) := by ring

theorem newton_excess {a n K : ℝ} (ha : 0 < a) (hn : 3 * a ^ 2 * n = 2 * a ^ 3 + 1) (hK0 : 0 ≤ K)
    (hK : K ≤ 103 / 1000) (hc : |a ^ 3 - 1| ≤ K * (2 * a ^ 3 + 1)) : n - 1 ≤ 16 / 10 * K ^ 2 := by
  obtain ⟨c2, c1⟩ := abs_le.mp hc
  have ha3 : 0 < a ^ 3 := by positivity
  have hKa : K * (2 * a ^ 3 + 1) ≤ 103 / 1000 * (2 * a ^ 3 + 1) := mul_le_mul_of_nonneg_right hK (by positivity)
  have blo : 7437 / 10000 ≤ a ^ 3 := by linarith only [c2, hKa]
  have bhi : a ^ 3 ≤ 13892 / 10000 := by linarith only [c1, hKa]
  have alo : 9 / 10 ≤ a := le_of_pow_le_pow_left₀ (n := 3) (by norm_num) ha.le (le_trans (by norm_num) blo)
  have hK2 : 0 ≤ K ^ 2 := sq_nonneg K
  rcases le_total 1 a with h1a | h1a
  · -- `a ≥ 1`: `3(a-1) ≤ a³-1 ≤ 3.78·K`, and `n - 1 ≤ (a-1)²`
    have g1 : 3 * (a - 1) ≤ a ^ 3 - 1 := by nlinarith only [mul_nonneg (sq_nonneg (a - 1)) (by linarith : 0 ≤ a + 2)]
    have g2 : K * (2 * a ^ 3 + 1) ≤ K * (37784 / 10000) :=
      mul_le_mul_of_nonneg_left (by linarith only [bhi]) hK0
    have g4 : (a - 1) ^ 2 ≤ (126 / 100 * K) ^ 2 :=
      pow_le_pow_left₀ (by linarith only [h1a]) (by linarith only [g1, c1, g2, hK0]) 2
    have g6 := newton_sub_one_le (c := 1) ha hn (by nlinarith only [h1a])
    linarith only [g4, g6, hK2]
  · -- `a ≤ 1`: `2.71(1-a) ≤ 1-a³ ≤ 3·K`, and `n - 1 ≤ (a-1)²/0.81`
    have g1 : 271 / 100 * (1 - a) ≤ 1 - a ^ 3 := by
      nlinarith only [mul_le_mul_of_nonneg_left (by nlinarith only [alo] : 271 / 100 ≤ a ^ 2 + a + 1) (sub_nonneg.2 h1a)]
    have g2 : K * (2 * a ^ 3 + 1) ≤ K * 3 :=
      mul_le_mul_of_nonneg_left (by linarith [pow_le_one₀ ha.le h1a (n := 3)]) hK0
    have g4 : (a - 1) ^ 2 ≤ (111 / 100 * K) ^ 2 := by
      rw [← neg_sub, neg_sq]; exact pow_le_pow_left₀ (by linarith only [h1a]) (by linarith only [g1, c2, g2, hK0]) 2
    have g6 := newton_sub_one_le (c := 100 / 81) ha hn (by nlinarith only [alo, h1a])
    linarith only [g4, g6, hK2]

/-- **the stopping rule forces closeness**, normalised to root `1`: `a = z0/r`, `n = N/r` the exact Newton
step, `w = z/r` the computed one.  The two hypotheses put `a` within `1.03·t·n` of its own Newton step, i.e. `a³` within
`1.03·t·(2a³+1)` of 1; then `n - 1 ≤ 1.7·t²` and `w` is within `0.26·t²` of `n`. -/
theorem core {a n w t : ℝ} (ha : 0 < a) (ht : 0 < t) (ht1 : t ≤ 1 / 10)
    (hn : 3 * a ^ 2 * n = 2 * a ^ 3 + 1)
    (hw : |w - n| ≤ 251 / 1000 * t ^ 2 * n)
    (hs : |a - w| ≤ 1001 / 1000 * t * w) : w * (1 - 3 * t ^ 2) ≤ 1 ∧ 1 ≤ w * (1 + 3 * t ^ 2) := by
  have hn1 := newton_ge_one ha hn
  have hn0 : 0 < n := by linarith
  have htn : 0 < t * n := mul_pos ht hn0
  have ht2 : t ^ 2 * n ≤ 1 / 10 * (t * n) := by nlinarith only [ht1, htn]
  have ht2n : 0 < t ^ 2 * n := by positivity
  obtain ⟨w1, w2⟩ := abs_le.mp hw
  have htn1 : t * n ≤ 1 / 10 * n := mul_le_mul_of_nonneg_right ht1 hn0.le
  have hwn : w ≤ 1003 / 1000 * n := by linarith only [w2, ht2, htn1, hn0]
  have hsw : 1001 / 1000 * t * w ≤ 1001 / 1000 * t * (1003 / 1000 * n) :=
    mul_le_mul_of_nonneg_left hwn (by positivity)
  have han : |a - n| ≤ 103 / 100 * t * n := by
    have := abs_sub_le a w n
    linarith only [this, hs, hsw, hw, ht2, htn]
  have hc : |a ^ 3 - 1| ≤ 103 / 100 * t * (2 * a ^ 3 + 1) := by
    have e1 : a ^ 3 - 1 = 3 * a ^ 2 * (a - n) := by linear_combination hn
    have e2 : 103 / 100 * t * (2 * a ^ 3 + 1) = 3 * a ^ 2 * (103 / 100 * t * n) := by
      linear_combination (-(103 / 100 * t)) * hn
    rw [e1, e2, abs_mul, abs_of_pos (show 0 < 3 * a ^ 2 by positivity)]
    exact mul_le_mul_of_nonneg_left han (by positivity)
  have hnb := newton_excess ha hn (by positivity) (by linarith only [ht1]) hc
  have hT : t ^ 2 ≤ 1 / 100 := by nlinarith only [ht, ht1]
  have hT0 : 0 < t ^ 2 := by positivity
  have hnb' : n - 1 ≤ 17 / 10 * t ^ 2 := by nlinarith only [hnb, hT0]
  generalize t ^ 2 = T at *
  have hTn : T * (n - 1) ≤ T * (17 / 10 * T) := mul_le_mul_of_nonneg_left hnb' hT0.le
  have hTT : T * T ≤ 1 / 100 * T := mul_le_mul_of_nonneg_right hT hT0.le
  have hw1 : |w - 1| ≤ 5 / 2 * T :=
    abs_le.mpr ⟨by linarith only [w1, hn1, hTn, hTT, hT0], by linarith only [w2, hnb', hTn, hTT, hT0]⟩
  obtain ⟨l, u⟩ := abs_le.mp hw1
  have hwT' : T * (-(5 / 2 * T)) ≤ T * (w - 1) := mul_le_mul_of_nonneg_left l hT0.le
  exact ⟨by linarith only [u, hwT', hTT, hT0], by linarith only [l, hwT', hTT, hT0]⟩

/-- dividing by the root `r`: the exact step from `z0` for `X = r³` becomes the exact step from `z0 / r` for 1 -/
theorem newton_norm {X r z0 : ℝ} (hr : 0 < r) (hX : X = r ^ 3) (hz0 : 0 < z0) :
    3 * (z0 / r) ^ 2 * ((2 * z0 + X / (z0 * z0)) / 3 / r) = 2 * (z0 / r) ^ 3 + 1 := by
  rw [hX]; field_simp

theorem newton_stop (X r z0 z t : ℝ) (hr : 0 < r) (hX : X = r ^ 3) (hz0 : 0 < z0) (ht : 0 < t) (ht1 : t ≤ 1 / 10)
    (hN : |z - (2 * z0 + X / (z0 * z0)) / 3| ≤ 502 / 100 * (t ^ 2 / 20) * ((2 * z0 + X / (z0 * z0)) / 3))
    (hs : |z0 - z| ≤ 1001 / 1000 * t * z) :
    z * (1 - 3 * t ^ 2) ≤ r ∧ r ≤ z * (1 + 3 * t ^ 2) := by
  have hw := rel_div hr (hN.trans_eq (show _ = 251 / 1000 * t ^ 2 * _ by ring))
  obtain ⟨c1, c2⟩ := core (div_pos hz0 hr) ht ht1 (newton_norm hr hX hz0) hw (rel_div hr hs)
  have e : ∀ s, z / r * s * r = z * s := fun s => by field_simp
  exact ⟨by simpa [e] using mul_le_mul_of_nonneg_right c1 hr.le,
    by simpa [e] using mul_le_mul_of_nonneg_right c2 hr.le⟩

theorem exists_cube_root {x : ℝ} (hx : 0 < x) : ∃ r : ℝ, 0 < r ∧ x = r ^ 3 :=
  ⟨x ^ (((3 : ℕ) : ℝ)⁻¹), Real.rpow_pos_of_pos hx _, (Real.rpow_inv_natCast_pow hx.le (by norm_num)).symm⟩

/-- `z` is the exact Newton step from `z0` for `X`, up to a relative error `5.02·ε`: what the five rounded operations
of a round deliver (`five_ops`) -/
def NStep (ε X z0 z : ℚ) : Prop :=
  |z - (2 * z0 + X / (z0 * z0)) / 3| ≤ 502 / 100 * ε * ((2 * z0 + X / (z0 * z0)) / 3)

/-- **the iterate at which `Cbrt` stops is within `3·t²` of the cube root** — stated on rationals, with
cubes instead of a root.  `t = 10^(-P)`; the last round is a Newton step up to `5.02·ε`, `ε = 5·10^(-2P-2) = t²/20`;
`hs` is the stopping rule. -/
theorem newton_stop_q (X z0 z t : ℚ) (hX : 0 < X) (hz0 : 0 < z0) (ht : 0 < t) (ht1 : t ≤ 1 / 10)
    (hN : NStep (t ^ 2 / 20) X z0 z) (hs : |z0 - z| ≤ 1001 / 1000 * t * z) :
    (z * (1 - 3 * t ^ 2)) ^ 3 ≤ X ∧ X ≤ (z * (1 + 3 * t ^ 2)) ^ 3 := by
  have ht2 : t ^ 2 ≤ 1 / 100 := by nlinarith only [ht, ht1]
  have hq := (Rat.cast_le (K := ℝ)).2 hN
  have ht1r := (Rat.cast_le (K := ℝ)).2 ht1
  push_cast at hq ht1r
  have hz : 0 ≤ z := nonneg_of_mul_nonneg_right ((abs_nonneg _).trans hs) (by positivity)
  obtain ⟨r, hr0, hr3⟩ := exists_cube_root (x := (X : ℝ)) (by exact_mod_cast hX)
  have hsr := (Rat.cast_le (K := ℝ)).2 hs
  push_cast at hsr
  obtain ⟨k1, k2⟩ := newton_stop (X : ℝ) r z0 z t hr0 hr3 (by exact_mod_cast hz0) (by exact_mod_cast ht) ht1r hq hsr
  have b1 : (0 : ℝ) ≤ (z : ℝ) * (1 - 3 * (t : ℝ) ^ 2) := by
    have : 0 ≤ z * (1 - 3 * t ^ 2) := mul_nonneg hz (by linarith)
    exact_mod_cast this
  have c1 := pow_le_pow_left₀ b1 k1 3
  have c2 := pow_le_pow_left₀ hr0.le k2 3
  rw [← hr3] at c1 c2
  exact ⟨by exact_mod_cast c1, by exact_mod_cast c2⟩

theorem newton_stop_rat (X z0 t1 t2 t3 t4 z e1 e2 e3 e4 e5 t : ℚ) (hX : 0 < X) (hz0 : 0 < z0)
    (ht : 0 < t) (ht1 : t ≤ 1 / 10)
    (h1 : |e1| ≤ t ^ 2 / 20) (h2 : |e2| ≤ t ^ 2 / 20) (h3 : |e3| ≤ t ^ 2 / 20) (h4 : |e4| ≤ t ^ 2 / 20)
    (h5 : |e5| ≤ t ^ 2 / 20)
    (d1 : t1 = z0 * z0 * (1 + e1)) (d2 : t2 = X / t1 * (1 + e2)) (d3 : t3 = (t2 + z0) * (1 + e3))
    (d4 : t4 = (t3 + z0) * (1 + e4)) (d5 : z = t4 / 3 * (1 + e5))
    (hs : |z0 - z| ≤ 1001 / 1000 * t * z) :
    (z * (1 - 3 * t ^ 2)) ^ 3 ≤ X ∧ X ≤ (z * (1 + 3 * t ^ 2)) ^ 3 :=
  newton_stop_q X z0 z t hX hz0 ht ht1
    (five_ops hX hz0 (by nlinarith only [ht, ht1]) h1 h2 h3 h4 h5 d1 d2 d3 d4 d5) hs

end Apd.CbrtN

#print axioms Apd.CbrtN.newton_stop_rat
