import ApdVerif.Lemmas.RelErr
import ApdVerif.Lemmas.AtanhSeries
/-!
# Real analysis of the series branch of `Context.Ln`

The series `ln z = 2 Σ y^(2n+1)/(2n+1)`, `y = (z-1)/(z+1)`, its loop
`tmp3 *= y²; tmp4 = tmp3/(2n+1); tmp1 += tmp4` with every operation perturbed (the terms on the logarithmic scale
`RelW` of `Lemmas/RelErr.lean`), and the argument `y = w/(w+2)`, `w = z - 1`, computed with three rounded operations.

`u` is the unit roundoff, `v = u/(1-u)` its logarithmic size.  All terms have the sign of `y`, so the partial sums are
dominated by the limit `M = |L2 y|`; the `n`-th term enters with a relative error `≤ e^{(2n+2)v} - 1`, negligible
against the geometric decay `(y²)^n ≤ 324^-n`; the `n+1` additions each contribute `u·M`.
-/
namespace Apd.LnAcc
open Real Apd.ExpAcc Apd.C12IL

noncomputable def lterm (y : ℝ) (n : ℕ) : ℝ := 2 * y ^ (2 * n + 1) / ((2 * n + 1 : ℕ) : ℝ)

noncomputable def lsum (y : ℝ) (k : ℕ) : ℝ := 2 * S y k

theorem abs_lterm (y : ℝ) (n : ℕ) : |lterm y n| = 2 * |y| ^ (2 * n + 1) / ((2 * n + 1 : ℕ) : ℝ) := by
  unfold lterm; rw [abs_div, abs_mul, abs_two, abs_pow, Nat.abs_cast]

theorem lterm_succ_le (y : ℝ) (n : ℕ) : |lterm y (n + 1)| ≤ |lterm y n| * y ^ 2 := by
  rw [abs_lterm, abs_lterm, div_mul_eq_mul_div, mul_assoc, ← sq_abs y, ← pow_add]
  exact div_le_div_of_nonneg_left (by positivity) (by positivity) (Nat.cast_le.2 (by omega))

theorem lsum_succ (y : ℝ) (k : ℕ) : lsum y (k + 1) = lsum y k + lterm y k := by
  unfold lsum lterm S
  rw [Finset.sum_range_succ]; ring

theorem lsum_one (y : ℝ) : lsum y 1 = 2 * y := by
  unfold lsum S; simp

theorem lsum_neg (y : ℝ) (k : ℕ) : lsum (-y) k = -lsum y k := by
  unfold lsum S
  rw [Finset.mul_sum, Finset.mul_sum, ← Finset.sum_neg_distrib]
  exact Finset.sum_congr rfl fun j _ => by rw [Odd.neg_pow ⟨j, rfl⟩]; ring

theorem lterm_neg (y : ℝ) (n : ℕ) : lterm (-y) n = -lterm y n := by
  unfold lterm; rw [Odd.neg_pow ⟨n, rfl⟩, mul_neg, neg_div]

theorem lsum_bounds (y : ℝ) (h0 : 0 ≤ y) (h1 : y < 1) (k : ℕ) :
    0 ≤ lsum y k ∧ lsum y k ≤ L2 y ∧ L2 y ≤ lsum y k + lterm y k * (1 - y ^ 2)⁻¹ :=
  ⟨mul_nonneg two_pos.le (Finset.sum_nonneg fun j _ => by positivity), L2_lower y h0 h1 k,
    by unfold lsum lterm; exact L2_upper_term y h0 h1 k⟩

theorem lsum_abs_le (y : ℝ) (hy : |y| < 1) (k : ℕ) : |lsum y k| ≤ |L2 y| := by
  wlog h : 0 ≤ y generalizing y
  · have := this (-y) (by rwa [abs_neg]) (by linarith)
    rwa [lsum_neg, L2_neg, abs_neg, abs_neg] at this
  · obtain ⟨a, b, _⟩ := lsum_bounds y h (by rwa [abs_of_nonneg h] at hy) k
    rwa [abs_of_nonneg a, abs_of_nonneg (a.trans b)]

theorem two_abs_le_L2 (y : ℝ) (hy : |y| < 1) : 2 * |y| ≤ |L2 y| := by
  have := lsum_abs_le y hy 1
  rwa [lsum_one, abs_mul, abs_two] at this

theorem lsum_remainder (y : ℝ) (hy : |y| < 1) (k : ℕ) :
    |L2 y - lsum y k| ≤ |lterm y k| * (1 - y ^ 2)⁻¹ := by
  wlog h : 0 ≤ y generalizing y
  · have := this (-y) (by rwa [abs_neg]) (by linarith)
    rwa [lsum_neg, L2_neg, lterm_neg, neg_sub_neg, abs_sub_comm, abs_neg, neg_sq] at this
  · obtain ⟨_, b, c⟩ := lsum_bounds y h (by rwa [abs_of_nonneg h] at hy) k
    have t0 : 0 ≤ lterm y k := by unfold lterm; positivity
    rw [abs_of_nonneg (sub_nonneg.2 b), abs_of_nonneg t0]; linarith

/-- `Σ_{j=1}^{n} 100^-j` -/
noncomputable def cc (n : ℕ) : ℝ := (1 - (1 / 100 : ℝ) ^ n) / 99

theorem cc_succ (n : ℕ) : cc n + (1 / 100 : ℝ) ^ (n + 1) = cc (n + 1) := by
  unfold cc; rw [pow_succ]; ring

theorem cc_bounds (n : ℕ) : 0 ≤ cc n ∧ cc n ≤ 1 / 99 := by
  unfold cc
  have h1 : (0 : ℝ) ≤ (1 / 100 : ℝ) ^ n := by positivity
  have h2 : (1 / 100 : ℝ) ^ n ≤ 1 := pow_le_one₀ (by norm_num) (by norm_num)
  constructor
  · apply div_nonneg <;> linarith
  · apply div_le_div_of_nonneg_right _ (by norm_num); linarith

/-- growth of the accumulated relative error of the `n`-th term: each round multiplies `e^{kv}` by
`e^{2v} ≤ 1.0102`, far less than the factor `3.24` allowed -/
theorem exp_kv (u : ℝ) (hu : 0 ≤ u) (hu1 : u ≤ 1 / 200) (n : ℕ) :
    exp (((2 * n + 2 : ℕ) : ℝ) * (u / (1 - u))) - 1 ≤ 3 * u * (324 / 100 : ℝ) ^ n := by
  have h2 := gamma_le 2 (2031 / 1000) u (by norm_num) (by norm_num) hu hu1 (by norm_num)
  set v := u / (1 - u)
  induction n with
  | zero =>
    rw [pow_zero, mul_one, show ((2 * 0 + 2 : ℕ) : ℝ) = 2 by norm_num]; linarith
  | succ n ih =>
    have e : ((2 * (n + 1) + 2 : ℕ) : ℝ) * v = 2 * v + ((2 * n + 2 : ℕ) : ℝ) * v := by push_cast; ring
    have hW : u * 1 ≤ u * (324 / 100 : ℝ) ^ n := mul_le_mul_of_nonneg_left (one_le_pow₀ (by norm_num)) hu
    have t1 : exp (2 * v) * (exp (((2 * n + 2 : ℕ) : ℝ) * v) - 1) ≤
        (1 + 2031 / 1000 * (1 / 200)) * (3 * u * (324 / 100 : ℝ) ^ n) :=
      mul_le_mul (by linarith only [h2, hu1]) ih (sub_nonneg.2 (one_le_exp (mul_nonneg (Nat.cast_nonneg _) (v_nonneg u hu hu1))))
        (by norm_num)
    rw [e, exp_add, pow_succ]
    linarith only [t1, h2, hW, hu]

theorem sq_le_of_abs_le {y : ℝ} (hy : |y| ≤ 1 / 18) : y ^ 2 ≤ 1 / 324 := by
  have := pow_le_pow_left₀ (abs_nonneg y) hy 2
  rwa [sq_abs, show ((1 : ℝ) / 18) ^ 2 = 1 / 324 by norm_num] at this

theorem lterm_bound (y : ℝ) (hy : |y| ≤ 1 / 18) (n : ℕ) (hn : 1 ≤ n) :
    |lterm y n| ≤ |L2 y| * (1 / 324 : ℝ) ^ n / 3 := by
  have hM := two_abs_le_L2 y (by linarith)
  have h2 : (|y| ^ 2) ^ n ≤ (1 / 324 : ℝ) ^ n := by
    rw [sq_abs]; exact pow_le_pow_left₀ (sq_nonneg y) (sq_le_of_abs_le hy) n
  have h3 : (3 : ℝ) ≤ ((2 * n + 1 : ℕ) : ℝ) := by
    have : 3 ≤ 2 * n + 1 := by omega
    exact_mod_cast this
  rw [abs_lterm, show |y| ^ (2 * n + 1) = |y| * (|y| ^ 2) ^ n by rw [← pow_mul, pow_succ'], ← mul_assoc]
  exact div_le_div₀ (mul_nonneg (abs_nonneg _) (by positivity))
    (mul_le_mul hM h2 (by positivity) (abs_nonneg _)) (by norm_num) h3

theorem qerr (y u qh : ℝ) (n : ℕ) (hn : 1 ≤ n) (hy : |y| ≤ 1 / 18) (hu : 0 ≤ u) (hu1 : u ≤ 1 / 200)
    (hq : RelW (((2 * n + 2 : ℕ) : ℝ) * (u / (1 - u))) (lterm y n) qh) :
    |qh - lterm y n| ≤ u * |L2 y| * (1 / 100 : ℝ) ^ n := by
  have hk : 0 ≤ ((2 * n + 2 : ℕ) : ℝ) * (u / (1 - u)) := mul_nonneg (Nat.cast_nonneg _) (v_nonneg u hu hu1)
  have e : (1 / 324 : ℝ) ^ n * (324 / 100 : ℝ) ^ n = (1 / 100 : ℝ) ^ n := by rw [← mul_pow]; norm_num
  calc |qh - lterm y n| ≤ |lterm y n| * (exp (((2 * n + 2 : ℕ) : ℝ) * (u / (1 - u))) - 1) := hq.abs_sub_le
    _ ≤ (|L2 y| * (1 / 324 : ℝ) ^ n / 3) * (3 * u * (324 / 100 : ℝ) ^ n) :=
        mul_le_mul (lterm_bound y hy n hn) (exp_kv u hu hu1 n) (sub_nonneg.2 (one_le_exp hk)) (by positivity)
    _ = u * |L2 y| * ((1 / 324 : ℝ) ^ n * (324 / 100 : ℝ) ^ n) := by ring
    _ = _ := by rw [e]

/-- the recurrence of the error bound, with `X = u·M`, `p = (1+u)^m`, `g = m + 1 + cc m`, `r = 100^-(m+1)`:
the gap is `X·((1+u)·r·(p-1) + (p·(1+u) - 1)) ≥ 0` -/
theorem step_arith (X p u g r : ℝ) (hX : 0 ≤ X) (hp : 1 ≤ p) (hu : 0 ≤ u) (hr : 0 ≤ r) :
    (1 + u) * (X * p * g + X * r) + X ≤ X * (p * (1 + u)) * (g + 1 + r) := by
  have h1 : 0 ≤ X * ((1 + u) * r * (p - 1) + (p * (1 + u) - 1)) :=
    mul_nonneg hX (add_nonneg (mul_nonneg (mul_nonneg (by linarith) hr) (by linarith))
      (sub_nonneg.2 (one_le_mul_of_one_le_of_one_le hp (by linarith))))
  linarith

theorem series_step (y u Th sh α β γ ε : ℝ) (m : ℕ) (hy : |y| ≤ 1 / 18) (hu : 0 ≤ u) (hu1 : u ≤ 1 / 200)
    (hα : |α| ≤ u) (hβ : |β| ≤ u) (hγ : |γ| ≤ u) (hε : |ε| ≤ u)
    (hT : RelW (((2 * m + 1 : ℕ) : ℝ) * (u / (1 - u))) (2 * y ^ (2 * m + 1)) Th)
    (hs : |sh - lsum y (m + 1)| ≤ u * |L2 y| * (1 + u) ^ m * ((m : ℝ) + 1 + cc m)) :
    RelW (((2 * m + 3 : ℕ) : ℝ) * (u / (1 - u))) (2 * y ^ (2 * m + 3)) (Th * y * (1 + α) * y * (1 + β)) ∧
    RelW (((2 * m + 4 : ℕ) : ℝ) * (u / (1 - u))) (lterm y (m + 1))
      (Th * y * (1 + α) * y * (1 + β) / ((2 * (m + 1) + 1 : ℕ) : ℝ) * (1 + γ)) ∧
    |(sh + Th * y * (1 + α) * y * (1 + β) / ((2 * (m + 1) + 1 : ℕ) : ℝ) * (1 + γ)) * (1 + ε) - lsum y (m + 2)| ≤
      u * |L2 y| * (1 + u) ^ (m + 1) * ((m : ℝ) + 2 + cc (m + 1)) := by
  have hu' : u < 1 := lt_of_le_of_lt hu1 (by norm_num)
  have hy1 : |y| < 1 := lt_of_le_of_lt hy (by norm_num)
  -- the power and the term: two exact factors `y`, one exact divisor, three roundings
  have r1 := ((hT.mul_exact y).step α u hα hu').mul_exact y |>.step β u hβ hu'
  rw [show 2 * y ^ (2 * m + 1) * y * y = 2 * y ^ (2 * m + 3) by ring,
    show ((2 * m + 1 : ℕ) : ℝ) * (u / (1 - u)) + u / (1 - u) + u / (1 - u) =
      ((2 * m + 3 : ℕ) : ℝ) * (u / (1 - u)) by push_cast; ring] at r1
  have r2 := (r1.div_const ((2 * (m + 1) + 1 : ℕ) : ℝ)).step γ u hγ hu'
  rw [show ((2 * m + 3 : ℕ) : ℝ) * (u / (1 - u)) + u / (1 - u) = ((2 * m + 4 : ℕ) : ℝ) * (u / (1 - u)) by
    push_cast; ring] at r2
  refine ⟨r1, r2, ?_⟩
  generalize Th * y * (1 + α) * y * (1 + β) / ((2 * (m + 1) + 1 : ℕ) : ℝ) * (1 + γ) = qh at r2 ⊢
  have hq : |qh - lterm y (m + 1)| ≤ u * |L2 y| * (1 / 100 : ℝ) ^ (m + 1) :=
    qerr y u qh (m + 1) (Nat.succ_pos m) hy hu hu1 r2
  have hb := sum_err rfl (lsum_succ y (m + 1)) hs hq hε
  have hS := mul_le_mul_of_nonneg_left (lsum_abs_le y hy1 (m + 2)) hu
  have := step_arith (u * |L2 y|) ((1 + u) ^ m) u ((m : ℝ) + 1 + cc m) ((1 / 100 : ℝ) ^ (m + 1))
    (mul_nonneg hu (abs_nonneg _)) (one_le_pow₀ (le_add_of_nonneg_right hu)) hu (by positivity)
  rw [pow_succ (1 + u) m, ← cc_succ m]
  linarith only [hb, hS, this]

/-- the start: `tmp1 = tmp3 = 2y` (one rounded doubling) -/
theorem series_start (y u δ : ℝ) (hy : |y| ≤ 1 / 18) (hu1 : u ≤ 1 / 200) (hδ : |δ| ≤ u) :
    RelW (((2 * 0 + 1 : ℕ) : ℝ) * (u / (1 - u))) (2 * y ^ (2 * 0 + 1)) (2 * y * (1 + δ)) ∧
    |2 * y * (1 + δ) - lsum y (0 + 1)| ≤ u * |L2 y| * (1 + u) ^ 0 * (((0 : ℕ) : ℝ) + 1 + cc 0) := by
  constructor
  · simpa using (RelW.refl (2 * y)).step δ u hδ (lt_of_le_of_lt hu1 (by norm_num))
  · rw [lsum_one, show 2 * y * (1 + δ) - 2 * y = 2 * y * δ by ring, abs_mul, abs_mul, abs_two,
      show cc 0 = 0 by simp [cc], pow_zero, Nat.cast_zero, zero_add, add_zero, mul_one, mul_one, mul_comm u]
    exact mul_le_mul (two_abs_le_L2 y (lt_of_le_of_lt hy (by norm_num))) hδ (abs_nonneg _) (abs_nonneg _)

theorem exp_fifth : exp (1 / 5 : ℝ) ≤ 5 / 4 := by
  have := Real.exp_bound_div_one_sub_of_interval (x := 1 / 5) (by norm_num) (by norm_num)
  norm_num at this ⊢; linarith

/-- the stopping rule `|tmp4| ≤ 10^-p = u/5` after the term of index `m+1`: distance to the limit -/
theorem series_final (y u sh qh : ℝ) (m : ℕ) (hy : |y| ≤ 1 / 18) (hu : 0 ≤ u)
    (hk : ((2 * m + 4 : ℕ) : ℝ) * (u / (1 - u)) ≤ 1 / 5)
    (hq : RelW (((2 * m + 4 : ℕ) : ℝ) * (u / (1 - u))) (lterm y (m + 1)) qh)
    (hstop : |qh| ≤ u / 5)
    (hs : |sh - lsum y (m + 2)| ≤ u * |L2 y| * (1 + u) ^ (m + 1) * ((m : ℝ) + 2 + cc (m + 1))) :
    |sh - L2 y| ≤ u * |L2 y| * ((1 + u) ^ (m + 1) * ((m : ℝ) + 2 + 1 / 99) + 7 / 1000) := by
  have hy1 : |y| < 1 := lt_of_le_of_lt hy (by norm_num)
  have hM0 := abs_nonneg (L2 y)
  have hsq := sq_le_of_abs_le hy
  -- the last term added: `|t| ≤ |q̂| e^{1/5} ≤ u/4`
  have ht1 : |lterm y (m + 1)| ≤ u / 4 :=
    calc |lterm y (m + 1)| ≤ |qh| * exp (((2 * m + 4 : ℕ) : ℝ) * (u / (1 - u))) := hq.abs_le.2
      _ ≤ (u / 5) * (5 / 4) :=
          mul_le_mul hstop ((exp_le_exp.2 hk).trans exp_fifth) (exp_pos _).le (div_nonneg hu (by norm_num))
      _ = u / 4 := by ring
  -- the remainder: `|t'|/(1-y²)` with `|t'| ≤ |t| y²`, `y² ≤ |y|/18 ≤ M/36`
  have hy2 : y ^ 2 ≤ |L2 y| / 36 := by
    rw [← sq_abs, sq]
    calc |y| * |y| ≤ (1 / 18) * (|L2 y| / 2) :=
          mul_le_mul hy (by linarith only [two_abs_le_L2 y hy1]) (abs_nonneg _) (by norm_num)
      _ = _ := by ring
  have hinv : (1 - y ^ 2)⁻¹ ≤ 324 / 323 := by
    rw [inv_le_comm₀ (by linarith only [hsq]) (by norm_num)]; norm_num; linarith only [hsq]
  have hR : |L2 y - lsum y (m + 2)| ≤ 7 / 1000 * (u * |L2 y|) :=
    calc _ ≤ |lterm y (m + 2)| * (1 - y ^ 2)⁻¹ := lsum_remainder y hy1 (m + 2)
      _ ≤ (u / 4 * (|L2 y| / 36)) * (324 / 323) :=
          mul_le_mul ((lterm_succ_le y (m + 1)).trans (mul_le_mul ht1 hy2 (sq_nonneg y) (div_nonneg hu (by norm_num))))
            hinv (inv_nonneg.2 (by linarith only [hsq])) (by positivity)
      _ ≤ _ := by linarith only [mul_nonneg hu hM0]
  have hs' : u * |L2 y| * (1 + u) ^ (m + 1) * ((m : ℝ) + 2 + cc (m + 1)) ≤
      u * |L2 y| * (1 + u) ^ (m + 1) * ((m : ℝ) + 2 + 1 / 99) :=
    mul_le_mul_of_nonneg_left (add_le_add le_rfl (cc_bounds (m + 1)).2) (by positivity)
  calc |sh - L2 y| = |sh - lsum y (m + 2) - (L2 y - lsum y (m + 2))| := by rw [sub_sub_sub_cancel_right]
    _ ≤ |sh - lsum y (m + 2)| + |L2 y - lsum y (m + 2)| := abs_sub _ _
    _ ≤ u * |L2 y| * (1 + u) ^ (m + 1) * ((m : ℝ) + 2 + 1 / 99) + 7 / 1000 * (u * |L2 y|) :=
        add_le_add (hs.trans hs') hR
    _ = _ := by ring

/-- the factor of `u·|2 atanh y|` in the error of the series sum after the term of index `N` -/
noncomputable def serG (u : ℝ) (N : Nat) : ℝ := (1 + u) ^ N * ((N : ℝ) + 1 + 1 / 99) + 7 / 1000

theorem abs_log_sub_le (p q m : ℝ) (hm : 0 < m) (hp : m ≤ p) (hq : m ≤ q) :
    |log p - log q| ≤ |p - q| / m := by
  have hp0 : 0 < p := lt_of_lt_of_le hm hp
  have hq0 : 0 < q := lt_of_lt_of_le hm hq
  rw [← Real.log_div hp0.ne' hq0.ne']
  have h1 : log (p / q) ≤ p / q - 1 := Real.log_le_sub_one_of_pos (div_pos hp0 hq0)
  have h2 : log (q / p) ≤ q / p - 1 := Real.log_le_sub_one_of_pos (div_pos hq0 hp0)
  have h3 : log (q / p) = - log (p / q) := by
    rw [Real.log_div hq0.ne' hp0.ne', Real.log_div hp0.ne' hq0.ne']; ring
  have e1 : p / q - 1 = (p - q) / q := by field_simp
  have e2 : q / p - 1 = (q - p) / p := by field_simp
  have b1 : (p - q) / q ≤ |p - q| / m := by
    calc (p - q) / q ≤ |p - q| / q := div_le_div_of_nonneg_right (le_abs_self _) hq0.le
      _ ≤ |p - q| / m := div_le_div_of_nonneg_left (abs_nonneg _) hm hq
  have b2 : (q - p) / p ≤ |p - q| / m := by
    calc (q - p) / p ≤ |p - q| / p := by
          apply div_le_div_of_nonneg_right _ hp0.le
          rw [abs_sub_comm]; exact le_abs_self _
      _ ≤ |p - q| / m := div_le_div_of_nonneg_left (abs_nonneg _) hm hp
  rw [abs_le]
  constructor <;> linarith

theorem L2_lipschitz (a b τ : ℝ) (hτ : τ < 1) (ha : |a| ≤ τ) (hb : |b| ≤ τ) :
    |L2 a - L2 b| ≤ 2 * |a - b| / (1 - τ) := by
  obtain ⟨a1, a2⟩ := abs_le.1 ha
  obtain ⟨b1, b2⟩ := abs_le.1 hb
  have hm : 0 < 1 - τ := by linarith only [hτ]
  unfold L2
  have h1 := abs_log_sub_le (1 + a) (1 + b) (1 - τ) hm (by linarith only [a1]) (by linarith only [b1])
  have h2 := abs_log_sub_le (1 - a) (1 - b) (1 - τ) hm (by linarith only [a2]) (by linarith only [b2])
  have e1 : 1 + a - (1 + b) = a - b := by ring
  have e2 : 1 - a - (1 - b) = -(a - b) := by ring
  rw [e1] at h1
  rw [e2, abs_neg] at h2
  have : log (1 + a) - log (1 - a) - (log (1 + b) - log (1 - b)) =
      (log (1 + a) - log (1 + b)) - (log (1 - a) - log (1 - b)) := by ring
  rw [this]
  calc _ ≤ |log (1 + a) - log (1 + b)| + |log (1 - a) - log (1 - b)| := abs_sub _ _
    _ ≤ |a - b| / (1 - τ) + |a - b| / (1 - τ) := add_le_add h1 h2
    _ = _ := by ring

theorem abs_le_log (t : ℝ) (ht : -1 < t) : |t| ≤ (1 + |t|) * |log (1 + t)| := by
  have hp : 0 < 1 + t := by linarith
  rcases le_total 0 t with h | h
  · -- log(1+t) ≥ t/(1+t)
    have h1 : log (1 / (1 + t)) ≤ 1 / (1 + t) - 1 := Real.log_le_sub_one_of_pos (by positivity)
    rw [Real.log_div one_ne_zero hp.ne', Real.log_one, zero_sub] at h1
    have e : 1 / (1 + t) - 1 = -(t / (1 + t)) := by field_simp; ring
    rw [e] at h1
    have h2 : t / (1 + t) ≤ log (1 + t) := by linarith
    have h3 : 0 ≤ log (1 + t) := Real.log_nonneg (by linarith)
    rw [abs_of_nonneg h, abs_of_nonneg h3]
    have := mul_le_mul_of_nonneg_left h2 hp.le
    rw [mul_div_cancel₀ _ hp.ne'] at this
    exact this
  · have h1 : log (1 + t) ≤ (1 + t) - 1 := Real.log_le_sub_one_of_pos hp
    have h3 : log (1 + t) ≤ 0 := Real.log_nonpos hp.le (by linarith)
    rw [abs_of_nonpos h, abs_of_nonpos h3]
    nlinarith

/-- a relative perturbation `ρ` of the argument of `2 atanh` near `0`: Lipschitz constant `36/17` on `[-1/18, 1/18]`,
and `2|y| ≤ |2 atanh y|` -/
theorem L2_perturb (y ρ u : ℝ) (hu : 0 ≤ u) (hu1 : u ≤ 1 / 200) (hy : |y| ≤ 1 / 19)
    (hρ : |ρ - 1| ≤ 2021 / 1000 * u) :
    |y * ρ| ≤ 1 / 18 ∧ |L2 (y * ρ) - L2 y| ≤ 214 / 100 * u * |L2 y| := by
  have hρ1 : |ρ| ≤ 1 + 2021 / 1000 * u := by
    have := abs_add_le 1 (ρ - 1)
    rw [add_sub_cancel, abs_one] at this; linarith only [this, hρ]
  have hyρ : |y * ρ| ≤ 1 / 18 := by
    rw [abs_mul]
    exact (mul_le_mul hy hρ1 (abs_nonneg _) (by norm_num)).trans (by linarith only [hu1])
  refine ⟨hyρ, ?_⟩
  have hlip := L2_lipschitz (y * ρ) y (1 / 18) (by norm_num) hyρ (hy.trans (by norm_num))
  rw [← mul_sub_one, abs_mul, show 2 * (|y| * |ρ - 1|) / (1 - 1 / 18) = 36 / 17 * (|y| * |ρ - 1|) by ring] at hlip
  have hM := two_abs_le_L2 y (hy.trans_lt (by norm_num))
  have h3 : |y| * |ρ - 1| ≤ (|L2 y| / 2) * (2021 / 1000 * u) :=
    mul_le_mul (by linarith only [hM]) hρ (abs_nonneg _) (by positivity)
  linarith only [hlip, h3, mul_nonneg hu (abs_nonneg (L2 y))]

theorem series_arg_y (w t3 yh δa δq u : ℝ) (hu : 0 ≤ u) (hu1 : u ≤ 1 / 200)
    (hδa : |δa| ≤ u) (hδq : |δq| ≤ u)
    (ht3 : t3 = (w + 2) * (1 + δa)) (hyh : yh = w / t3 * (1 + δq)) (hw10 : |w| ≤ 1 / 10) :
    |yh| ≤ 1 / 18 ∧ |L2 yh - log (1 + w)| ≤ 214 / 100 * u * |log (1 + w)| := by
  obtain ⟨w1, w2⟩ := abs_le.1 hw10
  have hw2 : 0 < w + 2 := by linarith only [w1]
  have hL0 : log (1 + w) = L2 (w / (w + 2)) := by
    rw [log_eq_L2 (1 + w) (by linarith only [w1]), add_sub_cancel_left, show 1 + w + 1 = w + 2 by ring]
  have hy0 : |w / (w + 2)| ≤ 1 / 19 := by
    rw [abs_div, abs_of_pos hw2, div_le_iff₀ hw2]
    exact abs_le.2 ⟨by linarith only [w1], by linarith only [w2]⟩
  -- `ŷ = y₀·ρ`, `|ρ - 1| ≤ e^{2v} - 1 ≤ 2.021u`
  have hlt : u < 1 := hu1.trans_lt (by norm_num)
  have hyh' : yh = w / (w + 2) * ((1 + δq) / (1 + δa)) := by
    have : 1 + δa ≠ 0 := by linarith only [(abs_le.1 hδa).1, hu1]
    rw [hyh, ht3]; field_simp
  have hρ : |(1 + δq) / (1 + δa) - 1| ≤ 2021 / 1000 * u := by
    have r := (RelW.one_add δq u hδq hlt).div (RelW.one_add δa u hδa hlt)
    rw [div_one, ← two_mul] at r
    exact r.abs_sub_one_le.trans (gamma_le 2 _ u (by norm_num) (by norm_num) hu hu1 (by norm_num))
  rw [hyh', hL0]
  exact L2_perturb _ _ u hu hu1 hy0 hρ

/-- `|z - 1|(1 - u) ≤ |w|` for the rounded `w = (z-1)(1+δ)`, so `|w| ≤ 1/10` bounds `|z - 1|` by `0.1/0.995` -/
theorem abs_sub_one_of_rounded {z w δ u : ℝ} (hu1 : u ≤ 1 / 200) (hδ : |δ| ≤ u) (hw : w = (z - 1) * (1 + δ))
    (hw10 : |w| ≤ 1 / 10) : |z - 1| ≤ 1006 / 10000 := by
  have h3 := (abs_le_of_rounded hδ (by linarith only [hu1]) hw).1.trans hw10
  linarith only [h3, mul_le_mul_of_nonneg_left hu1 (abs_nonneg (z - 1))]

theorem series_arg_w (zr w δw u : ℝ) (hu : 0 ≤ u) (hu1 : u ≤ 1 / 200) (hδw : |δw| ≤ u)
    (hw : w = (zr - 1) * (1 + δw)) (hw10 : |w| ≤ 1 / 10) :
    |log (1 + w) - log zr| ≤ 1225 / 1000 * u * |log zr| := by
  obtain ⟨w1, w2⟩ := abs_le.1 hw10
  obtain ⟨dw1, dw2⟩ := abs_le.1 hδw
  have hz1 := abs_sub_one_of_rounded hu1 hδw hw hw10
  obtain ⟨s1, s2⟩ := abs_le.1 hz1
  have h1 := abs_log_sub_le (1 + w) zr (8994 / 10000) (by norm_num) (by linarith only [w1]) (by linarith only [s1])
  rw [show 1 + w - zr = (zr - 1) * δw by rw [hw]; ring, abs_mul] at h1
  have h2 := abs_le_log (zr - 1) (by linarith only [s1])
  rw [add_sub_cancel] at h2
  have h3 : |zr - 1| ≤ 11006 / 10000 * |log zr| :=
    h2.trans (mul_le_mul_of_nonneg_right (by linarith only [hz1]) (abs_nonneg _))
  have h4 : |zr - 1| * |δw| ≤ (11006 / 10000 * |log zr|) * u :=
    mul_le_mul h3 hδw (abs_nonneg _) (by positivity)
  refine h1.trans ?_
  rw [div_le_iff₀ (by norm_num)]
  linarith only [h4, mul_nonneg hu (abs_nonneg (log zr))]

theorem series_arg (zr w t3 yh δw δa δq u : ℝ) (hu : 0 ≤ u) (hu1 : u ≤ 1 / 200)
    (hδw : |δw| ≤ u) (hδa : |δa| ≤ u) (hδq : |δq| ≤ u)
    (hw : w = (zr - 1) * (1 + δw)) (ht3 : t3 = (w + 2) * (1 + δa)) (hyh : yh = w / t3 * (1 + δq))
    (hw10 : |w| ≤ 1 / 10) :
    |yh| ≤ 1 / 18 ∧ |L2 yh - log zr| ≤ 338 / 100 * u * |log zr| ∧ |L2 yh| ≤ 1017 / 1000 * |log zr| := by
  obtain ⟨hyh_abs, hA⟩ := series_arg_y w t3 yh δa δq u hu hu1 hδa hδq ht3 hyh hw10
  have hB := series_arg_w zr w δw u hu hu1 hδw hw hw10
  have hX : 0 ≤ u * |log zr| := mul_nonneg hu (abs_nonneg _)
  have hX2 : u * (u * |log zr|) ≤ 1 / 200 * (u * |log zr|) := mul_le_mul_of_nonneg_right hu1 hX
  -- `|log(1+w)| ≤ (1 + 1.225u)|log z|`, so `2.14u·|log(1+w)| + 1.225u·|log z| ≤ 3.38u·|log z|`
  have hL0z : |log (1 + w)| ≤ |log zr| + 1225 / 1000 * u * |log zr| := by
    have := abs_add_le (log zr) (log (1 + w) - log zr)
    rw [add_sub_cancel] at this; linarith only [this, hB]
  have hA' : 214 / 100 * u * |log (1 + w)| ≤ 214 / 100 * u * (|log zr| + 1225 / 1000 * u * |log zr|) :=
    mul_le_mul_of_nonneg_left hL0z (by positivity)
  have hC : |L2 yh - log zr| ≤ 338 / 100 * u * |log zr| := by
    have := abs_add_le (L2 yh - log (1 + w)) (log (1 + w) - log zr)
    rw [sub_add_sub_cancel] at this; linarith only [this, hA, hA', hB, hX, hX2]
  refine ⟨hyh_abs, hC, ?_⟩
  have := abs_add_le (log zr) (L2 yh - log zr)
  rw [add_sub_cancel] at this
  linarith only [this, hC, mul_le_mul_of_nonneg_right hu1 (abs_nonneg (log zr)), abs_nonneg (log zr)]

end Apd.LnAcc
