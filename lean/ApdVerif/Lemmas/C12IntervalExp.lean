import ApdVerif.Lemmas.C12IntervalLemmas
import ApdVerif.Lemmas.ExpAccMath
/-!
# Soundness of `expTaylor` / `expPoint` (C12)

The oracle's interval exponential (`Oracle/Interval.lean`) encloses the real one: for `|r| ≤ 1` the Horner sum of `k`
Taylor terms widened by twice the computed `|r|^k/k!` encloses `exp r` (`expTaylor_sound`); `expPoint` halves the
argument until it is small and squares the result back (`expPoint_sound`).
-/
namespace Apd.C12IL
open Apd.Oracle.Iv

theorem bv_ofInt (n : ℤ) : bv (BF.ofInt n) = (n : ℝ) := by simp [bv, BF.ofInt]

theorem enc_ofInt (n : ℤ) : Enc (I.ofInt n) (n : ℝ) := by
  unfold Enc I.ofInt I.point
  simp only [bv_ofInt]
  exact ⟨le_refl _, le_refl _⟩

theorem enc_one : Enc (I.ofInt 1) 1 := by simpa using enc_ofInt 1

theorem enc_point (x : BF) : Enc (I.point x) (bv x) := ⟨le_refl _, le_refl _⟩

theorem divNat_sound (W : Nat) (a : I) (n : Nat) (hn : 0 < n) (r : ℝ) (hr : Enc a r) :
    Enc (I.divNat W a n) (r / (n : ℝ)) := by
  unfold I.divNat
  have he : Enc (I.ofInt (n : ℤ)) ((n : ℤ) : ℝ) := enc_ofInt _
  have hpos : 0 < bv (I.ofInt (n : ℤ)).lo := by
    show 0 < bv (BF.ofInt (n : ℤ))
    rw [bv_ofInt]; exact_mod_cast hn
  have := divPos_sound W a _ r _ hr he hpos
  simpa using this

open Finset in
theorem horner_inv (W : Nat) (r : BF) :
    ∀ (i : Nat) (s : I) (y : ℝ), Enc s y →
      Enc (expTaylor.horner W (I.point r) i s)
        (∑ j ∈ range i, (bv r) ^ j / (j.factorial : ℝ) + (bv r) ^ i / (i.factorial : ℝ) * y) := by
  intro i
  induction i with
  | zero =>
    intro s y hs
    rw [expTaylor.horner.eq_1]
    simpa using hs
  | succ i ih =>
    intro s y hs
    rw [expTaylor.horner.eq_2]
    have m1 := mul_sound W (I.point r) s (bv r) y (enc_point r) hs
    have d1 := divNat_sound W _ (i + 1) (by omega) _ m1
    have a1 := add_sound W (I.ofInt 1) _ _ _ enc_one d1
    have e1 := ih _ _ a1
    convert e1 using 1
    rw [sum_range_succ, Nat.factorial_succ]
    have h1 : ((i.factorial : ℕ) : ℝ) ≠ 0 := by positivity
    have h2 : (((i + 1 : ℕ)) : ℝ) ≠ 0 := by positivity
    push_cast
    field_simp
    ring

theorem bv_absr (r : BF) : bv ⟨(r.m.natAbs : ℤ), r.e⟩ = |bv r| := by
  rw [← mag_eq_abs]; unfold bv mag; simp

theorem powfact_inv (W : Nat) (r : BF) (k : Nat) :
    ∀ (i : Nat), i ≤ k → ∀ (t : BF) (T : ℝ), 0 ≤ T → T ≤ bv t →
      T * |bv r| ^ i / (k.descFactorial i : ℝ) ≤
        bv (expTaylor.powfact W k ⟨(r.m.natAbs : ℤ), r.e⟩ i t) := by
  intro i
  induction i with
  | zero =>
    intro _ t T hT0 hT
    rw [expTaylor.powfact.eq_1]
    simpa using hT
  | succ i ih =>
    intro hi t T hT0 hT
    rw [expTaylor.powfact.eq_2]
    have hne : (BF.ofInt ((k : ℤ) - (i : ℤ))).m ≠ 0 := by
      show (k : ℤ) - (i : ℤ) ≠ 0
      omega
    have hd := divDir_up W (mulDir W false t ⟨(r.m.natAbs : ℤ), r.e⟩) (BF.ofInt ((k : ℤ) - (i : ℤ))) hne
    have hm := mulDir_up W t ⟨(r.m.natAbs : ℤ), r.e⟩
    rw [bv_absr] at hm
    rw [bv_ofInt] at hd
    have hki : (0:ℝ) < (k : ℝ) - (i : ℝ) := by
      have : (i : ℝ) + 1 ≤ (k : ℝ) := by exact_mod_cast hi
      linarith
    rw [Int.cast_sub, Int.cast_natCast, Int.cast_natCast] at hd
    have habs : 0 ≤ |bv r| := abs_nonneg _
    have hT' : T * |bv r| / ((k : ℝ) - (i : ℝ)) ≤ bv (divDir W false (mulDir W false t ⟨(r.m.natAbs : ℤ), r.e⟩)
        (BF.ofInt ((k : ℤ) - (i : ℤ)))) := by
      refine le_trans ?_ hd
      apply div_le_div_of_nonneg_right _ hki.le
      exact le_trans (mul_le_mul_of_nonneg_right hT habs) hm
    have e1 := ih (by omega) _ _ (by positivity) hT'
    refine le_trans (le_of_eq ?_) e1
    rw [Nat.descFactorial_succ]
    have hD : ((k.descFactorial i : ℕ) : ℝ) ≠ 0 := by
      have := Nat.descFactorial_pos (n := k) (k := i) |>.2 (by omega)
      positivity
    have hc : ((k - i : ℕ) : ℝ) = (k : ℝ) - (i : ℝ) := by
      rw [Nat.cast_sub (by omega)]
    push_cast
    rw [hc]
    have := hki.ne'
    field_simp
    ring

theorem expTaylor_sound (W : Nat) (r : BF) (k : Nat) (hk : 1 ≤ k) (hx : |bv r| ≤ 1) :
    Enc (expTaylor W r k) (Real.exp (bv r)) := by
  unfold expTaylor
  simp only []
  have s1 := horner_inv W r (k - 1) (I.ofInt 1) 1 enc_one
  rw [mul_one, ← Finset.sum_range_succ (fun j => bv r ^ j / (j.factorial : ℝ)), Nat.sub_add_cancel hk] at s1
  generalize expTaylor.horner W (I.point r) (k - 1) (I.ofInt 1) = s at s1
  -- the remainder `|r|^k/k! · (k+1)/k`, bounded by twice the computed `|r|^k/k!`
  have t1 := powfact_inv W r k k (le_refl _) (BF.ofInt 1) 1 zero_le_one (by rw [bv_ofInt, Int.cast_one])
  rw [Nat.descFactorial_self, one_mul] at t1
  generalize expTaylor.powfact W k ⟨(r.m.natAbs : ℤ), r.e⟩ k (BF.ofInt 1) = t at t1
  have w1 := mulDir_up W t (BF.ofInt 2)
  rw [bv_ofInt, Int.cast_ofNat] at w1
  generalize mulDir W false t (BF.ofInt 2) = w at w1
  have hk0 : (1:ℝ) ≤ (k : ℝ) := by exact_mod_cast hk
  have hw : |Real.exp (bv r) - ∑ j ∈ Finset.range k, (bv r) ^ j / (j.factorial : ℝ)| ≤ bv w := by
    have h2 : ((k : ℝ) + 1) / (k : ℝ) ≤ 2 := by
      rw [div_le_iff₀ (by linarith only [hk0])]; linarith only [hk0]
    exact ((ExpAcc.exp_series_trunc (bv r) hx k hk).trans
      (mul_le_mul t1 h2 (by positivity) (le_trans (by positivity) t1))).trans w1
  obtain ⟨hw1, hw2⟩ := abs_le.1 hw
  have ol := (addDir_sound W s.lo w.neg).1
  have oh := (addDir_sound W s.hi w).2
  rw [bv_neg] at ol
  exact ⟨show bv (addDir W true s.lo w.neg) ≤ _ by linarith only [ol, s1.1, hw1],
    show _ ≤ bv (addDir W false s.hi w) by linarith only [oh, s1.2, hw2]⟩

theorem sq_inv (W : Nat) : ∀ (i : Nat) (s : I) (y : ℝ), Enc s y →
    Enc (expPoint.sq W i s) (y ^ (2 ^ i)) := by
  intro i
  induction i with
  | zero => intro s y hs; rw [expPoint.sq.eq_1]; simpa using hs
  | succ i ih =>
    intro s y hs
    rw [expPoint.sq.eq_2]
    have e1 := ih _ _ (mul_sound W s s y y hs hs)
    convert e1 using 1
    rw [pow_succ, pow_mul', ← pow_two]

theorem bv_halved (x : BF) (m : Nat) : bv ⟨x.m * 5 ^ m, x.e - m⟩ = bv x / 2 ^ m := by
  unfold bv
  simp only []
  rw [zpow_sub₀ ten_ne_zero, zpow_natCast]
  have h1 : ((10:ℝ) ^ m) = 2 ^ m * 5 ^ m := by rw [← mul_pow]; norm_num
  have h2 : ((2:ℝ) ^ m) ≠ 0 := by positivity
  have h5 : ((5:ℝ) ^ m) ≠ 0 := by positivity
  push_cast
  rw [h1]
  field_simp

theorem halvings_small (x : BF) (h0 : x.m ≠ 0) :
    |bv x| / 2 ^ (halvings x) ≤ 1 / 2 := by
  obtain ⟨_, hm⟩ := mag_bounds x h0
  rw [← mag_eq_abs]
  unfold halvings
  have hne : ¬ (x.m == 0) = true := by simpa using h0
  rw [if_neg hne]
  simp only []
  by_cases ha : x.adj < -3
  · rw [if_pos ha]
    simp only [pow_zero, div_one]
    refine le_trans hm.le ?_
    calc (10:ℝ) ^ (x.adj + 1) ≤ (10:ℝ) ^ (-1:ℤ) := zpow_le_zpow_right₀ (by norm_num) (by omega)
      _ ≤ 1 / 2 := by norm_num
  · rw [if_neg ha]
    have h2 : (0:ℝ) < 2 ^ (4 * (x.adj + 1) + 8).toNat := by positivity
    rw [div_le_iff₀ h2]
    refine le_trans hm.le ?_
    have e : ((2:ℝ) ^ (4 * (x.adj + 1) + 8).toNat) = (16:ℝ) ^ (x.adj + 3) := by
      rw [← zpow_natCast]
      have : (((4 * (x.adj + 1) + 8).toNat : ℕ) : ℤ) = 4 * (x.adj + 3) := by omega
      rw [this, zpow_mul]
      norm_num
    rw [e]
    have e16 : (16:ℝ) ^ (x.adj + 3) = 16 * (16:ℝ) ^ (x.adj + 2) := by
      rw [show x.adj + 3 = 1 + (x.adj + 2) by ring, zpow_add₀ (by norm_num), zpow_one]
    rw [e16]
    have hmain : (10:ℝ) ^ (x.adj + 1) ≤ (16:ℝ) ^ (x.adj + 2) := by
      by_cases hp : 0 ≤ x.adj + 1
      · calc (10:ℝ) ^ (x.adj + 1) ≤ (16:ℝ) ^ (x.adj + 1) :=
              zpow_le_zpow_left₀ hp (by norm_num) (by norm_num)
          _ ≤ (16:ℝ) ^ (x.adj + 2) := zpow_le_zpow_right₀ (by norm_num) (by omega)
      · by_cases hq : x.adj = -3
        · rw [hq]; norm_num
        · calc (10:ℝ) ^ (x.adj + 1) ≤ (10:ℝ) ^ (0:ℤ) := zpow_le_zpow_right₀ (by norm_num) (by omega)
            _ = (16:ℝ) ^ (0:ℤ) := by simp
            _ ≤ (16:ℝ) ^ (x.adj + 2) := zpow_le_zpow_right₀ (by norm_num) (by omega)
    linarith

theorem expPoint_sound (W : Nat) (x : BF) : Enc (expPoint W x) (Real.exp (bv x)) := by
  unfold expPoint
  by_cases h0 : x.m = 0
  · have : (x.m == 0) = true := by simpa using h0
    rw [if_pos this, bv_eq_zero_of_m x h0, Real.exp_zero]
    exact enc_one
  · have hne : ¬ (x.m == 0) = true := by simpa using h0
    rw [if_neg hne]
    simp only [ite_self]
    have hsmall : |bv (⟨x.m * 5 ^ halvings x, x.e - halvings x⟩ : BF)| ≤ 1 := by
      rw [bv_halved, abs_div, abs_of_pos (by positivity : (0:ℝ) < 2 ^ halvings x)]
      have := halvings_small x h0
      linarith
    have t1 := expTaylor_sound W ⟨x.m * 5 ^ halvings x, x.e - halvings x⟩
      (taylorTerms W 8 + 1) (by omega) hsmall
    have e1 := sq_inv W (halvings x) _ _ t1
    convert e1 using 1
    rw [← Real.exp_nat_mul, bv_halved]
    congr 1
    push_cast
    field_simp

end Apd.C12IL
