import ApdVerif.Lemmas.SqrtDefs
import ApdVerif.Lemmas.RoundedOp
import Mathlib.Tactic.Ring
import Mathlib.Tactic.Linarith
import Mathlib.Tactic.NormNum
import Mathlib.Tactic.Positivity
import Mathlib.Tactic.SplitIfs
/-!
# The rounded operations of the Sqrt iteration, over `ℚ`

A working context of the iteration (`WCtx`: `halfEven`, the package's exponent limits, no traps) is a `Work` context
without traps, so `mulOp`, `addOp`, `quoOp` on positive finite operands of harmless size go through
(`Lemmas/RoundedOp.lean`): they return a positive finite decimal of at most `prec` digits whose value is the exact
result rounded to nearest (`SqrtX.Rnd`), hence the exact result times `1 + ε`, `|ε| ≤ 5·10^(-prec)`; no system flag is
raised (`OpRes`; `mul_ok`, `add_ok`, `quo_ok`).  With them, from an `ErrDecimal` that has not failed (`EDok`): one round
of the loop is three such roundings (`round1_ok`, to `SqrtX.Rd`), the scaled operand lies in `[1/100, 1)` (`f_facts`), and
the initial estimate is its linear form rounded twice (`init_ok`).
-/
namespace Apd.SqrtL
open Apd.C20L Apd.SqrtX

structure WCtx (cc : Ctx) (p : Nat) : Prop where
  hp : cc.prec = p
  hm : cc.mode = .halfEven
  hemin : cc.emin = -100000
  hemax : cc.emax = 100000
  ht : cc.traps = {}

theorem WCtx.work {cc : Ctx} {p : Nat} (h : WCtx cc p) (h1 : 1 ≤ p) (h2 : p ≤ 100000) : Work cc p :=
  ⟨h.hp, ⟨h.hemin, h.hemax, by rw [h.hp]; exact h1, by rw [h.hp]; exact_mod_cast h2⟩, Or.inr (Or.inr h.hm)⟩

theorem WCtx.wf {cc : Ctx} {p : Nat} (h : WCtx cc p) (h1 : 1 ≤ p) (h2 : p ≤ 100000) : cc.WF := (h.work h1 h2).wf

theorem WCtx.traps {cc : Ctx} {p : Nat} (h : WCtx cc p) : NoSoftTrap cc.traps := by
  rw [h.ht]; exact noSoftTrap_empty

structure OpRes (p : Nat) (v : ℚ) (o : Out) : Prop where
  pos : Pos o.d
  nd : ndigits o.d.coeff ≤ p
  err : o.err = .none
  ns : NoSys o.fl
  rnd : Rnd p v o.d.toRat

theorem OpRes.of_ok {t : Cond} {p : Nat} {v : ℚ} {o : Out} (h : OpOk t p v o) (hv : 0 < v) : OpRes p v o :=
  ⟨h.r.pos hv, h.r.nd, h.err, h.ns, h.r.rnd hv⟩

theorem mul_ok (cc : Ctx) (p : Nat) (hw : WCtx cc p) (hp3 : 3 ≤ p) (hp2 : p ≤ 100000)
    (x y : Dec) (hx : Pos x) (hy : Pos y)
    (e1 : -100000 ≤ x.exp) (e2 : x.exp ≤ 100000) (e3 : -100000 ≤ y.exp) (e4 : y.exp ≤ 100000)
    (e5 : -100000 ≤ x.exp + y.exp)
    (hlo : 1 / 1000 ≤ x.toRat * y.toRat) (hhi : x.toRat * y.toRat < 100) :
    OpRes p (x.toRat * y.toRat) (mulOp cc x y) := by
  have hv : 0 < x.toRat * y.toRat := mul_pos hx.toRat_pos hy.toRat_pos
  have hP : Pos ({ form := .finite, neg := false, exp := x.exp + y.exp, coeff := x.coeff * y.coeff } : Dec) :=
    ⟨rfl, rfl, Nat.mul_pos hx.h0 hy.h0⟩
  have hd := adj_le hP (k := 2) (by
    rw [hP.toRat_eq, t2]
    rw [hx.toRat_eq, hy.toRat_eq] at hhi
    simp only [Nat.cast_mul, zpow_add₀ ten_ne]
    linarith only [hhi])
  simp only [] at hd
  exact .of_ok (mulOp_ok cc (hw.work (by omega) hp2) hw.traps x y hx.hf hy.hf hx.h0 hy.h0 e1 e2 e3 e4 e5
    (by omega) (by rw [abs_of_pos hv]; exact widen_hi (hhi.trans_eq t2.symm))) hv

theorem add_ok (cc : Ctx) (p : Nat) (hw : WCtx cc p) (hp3 : 3 ≤ p) (hp2 : p ≤ 100000)
    (x y : Dec) (hx : Pos x) (hy : Pos y)
    (e1 : -100000 ≤ x.exp) (e2 : x.exp ≤ 0) (e3 : -100000 ≤ y.exp) (e4 : y.exp ≤ 0)
    (hlo : 1 / 1000 ≤ x.toRat + y.toRat) (hhi : x.toRat + y.toRat < 100) :
    OpRes p (x.toRat + y.toRat) (addOp cc x y false) := by
  have hv : 0 < x.toRat + y.toRat := add_pos hx.toRat_pos hy.toRat_pos
  have h := addOp_ok cc (hw.work (by omega) hp2) hw.traps x y false hx.hf hy.hf e1 (by omega) e3 (by omega)
    (by omega) (by omega) 2 (by omega) (by omega) (by omega)
    (by simp only [Bool.false_eq_true, if_false]; rw [abs_of_pos hv, t2]; exact hhi)
  simp only [Bool.false_eq_true, if_false] at h
  exact .of_ok h hv

theorem quo_ok (cc : Ctx) (p : Nat) (hw : WCtx cc p) (hp3 : 3 ≤ p) (hp2 : p ≤ 100000)
    (x y : Dec) (hx : Pos x) (hy : Pos y)
    (e1 : -100000 ≤ x.exp - y.exp) (e2 : x.exp - y.exp ≤ 100000)
    (d1 : ndigits x.coeff ≤ 100000) (d2 : ndigits y.coeff ≤ 100000)
    (hlo : 1 / 1000 ≤ x.toRat / y.toRat) (hhi : x.toRat / y.toRat < 100) :
    OpRes p (x.toRat / y.toRat) (quoOp cc x y) :=
  .of_ok (quoOp_ok cc (hw.work (by omega) hp2) hw.traps x y hx hy e1 e2 d1 d2 (widen_lo (t3.trans_le hlo))
    (widen_hi (hhi.trans_eq t2.symm))) (div_pos hx.toRat_pos hy.toRat_pos)

structure EDok (e : ED) : Prop where
  err : e.err = .none
  ns : NoSys e.fl
  tr : e.c.traps = {}
  md : e.c.mode = .halfEven
  emin : e.c.emin = -100000
  emax : e.c.emax = 100000

theorem EDok.not_failed {e : ED} (h : EDok e) : e.failed = false :=
  (ED.failed_false_iff e).2 ⟨h.err, by rw [h.tr]; exact goError_empty _ h.ns⟩

theorem EDok.wctx {e : ED} (h : EDok e) : WCtx e.c e.c.prec := ⟨rfl, h.md, h.emin, h.emax, h.tr⟩

theorem EDok.setPrec {e : ED} (h : EDok e) (p : Nat) : EDok { e with c := { e.c with prec := p } } :=
  ⟨h.err, h.ns, h.tr, h.md, h.emin, h.emax⟩

theorem step_ok (e : ED) (cur : Dec) (op : Ctx → Out) (he : EDok e) {p : Nat} {v : ℚ}
    (ho : OpRes p v (op e.c)) :
    ∃ e' : ED, e.step cur op = (e', (op e.c).d) ∧ EDok e' ∧ e'.c = e.c := by
  rw [ED.step_of_ok he.not_failed]
  exact ⟨_, rfl, ⟨ho.err, noSys_or' he.ns ho.ns, he.tr, he.md, he.emin, he.emax⟩, rfl⟩

theorem OpRes.rel {p : Nat} {v : ℚ} {o : Out} (h : OpRes p v o) (hv : 0 < v) :
    ∃ e : ℚ, |e| ≤ 5 * (10 : ℚ) ^ (-(p : ℤ)) ∧ o.d.toRat = v * (1 + e) := rel_of_val hv h.rnd.rel

theorem OpRes.val {p : Nat} {v : ℚ} {o : Out} (h : OpRes p v o) :
    |o.d.toRat - v| ≤ 5 * (10 : ℚ) ^ (-(p : ℤ)) * v := h.rnd.rel

theorem mul_bounds {t u lo hi lo' hi' : ℚ} (h0 : 0 ≤ lo) (h0' : 0 ≤ lo') (a1 : lo ≤ t) (a2 : t ≤ hi)
    (b1 : lo' ≤ u) (b2 : u ≤ hi') : lo * lo' ≤ t * u ∧ t * u ≤ hi * hi' :=
  ⟨mul_le_mul a1 b1 h0' (le_trans h0 a1), mul_le_mul a2 b2 (le_trans h0' b1) (le_trans (le_trans h0 a1) a2)⟩

theorem one_add_bounds {e ε : ℚ} (h : |e| ≤ ε) (hε : ε ≤ 1 / 2000) : 1999 / 2000 ≤ 1 + e ∧ 1 + e ≤ 2001 / 2000 := by
  obtain ⟨h1, h2⟩ := abs_le.1 h
  constructor <;> linarith

theorem OpRes.bounds {p : Nat} {v lo hi : ℚ} {o : Out} (h : OpRes p v o) (hp : 4 ≤ p) (h0 : 0 ≤ lo)
    (hlo : lo ≤ v) (hhi : v ≤ hi) : 1999 / 2000 * lo ≤ o.d.toRat ∧ o.d.toRat ≤ 2001 / 2000 * hi := by
  obtain ⟨h1, h2⟩ := abs_le.1 h.rnd.rel
  have := mul_le_mul_of_nonneg_right (eps_le p hp) (h0.trans hlo)
  constructor <;> linarith

open Apd.SqrtD

theorem round1_ok (e : ED) (he : EDok e) (fx A : Dec) (P : Nat) (hP4 : 4 ≤ P) (hP : P ≤ 99999)
    (hf : Pos fx) (hfd : ndigits fx.coeff ≤ 100000) (hfe1 : -100000 ≤ fx.exp) (hfe2 : fx.exp ≤ 0)
    (hA : Pos A) (hAd : ndigits A.coeff ≤ 99999)
    (hA1 : 9 / 100 ≤ A.toRat) (hA2 : A.toRat ≤ 11 / 10)
    (h11 : A.toRat ≤ 11 * fx.toRat) (h2 : fx.toRat ≤ 2 * A.toRat) :
    EDok (round1 e fx A P).1 ∧ (round1 e fx A P).1.c = { e.c with prec := P } ∧
    Pos (round1 e fx A P).2 ∧ ndigits (round1 e fx A P).2.coeff ≤ P ∧
    ∃ qh sh : ℚ, 0 < qh ∧ 0 < sh ∧ Rd P fx.toRat A.toRat qh sh (round1 e fx A P).2.toRat := by
  have hAe := exp_bounds hA hAd (k := -2) (m := 1) (tm2.trans_le (le_trans (by norm_num) hA1))
    ((lt_of_le_of_lt hA2 (by norm_num)).trans_eq t1.symm)
  have hApos := hA.toRat_pos
  have hdiv1 : 9 / 100 ≤ fx.toRat / A.toRat := by rw [le_div_iff₀ hApos]; linarith only [h11, hA1]
  have hdiv2 : fx.toRat / A.toRat ≤ 2 := by rw [div_le_iff₀ hApos]; exact h2
  have he0 := he.setPrec P
  dsimp only [round1]
  generalize he0def : ({ e with c := { e.c with prec := P } } : ED) = e0 at he0 ⊢
  have hcP : e0.c = { e.c with prec := P } := by rw [← he0def]
  have hw : WCtx e0.c P := by have := he0.wctx; rw [hcP] at this ⊢; exact this
  -- the quotient
  have hq := quo_ok e0.c P hw (by omega) (by omega) fx A hf hA (by omega) (by omega) hfd (by omega)
    (le_trans (by norm_num) hdiv1) (lt_of_le_of_lt hdiv2 (by norm_num))
  obtain ⟨q1, q2⟩ := hq.bounds hP4 (by norm_num) hdiv1 hdiv2
  obtain ⟨e1, hs1, he1, hc1⟩ := step_ok e0 {} (fun cc => quoOp cc fx A) he0 hq
  obtain ⟨hqpos, hqnd, -, -, hqR⟩ := hq
  rw [hs1]
  dsimp only
  generalize (quoOp e0.c fx A).d = q at hqpos hqnd hqR q1 q2 ⊢
  have hqe := exp_bounds hqpos hqnd (k := -2) (m := 1) (tm2.trans_le (le_trans (by norm_num) q1))
    ((lt_of_le_of_lt q2 (by norm_num)).trans_eq t1.symm)
  -- the sum
  rw [← hc1] at hw
  have hs := add_ok e1.c P hw (by omega) (by omega) q A hqpos hA (by omega) (by omega) (by omega) (by omega)
    (by linarith only [q1, hA1]) (by linarith only [q2, hA2])
  obtain ⟨s1, s2⟩ := hs.bounds hP4 (lo := 17 / 100) (hi := 5) (by norm_num) (by linarith only [q1, hA1])
    (by linarith only [q2, hA2])
  obtain ⟨e2, hs2, he2, hc2⟩ := step_ok e1 q (fun cc => addOp cc q A false) he1 hs
  obtain ⟨hspos, hsnd, -, -, hsR⟩ := hs
  rw [hs2]
  dsimp only
  generalize (addOp e1.c q A false).d = s at hspos hsnd hsR s1 s2 ⊢
  have hse := exp_bounds hspos hsnd (k := -1) (m := 1) (tm1.trans_le (le_trans (by norm_num) s1))
    ((lt_of_le_of_lt s2 (by norm_num)).trans_eq t1.symm)
  -- the half
  rw [← hc2] at hw
  have hh := mul_ok e2.c P hw (by omega) (by omega) s decHalf hspos decHalf_pos (by omega) (by omega)
    (by decide) (by decide) (by show (-100000 : ℤ) ≤ _ + (-1); omega)
    (by rw [decHalf_toRat]; linarith only [s1]) (by rw [decHalf_toRat]; linarith only [s2])
  obtain ⟨e3, hs3, he3, hc3⟩ := step_ok e2 A (fun cc => mulOp cc s decHalf) he2 hh
  rw [hs3]
  rw [decHalf_toRat] at hh
  exact ⟨he3, by rw [hc3, hc2, hc1, hcP], hh.pos, hh.nd, q.toRat, s.toRat, hqpos.toRat_pos, hspos.toRat_pos,
    hqR, hsR, hh.rnd⟩

theorem _root_.Apd.SqrtX.round1_rnd (e : ED) (he : EDok e) (fx A : Dec) (P : Nat) (hP4 : 4 ≤ P) (hP : P ≤ 99999)
    (hf : Pos fx) (hfd : ndigits fx.coeff ≤ 100000) (hfe1 : -100000 ≤ fx.exp) (hfe2 : fx.exp ≤ 0)
    (hA : Pos A) (hAd : ndigits A.coeff ≤ 99999)
    (hA1 : 9 / 100 ≤ A.toRat) (hA2 : A.toRat ≤ 11 / 10)
    (h11 : A.toRat ≤ 11 * fx.toRat) (h2 : fx.toRat ≤ 2 * A.toRat) :
    ∃ qh sh : ℚ, Rnd P (fx.toRat / A.toRat) qh ∧ Rnd P (qh + A.toRat) sh ∧
      Rnd P (sh * (1 / 2)) (round1 e fx A P).2.toRat := by
  obtain ⟨-, -, -, -, qh, sh, -, -, R⟩ := round1_ok e he fx A P hP4 hP hf hfd hfe1 hfe2 hA hAd hA1 hA2 h11 h2
  exact ⟨qh, sh, R.rq, R.rs, R.rh⟩

theorem workp_facts (c : Ctx) (x : Dec) :
    7 ≤ workp c x ∧ ndigits x.coeff ≤ workp c x ∧ c.prec + 1 ≤ workp c x := by
  unfold workp; simp only []; split_ifs <;> omega

theorem f_facts (c : Ctx) (x : Dec) (h : Dom c x) :
    Pos (f x) ∧ ndigits (f x).coeff ≤ workp c x ∧ -100000 + 4 ≤ (f x).exp ∧ (f x).exp ≤ -1 ∧
    (even x = true → 1 / 10 ≤ (f x).toRat ∧ (f x).toRat < 1) ∧
    (even x = false → 1 / 100 ≤ (f x).toRat ∧ (f x).toRat < 1 / 10) := by
  obtain ⟨w1, w2, w3⟩ := workp_facts c x
  have hd := h.hd
  have hnp := ndigits_pos x.coeff
  have hP : Pos (f x) := ⟨h.hx, h.hn, Nat.pos_of_ne_zero h.h0⟩
  have hb := toRat_bounds hP
  have hc : (f x).coeff = x.coeff := rfl
  rw [hc] at hb
  obtain ⟨-, -, -, hs⟩ := scale_norm x
  refine ⟨hP, w2, ?_, ?_, ?_, ?_⟩
  · rcases hs with ⟨-, hs⟩ | ⟨-, hs⟩ <;> omega
  · rcases hs with ⟨-, hs⟩ | ⟨-, hs⟩ <;> omega
  · intro he
    rcases hs with ⟨-, hs⟩ | ⟨he', -⟩
    · rwa [show (f x).exp + (ndigits x.coeff : ℤ) - 1 = -1 by omega, hs, tm1, t0] at hb
    · rw [he] at he'; cases he'
  · intro he
    rcases hs with ⟨he', -⟩ | ⟨-, hs⟩
    · rw [he] at he'; cases he'
    · rwa [show (f x).exp + (ndigits x.coeff : ℤ) - 1 = -2 by omega, hs, tm1, tm2] at hb

theorem a0_toRat (x : Dec) : (a0 x).toRat = if even x then 819 / 1000 else 259 / 100 := by
  unfold a0; split_ifs <;> norm_num [Dec.toRat]
theorem k0_toRat (x : Dec) : (k0 x).toRat = if even x then 259 / 1000 else 819 / 10000 := by
  unfold k0; split_ifs <;> norm_num [Dec.toRat]

theorem nc_ok (c : Ctx) (x : Dec) (h : Dom c x) : EDok ({ c := nc c x } : ED) :=
  ⟨rfl, ⟨rfl, rfl⟩, h.ht, rfl, rfl, rfl⟩

theorem init_ok (c : Ctx) (x : Dec) (h : Dom c x) :
    EDok (init c x).1 ∧ (init c x).1.c = nc c x ∧ Pos (init c x).2 ∧
    ndigits (init c x).2.coeff ≤ workp c x ∧
    ∃ e1 e2 : ℚ, |e1| ≤ 5 * (10 : ℚ) ^ (-(workp c x : ℤ)) ∧ |e2| ≤ 5 * (10 : ℚ) ^ (-(workp c x : ℤ)) ∧
      (init c x).2.toRat = (((a0 x).toRat * (f x).toRat) * (1 + e1) + (k0 x).toRat) * (1 + e2) := by
  obtain ⟨w1, w2, w3⟩ := workp_facts c x
  have hd := h.hd
  obtain ⟨f1, f2, f3, f4, f5, f6⟩ := f_facts c x h
  have ha : Pos (a0 x) := by unfold a0; split_ifs <;> exact ⟨rfl, rfl, by decide⟩
  have hk : Pos (k0 x) := by unfold k0; split_ifs <;> exact ⟨rfl, rfl, by decide⟩
  have hae : -3 ≤ (a0 x).exp ∧ (a0 x).exp ≤ -2 := by unfold a0; split_ifs <;> simp
  have hke : -4 ≤ (k0 x).exp ∧ (k0 x).exp ≤ -3 := by unfold k0; split_ifs <;> simp
  have hav := a0_toRat x
  have hkv := k0_toRat x
  have hvals : 259 / 10000 ≤ (a0 x).toRat * (f x).toRat ∧ (a0 x).toRat * (f x).toRat ≤ 819 / 1000 ∧
      819 / 10000 ≤ (k0 x).toRat ∧ (k0 x).toRat ≤ 259 / 1000 := by
    cases he : even x
    · obtain ⟨g1, g2⟩ := f6 he
      rw [hav, hkv, he]; simp only [Bool.false_eq_true, if_false]
      exact ⟨by linarith only [g1], by linarith only [g2], by norm_num, by norm_num⟩
    · obtain ⟨g1, g2⟩ := f5 he
      rw [hav, hkv, he]; simp only [if_true]
      exact ⟨by linarith only [g1], by linarith only [g2], by norm_num, by norm_num⟩
  obtain ⟨v1, v2, v3, v4⟩ := hvals
  have he := nc_ok c x h
  have hw : WCtx (nc c x) (workp c x) := he.wctx
  dsimp only [init]
  -- the product
  have hm := mul_ok (nc c x) (workp c x) hw (by omega) (by omega) (a0 x) (f x) ha f1 (by omega) (by omega)
    (by omega) (by omega) (by omega) (le_trans (by norm_num) v1) (lt_of_le_of_lt v2 (by norm_num))
  obtain ⟨m1, m2⟩ := hm.bounds (by omega) (by norm_num) v1 v2
  obtain ⟨e1, he1, hmv⟩ := hm.rel (lt_of_lt_of_le (by norm_num) v1)
  obtain ⟨ed1, hs1, hed1, hc1⟩ := step_ok { c := nc c x } (a0 x) (fun cc => mulOp cc (a0 x) (f x)) he hm
  obtain ⟨hmpos, hmnd, -, -, -⟩ := hm
  rw [hs1]
  dsimp only
  generalize (mulOp (nc c x) (a0 x) (f x)).d = m at hmpos hmnd m1 m2 hmv ⊢
  have hme := exp_bounds hmpos hmnd (k := -2) (m := 0) (tm2.trans_le (le_trans (by norm_num) m1))
    ((lt_of_le_of_lt m2 (by norm_num)).trans_eq t0.symm)
  -- the sum
  replace hc1 : ed1.c = nc c x := hc1
  rw [← hc1] at hw
  have hs := add_ok ed1.c (workp c x) hw (by omega) (by omega) m (k0 x) hmpos hk (by omega) (by omega)
    (by omega) (by omega) (by linarith only [m1, v3]) (by linarith only [m2, v4])
  obtain ⟨e2, he2, hsv⟩ := hs.rel (by linarith only [m1, v3])
  obtain ⟨ed2, hs2, hed2, hc2⟩ := step_ok ed1 m (fun cc => addOp cc m (k0 x) false) hed1 hs
  rw [hs2]
  exact ⟨hed2, by rw [hc2, hc1], hs.pos, hs.nd, e1, e2, he1, he2, by rw [hsv, hmv]⟩

end Apd.SqrtL

#print axioms Apd.SqrtL.init_ok
#print axioms Apd.SqrtL.round1_ok
#print axioms Apd.SqrtL.mul_ok
#print axioms Apd.SqrtL.add_ok
#print axioms Apd.SqrtL.quo_ok
#print axioms Apd.SqrtX.round1_rnd
