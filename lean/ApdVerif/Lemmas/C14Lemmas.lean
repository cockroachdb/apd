import ApdVerif.Lemmas.C13Lemmas
import ApdVerif.Spec.Grammar
/-!
# The parser accepts exactly the numeric-string grammar

The grammar's combinators become propositions about how a string splits (`OptSign`, `DecPart`, `ExpPart`,
`FinBody`, …); `parseL` is then followed stage by stage from acceptance to the grammar.  For the way back this
file has what each stage does on a part of the grammar and what the specification's `writtenExp` and
`beforeIndicator` read there; Lemmas/TextView puts them together.
-/
namespace Apd.GramL
open Apd Apd.Text Apd.TextL Apd.Spec

theorem toLower_eq_nonletter {c x : Char} (h : c.toLower = x) (hx : ¬ (97 ≤ x.toNat ∧ x.toNat ≤ 122)) : c = x := by
  have := toLower_toNat c
  rw [h] at this
  apply Char.toNat_inj.mp
  split at this <;> omega

theorem toLower_eq_e {c : Char} : c.toLower = 'e' ↔ (c = 'e' ∨ c = 'E') := by
  constructor
  · intro h
    have := toLower_toNat c
    rw [h] at this
    have he : ('e' : Char).toNat = 101 := by decide
    rw [he] at this
    split at this
    · right; apply Char.toNat_inj.mp; show c.toNat = 69; omega
    · left; apply Char.toNat_inj.mp; show c.toNat = 101; omega
  · rintro (rfl | rfl) <;> decide

theorem nonletter_of_isDigit {x : Char} (h : x.isDigit = true) : ¬ (97 ≤ x.toNat ∧ x.toNat ≤ 122) := by
  have h' : 48 ≤ x.toNat ∧ x.toNat ≤ 57 := Char.isDigit_iff_toNat.mp h
  omega

/-- no character is a lower-case ASCII letter, so each character is the only pre-image of itself under `toLower`
(`asciiLower_eq_plain`) -/
def Plain (s : List Char) : Prop := ∀ c ∈ s, ¬ (97 ≤ c.toNat ∧ c.toNat ≤ 122)

theorem asciiLower_eq_plain {s s' : List Char} (h : asciiLower s = s') (hp : Plain s') : s = s' := by
  unfold Text.asciiLower at h
  induction s generalizing s' with
  | nil => simpa using h
  | cons c t ih =>
    cases s' with
    | nil => simp at h
    | cons c' t' =>
      simp only [List.map_cons, List.cons.injEq] at h
      have h1 := toLower_eq_nonletter h.1 (hp c' (by simp))
      have h2 := ih h.2 (fun x hx => hp x (by simp [hx]))
      rw [h1, h2]

theorem _root_.Apd.TextL.Digs.plain {s : List Char} (h : Digs s) : Plain s := fun c hc => nonletter_of_isDigit (h c hc)

theorem Plain.append {a b : List Char} (ha : Plain a) (hb : Plain b) : Plain (a ++ b) :=
  List.forall_mem_append.2 ⟨ha, hb⟩

theorem Plain.cons {c : Char} {a : List Char} (hc : ¬ (97 ≤ c.toNat ∧ c.toNat ≤ 122)) (ha : Plain a) : Plain (c :: a) :=
  List.forall_mem_cons.2 ⟨hc, ha⟩

theorem Plain.nil : Plain [] := fun _ hc => absurd hc List.not_mem_nil

/-- every character is its own lower case, so `asciiLower` leaves the string as it is (`Fixed.asciiLower`) -/
def Fixed (s : List Char) : Prop := ∀ c ∈ s, c.toLower = c

theorem Fixed.asciiLower {s : List Char} (h : Fixed s) : asciiLower s = s :=
  (List.map_congr_left h).trans (List.map_id s)
theorem _root_.Apd.TextL.Digs.fixed {s : List Char} (h : Digs s) : Fixed s := fun c hc => isDigit_toLower (h c hc)
theorem _root_.Apd.TextL.Digs.asciiLower {a : List Char} (h : Digs a) : asciiLower a = a := h.fixed.asciiLower
theorem Fixed.append {a b : List Char} (ha : Fixed a) (hb : Fixed b) : Fixed (a ++ b) :=
  List.forall_mem_append.2 ⟨ha, hb⟩
theorem Fixed.cons {c : Char} {a : List Char} (hc : c.toLower = c) (ha : Fixed a) : Fixed (c :: a) :=
  List.forall_mem_cons.2 ⟨hc, ha⟩
theorem Fixed.nil : Fixed [] := fun _ hc => absurd hc List.not_mem_nil

theorem seq_iff (p q : Lang) (s : List Char) :
    seq p q s = true ↔ ∃ a b, s = a ++ b ∧ p a = true ∧ q b = true := by
  unfold seq
  rw [List.any_eq_true]
  constructor
  · rintro ⟨i, _, hi⟩
    rw [Bool.and_eq_true] at hi
    exact ⟨s.take i, s.drop i, (List.take_append_drop i s).symm, hi.1, hi.2⟩
  · rintro ⟨a, b, rfl, ha, hb⟩
    refine ⟨a.length, ?_, ?_⟩
    · rw [List.mem_range]; simp; omega
    · simp [ha, hb]

theorem alt_iff (p q : Lang) (s : List Char) : alt p q s = true ↔ (p s = true ∨ q s = true) := by
  simp [alt]

theorem opt_iff (p : Lang) (s : List Char) : opt p s = true ↔ (s = [] ∨ p s = true) := by
  simp [opt]

theorem chr_iff (c : Char) (s : List Char) : chr c s = true ↔ s = [c] := by
  simp [chr]

theorem anyCase_iff (w s : List Char) : anyCase w s = true ↔ asciiLower s = w := by
  simp [anyCase, Text.asciiLower]

theorem digit_iff (c : Char) : digit [c] = true ↔ c.isDigit = true := by
  simp only [digit, Char.isDigit, Bool.and_eq_true, decide_eq_true_eq, Char.le_def, ge_iff_le]

theorem digits_iff (s : List Char) : digits s = true ↔ (s ≠ [] ∧ Digs s) := by
  unfold digits Digs
  rw [Bool.and_eq_true, List.all_eq_true]
  simp only [digit_iff]
  simp

/-- `[sign]`, with `sign ::= '+' | '-'` -/
def OptSign (sg : List Char) : Prop := sg = [] ∨ sg = ['+'] ∨ sg = ['-']

theorem optSign_iff (s : List Char) : opt sign s = true ↔ OptSign s := by
  simp [opt_iff, sign, alt_iff, chr_iff, OptSign]

theorem optDigits_iff (s : List Char) : opt digits s = true ↔ Digs s := by
  rw [opt_iff, digits_iff]
  constructor
  · rintro (rfl | ⟨_, h⟩)
    · exact Digs.nil
    · exact h
  · intro h
    by_cases hs : s = []
    · exact Or.inl hs
    · exact Or.inr ⟨hs, h⟩

/-- decimal-part: digits with at most one point and at least one digit -/
def DecPart (m : List Char) : Prop :=
  (m ≠ [] ∧ Digs m) ∨ (∃ a b, m = a ++ '.' :: b ∧ Digs a ∧ Digs b ∧ a ++ b ≠ [])

theorem decimalPart_iff (m : List Char) : decimalPart m = true ↔ DecPart m := by
  unfold decimalPart DecPart
  simp only [alt_iff, seq_iff]
  simp only [optDigits_iff]
  simp only [chr_iff, digits_iff, opt_iff]
  constructor
  · rintro (⟨a, r, rfl, ⟨ha1, ha2⟩, p, b, rfl, rfl, hb⟩ | ⟨p, b, rfl, hp, hb1, hb2⟩)
    · right; exact ⟨a, b, by simp, ha2, hb, by simp [ha1]⟩
    · rcases hp with rfl | rfl
      · left; exact ⟨by simpa using hb1, by simpa using hb2⟩
      · right; exact ⟨[], b, by simp, Digs.nil, hb2, by simpa using hb1⟩
  · rintro (⟨h1, h2⟩ | ⟨a, b, rfl, ha, hb, hne⟩)
    · right; exact ⟨[], m, by simp, Or.inl rfl, h1, h2⟩
    · by_cases ha0 : a = []
      · subst ha0
        right; exact ⟨['.'], b, by simp, Or.inr rfl, by simpa using hne, hb⟩
      · left; exact ⟨a, '.' :: b, rfl, ⟨ha0, ha⟩, ['.'], b, by simp, rfl, hb⟩

theorem DecPart.forall {P : Char → Prop} (hd : ∀ c, c.isDigit = true → P c) (hdot : P '.') {m : List Char}
    (h : DecPart m) : ∀ c ∈ m, P c := by
  rcases h with ⟨_, h2⟩ | ⟨a, b, rfl, ha, hb, _⟩
  · exact fun c hc => hd c (h2 c hc)
  · exact List.forall_mem_append.2 ⟨fun c hc => hd c (ha c hc),
      List.forall_mem_cons.2 ⟨hdot, fun c hc => hd c (hb c hc)⟩⟩

theorem OptSign.forall {P : Char → Prop} (hp : P '+') (hm : P '-') {sg : List Char} (h : OptSign sg) :
    ∀ c ∈ sg, P c := by
  rcases h with rfl | rfl | rfl
  · exact fun _ hc => absurd hc List.not_mem_nil
  · exact List.forall_mem_singleton.2 hp
  · exact List.forall_mem_singleton.2 hm

/-- `exponent-part ::= indicator [sign] digits` -/
def ExpPart (x : List Char) : Prop :=
  ∃ i esg eds, x = i :: (esg ++ eds) ∧ (i = 'e' ∨ i = 'E') ∧ OptSign esg ∧ eds ≠ [] ∧ Digs eds

theorem exponentPart_iff (x : List Char) : exponentPart x = true ↔ ExpPart x := by
  unfold exponentPart ExpPart indicator
  simp only [alt_iff, seq_iff]
  simp only [optSign_iff]
  simp only [chr_iff, digits_iff]
  constructor
  · rintro ⟨a, r, rfl, ha, esg, eds, rfl, hs, hd⟩
    rcases ha with rfl | rfl
    · exact ⟨'e', esg, eds, by simp, Or.inl rfl, hs, hd⟩
    · exact ⟨'E', esg, eds, by simp, Or.inr rfl, hs, hd⟩
  · rintro ⟨i, esg, eds, rfl, hi, hs, hd⟩
    refine ⟨[i], esg ++ eds, by simp, ?_, esg, eds, rfl, hs, hd⟩
    rcases hi with rfl | rfl
    · exact Or.inl rfl
    · exact Or.inr rfl

def FinBody (t : List Char) : Prop := ∃ m x, t = m ++ x ∧ DecPart m ∧ (x = [] ∨ ExpPart x)
def InfBody (t : List Char) : Prop :=
  asciiLower t = ['i', 'n', 'f', 'i', 'n', 'i', 't', 'y'] ∨ asciiLower t = ['i', 'n', 'f']
def NanBody (t : List Char) : Prop :=
  ∃ a b, t = a ++ b ∧ (asciiLower a = ['n', 'a', 'n'] ∨ asciiLower a = ['s', 'n', 'a', 'n']) ∧ Digs b

theorem finBody_iff (t : List Char) : seq decimalPart (opt exponentPart) t = true ↔ FinBody t := by
  simp only [seq_iff, decimalPart_iff, opt_iff, exponentPart_iff, FinBody]

theorem infinity_iff (t : List Char) : infinity t = true ↔ InfBody t := by
  simp only [infinity, alt_iff, anyCase_iff, InfBody]

theorem nan_iff (t : List Char) : Spec.nan t = true ↔ NanBody t := by
  simp only [Spec.nan, alt_iff, seq_iff, anyCase_iff, optDigits_iff, NanBody]
  constructor
  · rintro (⟨a, b, e, ha, hb⟩ | ⟨a, b, e, ha, hb⟩)
    exacts [⟨a, b, e, Or.inl ha, hb⟩, ⟨a, b, e, Or.inr ha, hb⟩]
  · rintro ⟨a, b, e, ha | ha, hb⟩
    exacts [Or.inl ⟨a, b, e, ha, hb⟩, Or.inr ⟨a, b, e, ha, hb⟩]

/-- the two alternatives of `numeric-string` (and of `isSpecial`) share their optional sign -/
theorem signed_alt_iff (p q : Lang) (l : List Char) :
    alt (seq (opt sign) p) (seq (opt sign) q) l = true ↔
      ∃ sg t, l = sg ++ t ∧ OptSign sg ∧ (p t = true ∨ q t = true) := by
  simp only [alt_iff, seq_iff, optSign_iff]
  constructor
  · rintro (⟨sg, t, e, hs, h⟩ | ⟨sg, t, e, hs, h⟩)
    exacts [⟨sg, t, e, hs, Or.inl h⟩, ⟨sg, t, e, hs, Or.inr h⟩]
  · rintro ⟨sg, t, e, hs, h | h⟩
    exacts [Or.inl ⟨sg, t, e, hs, h⟩, Or.inr ⟨sg, t, e, hs, h⟩]

theorem numericString_iff (l : List Char) :
    numericString l = true ↔ ∃ sg t, l = sg ++ t ∧ OptSign sg ∧ (FinBody t ∨ InfBody t ∨ NanBody t) := by
  unfold numericString
  rw [signed_alt_iff]
  simp only [numericValue, alt_iff, finBody_iff, infinity_iff, nan_iff, or_assoc]

theorem isSpecial_iff (l : List Char) :
    isSpecial l = true ↔ ∃ sg t, l = sg ++ t ∧ OptSign sg ∧ (InfBody t ∨ NanBody t) := by
  unfold isSpecial
  rw [signed_alt_iff]
  simp only [infinity_iff, nan_iff]

/-- `parseL` after the sign has been split off and the rest lower-cased.  A copy of the model text: `parseL_eq`
(by `rfl`) breaks if the model changes -/
def parseBody (neg : Bool) (s : List Char) : Option (Dec × Int) :=
  if startsWithSign s then none
  else if s = ['i', 'n', 'f', 'i', 'n', 'i', 't', 'y'] ∨ s = ['i', 'n', 'f'] then
    some ({ form := .infinite, neg := neg, exp := 0, coeff := 0 }, 0)
  else
    match consumePrefix ['n', 'a', 'n'] s with
    | some t =>
      if t.all Char.isDigit then some ({ form := .nan, neg := neg, exp := 0, coeff := 0 }, 0) else none
    | none =>
      match consumePrefix ['s', 'n', 'a', 'n'] s with
      | some t =>
        if t.all Char.isDigit then some ({ form := .nanSignaling, neg := neg, exp := 0, coeff := 0 }, 0) else none
      | none => parseNumeric neg s

theorem parseL_eq (l : List Char) : parseL l = parseBody (splitSign l).1 (asciiLower (splitSign l).2) := rfl

/-! ## direction 1: whatever the parser accepts is in the grammar -/

theorem splitSign_spec (l : List Char) : ∃ sg, l = sg ++ (splitSign l).2 ∧ OptSign sg := by
  unfold splitSign
  cases h1 : consumePrefix ['-'] l with
  | some t =>
    rw [consumePrefix_eq_some] at h1
    exact ⟨['-'], h1, Or.inr (Or.inr rfl)⟩
  | none =>
    cases h2 : consumePrefix ['+'] l with
    | some t =>
      rw [consumePrefix_eq_some] at h2
      exact ⟨['+'], h2, Or.inr (Or.inl rfl)⟩
    | none => exact ⟨[], rfl, Or.inl rfl⟩

theorem splitAtFirst_some {c : Char} {s a b : List Char} (h : splitAtFirst c s = some (a, b)) :
    s = a ++ c :: b ∧ c ∉ a := by
  induction s generalizing a with
  | nil => simp [splitAtFirst] at h
  | cons x xs ih =>
    simp only [splitAtFirst] at h
    by_cases hx : x = c
    · simp [hx] at h
      obtain ⟨rfl, rfl⟩ := h
      simp [hx]
    · simp only [hx, if_false] at h
      cases h2 : splitAtFirst c xs with
      | none => simp [h2] at h
      | some ab =>
        obtain ⟨a', b'⟩ := ab
        simp [h2] at h
        obtain ⟨rfl, rfl⟩ := h
        obtain ⟨e1, e2⟩ := ih h2
        constructor
        · simp [e1]
        · simp [e2]; exact fun e => hx e.symm

theorem finishMant_some_decPart {neg : Bool} {m : List Char} {x : Int} (h : (finishMant neg m x).isSome = true) :
    DecPart m := by
  unfold finishMant at h
  cases hs : splitAtFirst '.' m with
  | none =>
    simp only [hs] at h
    split at h
    · cases h
    · split at h
      · exact Or.inl ((allDigits_iff _).1 ‹_›)
      · cases h
  | some ab =>
    simp only [hs] at h
    split at h
    · cases h
    · split at h
      · have hd := (allDigits_iff _).1 ‹_›
        exact Or.inr ⟨ab.1, ab.2, (splitAtFirst_some hs).1, hd.2.of_append_left, hd.2.of_append_right, hd.1⟩
      · cases h

theorem parseInt32_some {e : List Char} {x : Int} (h : parseInt32 e = some x) :
    ∃ esg eds, e = esg ++ eds ∧ OptSign esg ∧ eds ≠ [] ∧ Digs eds := by
  obtain ⟨sg, h1, h2⟩ := splitSign_spec e
  unfold parseInt32 at h
  simp only [] at h
  split at h
  · rename_i hd
    rw [allDigits_iff] at hd
    exact ⟨sg, (splitSign e).2, h1, h2, hd.1, hd.2⟩
  · simp at h

theorem DecPart.plain {m : List Char} (h : DecPart m) : Plain m :=
  h.forall (fun _ => nonletter_of_isDigit) (by decide)

theorem OptSign.plain {sg : List Char} (h : OptSign sg) : Plain sg := h.forall (by decide) (by decide)

theorem asciiLower_eq_append {t a' b' : List Char} (h : asciiLower t = a' ++ b') :
    ∃ a b, t = a ++ b ∧ asciiLower a = a' ∧ asciiLower b = b' := by
  unfold Text.asciiLower at h ⊢
  exact List.map_eq_append_iff.mp h

theorem asciiLower_eq_cons {t : List Char} {c' : Char} {b' : List Char} (h : asciiLower t = c' :: b') :
    ∃ c b, t = c :: b ∧ c.toLower = c' ∧ asciiLower b = b' := by
  unfold Text.asciiLower at h ⊢
  exact List.map_eq_cons_iff.mp h

theorem parseNumeric_some_finBody {neg : Bool} {t : List Char}
    (h : (parseNumeric neg (asciiLower t)).isSome = true) : FinBody t := by
  rw [parseNumeric_eq] at h
  cases hs : splitAtFirst 'e' (asciiLower t) with
  | none =>
    simp only [hs] at h
    have hd := finishMant_some_decPart h
    have := asciiLower_eq_plain rfl hd.plain
    rw [← this] at hd
    exact ⟨t, [], by simp, hd, Or.inl rfl⟩
  | some me =>
    obtain ⟨m', e'⟩ := me
    simp only [hs] at h
    obtain ⟨e1, _⟩ := splitAtFirst_some hs
    cases hp : parseInt32 e' with
    | none => simp [hp] at h
    | some x =>
      simp only [hp] at h
      have hd := finishMant_some_decPart h
      obtain ⟨esg, eds, rfl, hsg, hne, hds⟩ := parseInt32_some hp
      obtain ⟨m, r, rfl, hm, hr⟩ := asciiLower_eq_append e1
      obtain ⟨i, e, rfl, hi, he⟩ := asciiLower_eq_cons hr
      have hm' := asciiLower_eq_plain hm hd.plain
      have he' := asciiLower_eq_plain he (hsg.plain.append hds.plain)
      subst hm' he'
      exact ⟨m, i :: (esg ++ eds), rfl, hd, Or.inr ⟨i, esg, eds, rfl, toLower_eq_e.mp hi, hsg, hne, hds⟩⟩

theorem nanBody_of_prefix {t w r : List Char} (hw : w = ['n', 'a', 'n'] ∨ w = ['s', 'n', 'a', 'n'])
    (h : consumePrefix w (asciiLower t) = some r) (hr : r.all Char.isDigit = true) : NanBody t := by
  obtain ⟨a, b, rfl, ha, hb⟩ := asciiLower_eq_append (consumePrefix_eq_some.1 h)
  obtain rfl := asciiLower_eq_plain hb (Digs.of_all hr).plain
  exact ⟨a, b, rfl, hw.imp ha.trans ha.trans, Digs.of_all hr⟩

theorem parseBody_some_body {neg : Bool} {t : List Char}
    (h : (parseBody neg (asciiLower t)).isSome = true) : FinBody t ∨ InfBody t ∨ NanBody t := by
  unfold parseBody at h
  split at h
  · cases h
  · split at h
    · exact Or.inr (Or.inl ‹_›)
    · split at h
      · split at h
        · exact Or.inr (Or.inr (nanBody_of_prefix (Or.inl rfl) ‹_› ‹_›))
        · cases h
      · split at h
        · split at h
          · exact Or.inr (Or.inr (nanBody_of_prefix (Or.inr rfl) ‹_› ‹_›))
          · cases h
        · exact Or.inl (parseNumeric_some_finBody h)

theorem parseL_some_numericString {l : List Char} (h : (parseL l).isSome = true) : numericString l = true := by
  rw [numericString_iff]
  obtain ⟨sg, h1, h2⟩ := splitSign_spec l
  rw [parseL_eq] at h
  exact ⟨sg, (splitSign l).2, h1, h2, parseBody_some_body h⟩

/-! ## direction 2, stage by stage: the parser and the specification's readers on the parts of the grammar -/

def NoE (s : List Char) : Prop := ∀ c ∈ s, c ≠ 'e' ∧ c ≠ 'E'

theorem NoE.append {a b : List Char} (ha : NoE a) (hb : NoE b) : NoE (a ++ b) :=
  List.forall_mem_append.2 ⟨ha, hb⟩
theorem NoE.nil : NoE [] := fun _ hc => absurd hc List.not_mem_nil
theorem NoE.cons {c : Char} {a : List Char} (h1 : c ≠ 'e') (h2 : c ≠ 'E') (ha : NoE a) : NoE (c :: a) :=
  List.forall_mem_cons.2 ⟨⟨h1, h2⟩, ha⟩
theorem NoE.not_mem {a : List Char} (h : NoE a) : 'e' ∉ a := fun hm => (h _ hm).1 rfl

theorem noE_of_isDigit {c : Char} (h : c.isDigit = true) : c ≠ 'e' ∧ c ≠ 'E' :=
  ⟨isDigit_ne h (by decide), isDigit_ne h (by decide)⟩

theorem _root_.Apd.TextL.Digs.noE {s : List Char} (h : Digs s) : NoE s := fun c hc => noE_of_isDigit (h c hc)

theorem OptSign.noE {sg : List Char} (h : OptSign sg) : NoE sg := h.forall (by decide) (by decide)

theorem DecPart.noE {m : List Char} (h : DecPart m) : NoE m := h.forall (fun _ => noE_of_isDigit) (by decide)

theorem noE_of_lower {t w : List Char} (h : asciiLower t = w) (hw : 'e' ∉ w) : NoE t := by
  intro c hc
  have hm : c.toLower ∈ w := by
    rw [← h]; unfold Text.asciiLower; exact List.mem_map_of_mem hc
  constructor
  · rintro rfl; exact hw hm
  · rintro rfl; exact hw hm

theorem noE_pred {a : List Char} (h : NoE a) : ∀ c ∈ a, (c != 'e' && c != 'E') = true := by
  intro c hc
  simp [(h c hc).1, (h c hc).2]

theorem afterIndicator_noE_append {a : List Char} (x : List Char) (h : NoE a) :
    afterIndicator (a ++ x) = afterIndicator x := by
  unfold afterIndicator
  rw [List.dropWhile_append_of_pos (p := fun c => c != 'e' && c != 'E') (noE_pred h)]

theorem writtenExp_noE_append {a : List Char} (x : List Char) (h : NoE a) : writtenExp (a ++ x) = writtenExp x := by
  unfold writtenExp
  rw [afterIndicator_noE_append x h]

theorem writtenExp_noE {s : List Char} (h : NoE s) : writtenExp s = 0 := by
  rw [← List.append_nil s, writtenExp_noE_append [] h]
  rfl

theorem digitsValue_eq (s : List Char) : Spec.digitsValue s = digitsVal s := rfl

def signedVal (esg eds : List Char) : Int :=
  if esg = ['-'] then -(digitsVal eds : Int) else (digitsVal eds : Int)

theorem parseInt32_optSign {esg eds : List Char} (hs : OptSign esg) (hd : Digs eds) (hne : eds ≠ []) :
    parseInt32 (esg ++ eds) =
      if -2147483648 ≤ signedVal esg eds ∧ signedVal esg eds ≤ 2147483647 then some (signedVal esg eds) else none := by
  have had := hd.allDigits hne
  unfold parseInt32 signedVal
  rcases hs with rfl | rfl | rfl
  · simp only [List.nil_append, hd.splitSign, had, if_true]
    simp
  · simp only [List.singleton_append, splitSign_plus, had, if_true]
    simp
  · simp only [List.singleton_append, splitSign_minus, had, if_true]
    simp

theorem writtenExp_expPart {i : Char} {esg eds : List Char} (hi : i = 'e' ∨ i = 'E') (hs : OptSign esg)
    (hd : Digs eds) (hne : eds ≠ []) : writtenExp (i :: (esg ++ eds)) = signedVal esg eds := by
  have h : afterIndicator (i :: (esg ++ eds)) = some (esg ++ eds) := by
    unfold afterIndicator
    rw [List.dropWhile_cons_of_neg (by rcases hi with rfl | rfl <;> decide)]
  unfold writtenExp signedVal
  rw [h]
  rcases hs with rfl | rfl | rfl
  · cases eds with
    | nil => exact absurd rfl hne
    | cons c r =>
      have h1 := digit_ne_minus hd.head
      have h2 := digit_ne_plus hd.head
      simp only [List.nil_append]
      split
      · rename_i heq; simp at heq
      · rename_i heq; simp at heq; exact absurd heq.1 h1
      · rename_i heq; simp at heq; exact absurd heq.1 h2
      · rename_i heq; simp at heq; subst heq; simp [digitsValue_eq]
  · simp [digitsValue_eq]
  · simp [digitsValue_eq]

theorem OptSign.fixed {sg : List Char} (h : OptSign sg) : Fixed sg := h.forall (by decide) (by decide)
theorem DecPart.fixed {m : List Char} (h : DecPart m) : Fixed m := h.forall (fun _ => isDigit_toLower) (by decide)

def HeadOK (t : List Char) : Prop := ∃ c r, t = c :: r ∧ c ≠ '+' ∧ c ≠ '-'

theorem splitSign_optSign {sg t : List Char} (hs : OptSign sg) (ht : HeadOK t) :
    splitSign (sg ++ t) = (decide (sg = ['-']), t) := by
  obtain ⟨c, r, rfl, h1, h2⟩ := ht
  rcases hs with rfl | rfl | rfl
  · simpa using splitSign_other r h2 h1
  · simpa using splitSign_plus (c :: r)
  · simpa using splitSign_minus (c :: r)

theorem DecPart.head_ne {m : List Char} (h : DecPart m) :
    ∃ c r, m = c :: r ∧ ∀ y : Char, y.isDigit = false → y ≠ '.' → c ≠ y := by
  rcases h with ⟨h1, h2⟩ | ⟨a, b, rfl, ha, hb, _⟩
  · cases m with
    | nil => exact absurd rfl h1
    | cons c r => exact ⟨c, r, rfl, fun y hy _ => isDigit_ne h2.head hy⟩
  · cases a with
    | nil => exact ⟨'.', b, rfl, fun y _ hy => hy.symm⟩
    | cons c r => exact ⟨c, r ++ '.' :: b, rfl, fun y hy _ => isDigit_ne ha.head hy⟩

theorem DecPart.headOK {m : List Char} (h : DecPart m) (x : List Char) : HeadOK (m ++ x) := by
  obtain ⟨c, r, rfl, hne⟩ := h.head_ne
  exact ⟨c, r ++ x, rfl, hne _ (by decide) (by decide), hne _ (by decide) (by decide)⟩

theorem parseBody_numeric (neg : Bool) {c : Char} (r : List Char)
    (h1 : c ≠ '+') (h2 : c ≠ '-') (h3 : c ≠ 'i') (h4 : c ≠ 'n') (h5 : c ≠ 's') :
    parseBody neg (c :: r) = parseNumeric neg (c :: r) := by
  unfold parseBody
  rw [startsWithSign_other _ h2 h1]
  simp [h3, consumePrefix_cons_ne _ _ h4.symm, consumePrefix_cons_ne _ _ h5.symm]

theorem DecPart.parseBody_numeric {m : List Char} (h : DecPart m) (neg : Bool) (z : List Char) :
    parseBody neg (m ++ z) = parseNumeric neg (m ++ z) := by
  obtain ⟨c, r, rfl, hne⟩ := h.head_ne
  exact GramL.parseBody_numeric neg _ (hne _ (by decide) (by decide)) (hne _ (by decide) (by decide))
    (hne _ (by decide) (by decide)) (hne _ (by decide) (by decide)) (hne _ (by decide) (by decide))

theorem headOK_of_lower {t : List Char} {c' : Char} {w : List Char} (h : asciiLower t = c' :: w)
    (h1 : c' ≠ '+') (h2 : c' ≠ '-') : HeadOK t := by
  obtain ⟨c, b, rfl, hc, _⟩ := asciiLower_eq_cons h
  refine ⟨c, b, rfl, ?_, ?_⟩
  · rintro rfl; exact h1 hc.symm
  · rintro rfl; exact h2 hc.symm

theorem body_headOK {t : List Char} (h : FinBody t ∨ InfBody t ∨ NanBody t) : HeadOK t := by
  rcases h with ⟨m, x, rfl, hm, _⟩ | (h | h) | ⟨a, b, rfl, ha | ha, _⟩
  · exact hm.headOK x
  · exact headOK_of_lower h (by decide) (by decide)
  · exact headOK_of_lower h (by decide) (by decide)
  · exact headOK_of_lower ((asciiLower_append a b).trans (congrArg (· ++ asciiLower b) ha)) (by decide) (by decide)
  · exact headOK_of_lower ((asciiLower_append a b).trans (congrArg (· ++ asciiLower b) ha)) (by decide) (by decide)

theorem special_noE {t : List Char} (h : InfBody t ∨ NanBody t) : NoE t := by
  rcases h with (h | h) | ⟨a, b, rfl, ha | ha, hb⟩
  · exact noE_of_lower h (by decide)
  · exact noE_of_lower h (by decide)
  · exact (noE_of_lower ha (by decide)).append hb.noE
  · exact (noE_of_lower ha (by decide)).append hb.noE

theorem special_parse_val {neg : Bool} {t : List Char} (h : InfBody t ∨ NanBody t) :
    ∃ d, parseBody neg (asciiLower t) = some (d, 0) ∧ d.form ≠ .finite ∧ d.exp = 0 ∧ d.coeff = 0 := by
  rcases h with h | ⟨a, b, rfl, ha, hb⟩
  · rcases h with h | h <;> rw [h] <;>
      exact ⟨{ form := .infinite, neg := neg, exp := 0, coeff := 0 }, by cases neg <;> rfl, by simp, rfl, rfl⟩
  · rw [asciiLower_append, hb.asciiLower]
    unfold parseBody
    rcases ha with ha | ha
    · rw [ha]
      exact ⟨{ form := .nan, neg := neg, exp := 0, coeff := 0 }, by simp [startsWithSign, consumePrefix, hb.all], by simp, rfl, rfl⟩
    · rw [ha]
      exact ⟨{ form := .nanSignaling, neg := neg, exp := 0, coeff := 0 }, by simp [startsWithSign, consumePrefix, hb.all], by simp, rfl, rfl⟩

/-- `Spec.fracDigits` with `beforeIndicator` factored out: `fracDigits s` is by definition
`fracOf (beforeIndicator s)`, which the `rfl` in `denotedExp_fin` (Lemmas/TextView) relies on -/
def fracOf (m : List Char) : Nat :=
  match m.dropWhile (· != '.') with
  | [] => 0
  | _ :: t => t.length

theorem digs_ne_dot {a : List Char} (h : Digs a) : ∀ c ∈ a, (c != '.') = true := by
  intro c hc
  have : c ≠ '.' := isDigit_ne (h c hc) (by decide)
  simp [this]

theorem fracOf_digs {m : List Char} (h : Digs m) : fracOf m = 0 := by
  unfold fracOf
  have := List.dropWhile_append_of_pos (p := (· != '.')) (l₂ := []) (digs_ne_dot h)
  simp at this
  rw [this]

theorem fracOf_dot {a : List Char} (b : List Char) (h : Digs a) : fracOf (a ++ '.' :: b) = b.length := by
  unfold fracOf
  rw [List.dropWhile_append_of_pos (p := (· != '.')) (digs_ne_dot h), List.dropWhile_cons_of_neg (by decide)]

theorem filter_digs {m : List Char} (h : Digs m) : m.filter (· != '.') = m :=
  List.filter_eq_self.mpr (digs_ne_dot h)

theorem filter_dot {a b : List Char} (ha : Digs a) (hb : Digs b) : (a ++ '.' :: b).filter (· != '.') = a ++ b := by
  rw [List.filter_append, filter_digs ha, List.filter_cons_of_neg (by decide), filter_digs hb]

theorem DecPart.finishMant_val {m : List Char} (h : DecPart m) (neg : Bool) (x : Int) :
    finishMant neg m x =
      some ({ form := .finite, neg := neg, exp := 0, coeff := digitsVal (m.filter (· != '.')) }, x - (fracOf m : Int)) := by
  rcases h with ⟨h1, h2⟩ | ⟨a, b, rfl, ha, hb, hne⟩
  · rw [finishMant_nodot neg x h2 h1, filter_digs h2, fracOf_digs h2]; simp
  · rw [finishMant_dot neg x ha hb hne, filter_dot ha hb, fracOf_dot b ha]

theorem takeWhile_noE {m : List Char} (x : List Char) (hm : NoE m) (hx : x = [] ∨ ExpPart x) :
    (m ++ x).takeWhile (fun c => c != 'e' && c != 'E') = m := by
  rw [List.takeWhile_append_of_pos (noE_pred hm)]
  rcases hx with rfl | ⟨i, esg, eds, rfl, hi, _⟩
  · simp
  · rw [List.takeWhile_cons_of_neg]
    · simp
    · rcases hi with rfl | rfl <;> decide

theorem beforeIndicator_eq {sg m x : List Char} (hs : OptSign sg) (hm : DecPart m) (hx : x = [] ∨ ExpPart x) :
    beforeIndicator (sg ++ (m ++ x)) = m := by
  unfold beforeIndicator
  rcases hs with rfl | rfl | rfl
  · obtain ⟨c, r, e, h1, h2⟩ := hm.headOK x
    rw [List.nil_append, e]
    split
    · rename_i heq; exact absurd (List.cons.inj heq).1 h1
    · rename_i heq; exact absurd (List.cons.inj heq).1 h2
    · rw [← e]; exact takeWhile_noE x hm.noE hx
  · exact takeWhile_noE x hm.noE hx
  · exact takeWhile_noE x hm.noE hx

/-- `Spec.ExpInt32` on a list; `C14_parse_accepts_iff` uses that the two are definitionally equal -/
def ExpInt32L (l : List Char) : Prop := -2147483648 ≤ writtenExp l ∧ writtenExp l ≤ 2147483647
instance (l : List Char) : Decidable (ExpInt32L l) := by unfold ExpInt32L; exact inferInstance

end Apd.GramL
