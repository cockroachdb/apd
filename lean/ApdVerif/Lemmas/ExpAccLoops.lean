import ApdVerif.Lemmas.ExpAccOps
import ApdVerif.Lemmas.ExpAccLog
import ApdVerif.Lemmas.ErrExits
/-!
# The two loops of `Exp` on the model: the Horner loop `expSeries` and `integerPower`

The Horner loop returns the Taylor polynomial `Σ_{j<n} r^j/j!` within `HF` (`series_total`); `integerPower` returns
`x^K` within `K` rounding errors (`intPower_near`).
-/
namespace Apd.ExpAcc
open Apd.C12L

/-- the three steps of one round of `expSeries`, named so that the loop unfolds to them by `rfl` (`expSeries_succ`); their
like are `C12L.pR1`, `pR2` for `intPowLoop` (`Lemmas/ErrExits`) and `lR1`–`lR4`, `hR2`–`hR6` for the loops of `Ln`
(`Oracle/LnTapeOK`) -/
def sR1 (r : Dec) (i : Nat) (e : ED) : ED × Dec := e.step decZero (fun c => quoOp c r { coeff := i + 1 })
def sR2 (r : Dec) (i : Nat) (e : ED) (sum : Dec) : ED × Dec :=
  (sR1 r i e).1.step sum (fun c => mulOp c (sR1 r i e).2 sum)
def sR3 (r : Dec) (i : Nat) (e : ED) (sum : Dec) : ED × Dec :=
  (sR2 r i e sum).1.step (sR2 r i e sum).2 (fun c => addOp c (sR2 r i e sum).2 decOne false)

theorem expSeries_succ (r : Dec) (i : Nat) (e : ED) (sum : Dec) :
    expSeries r (i + 1) e sum = expSeries r i (sR3 r i e sum).1 (sR3 r i e sum).2 := rfl

theorem expSeries_failed (r : Dec) : ∀ (i : Nat) (e : ED) (sum : Dec), e.failed = true →
    (expSeries r i e sum).1.failed = true := by
  intro i
  induction i with
  | zero => intro e sum h; exact h
  | succ i ih =>
    intro e sum h
    rw [expSeries_succ]
    apply ih
    unfold sR3 sR2 sR1
    rw [ED.step_of_failed h]
    simp only
    rw [ED.step_of_failed h]
    simp only
    rw [ED.step_of_failed h]
    exact h

theorem quo_index_rel (nc : Ctx) (hw : Wide nc) (hm : nc.mode = .halfEven) (r : Dec) (hr : r.form = .finite)
    (hr0 : rv r ≠ 0) (hnd : ndigits r.coeff ≤ nc.prec) (i : Nat)
    (he : (quoOp nc r { coeff := i + 1 }).err = .none) :
    (quoOp nc r { coeff := i + 1 }).d.form = .finite ∧ ∃ δ1 : ℝ, |δ1| ≤ uR nc.prec ∧ (i = 0 → δ1 = 0) ∧
      rv (quoOp nc r { coeff := i + 1 }).d = rv r / ((i + 1 : ℕ) : ℝ) * (1 + δ1) := by
  by_cases hi0 : i = 0
  · subst hi0
    obtain ⟨g1, g2⟩ := quo_one_exact nc hw hm r hr hr0 hnd he
    exact ⟨g1, 0, by rw [abs_zero]; exact (uR_pos _).le, fun _ => rfl, by rw [g2]; simp⟩
  · obtain ⟨g1, δ1, g2, g3⟩ := quo_rel nc hw hm r _ hr rfl
      (by rw [rv_natDec]; exact (Nat.cast_pos.2 i.succ_pos).ne') he
    exact ⟨g1, δ1, g2, fun h => absurd h hi0, by rw [g3, rv_natDec]⟩

theorem theta_bound (u δ1 δ2 : ℝ) (i : ℕ) (h1 : |δ1| ≤ u) (h2 : |δ2| ≤ u) (h0 : i = 0 → δ1 = 0) :
    |δ1 + δ2 + δ1 * δ2| ≤ thetaB u i := by
  unfold thetaB
  split_ifs with hi0
  · rw [h0 hi0, zero_add, zero_mul, add_zero]; exact h2
  · have h3 : |δ1 * δ2| ≤ u ^ 2 := by
      rw [abs_mul, sq]; exact mul_le_mul h1 h2 (abs_nonneg _) ((abs_nonneg δ1).trans h1)
    have := (abs_add_le (δ1 + δ2) (δ1 * δ2)).trans (add_le_add (abs_add_le δ1 δ2) le_rfl)
    linarith only [this, h1, h2, h3]

theorem series_round (nc : Ctx) (hw : Wide nc) (hm : nc.mode = .halfEven) (r : Dec) (hr : r.form = .finite)
    (hr0 : rv r ≠ 0) (hnd : ndigits r.coeff ≤ nc.prec)
    (i : Nat) (e : ED) (he : EDg nc e) (sum : Dec) (hs : sum.form = .finite)
    (hfail : (sR3 r i e sum).1.failed = false) :
    EDg nc (sR3 r i e sum).1 ∧ (sR3 r i e sum).2.form = .finite ∧
    ∃ θ δ : ℝ, |θ| ≤ thetaB (uR nc.prec) i ∧ |δ| ≤ uR nc.prec ∧
      rv (sR3 r i e sum).2 = (1 + rv r / ((i + 1 : ℕ) : ℝ) * (1 + θ) * rv sum) * (1 + δ) := by
  have f2 := EDg.nf_back (rfl : _ = sR3 r i e sum) hfail
  have f1 := EDg.nf_back (rfl : _ = sR2 r i e sum) f2
  obtain ⟨a1, v1, E1⟩ := he.step_back (rfl : _ = sR1 r i e) f1
  obtain ⟨q1, δ1, q2, q3, q4⟩ := quo_index_rel nc hw hm r hr hr0 hnd i a1
  rw [← v1] at q1 q4
  obtain ⟨E2, m1, δ2, m2, m3⟩ := E1.mul_real hw hm (rfl : _ = sR2 r i e sum) f2 q1 hs
  obtain ⟨E3, s1, δ3, s2, s3⟩ := E2.add_real hw hm (rfl : _ = sR3 r i e sum) hfail m1 (rfl : decOne.form = _)
  refine ⟨E3, s1, _, δ3, theta_bound (uR nc.prec) δ1 δ2 i q2 m2 q3, s2, ?_⟩
  rw [s3, if_neg Bool.false_ne_true, rv_decOne, m3, q4]; ring

theorem series_loop (nc : Ctx) (hw : Wide nc) (hm : nc.mode = .halfEven) (r : Dec) (hr : r.form = .finite)
    (hr0 : rv r ≠ 0) (hnd : ndigits r.coeff ≤ nc.prec) (hu : uR nc.prec ≤ 1 / 200) (hρ : |rv r| ≤ 1) :
    ∀ (i : Nat) (e : ED) (sum : Dec) (m : Nat), EDg nc e → sum.form = .finite →
      |rv sum - hornerT (rv r) (i + 1) m| ≤
        (if i = 0 then HF (rv r) (uR nc.prec) else HB (rv r) (uR nc.prec) (i + 1)) →
      (expSeries r i e sum).1.failed = false →
      (expSeries r i e sum).2.form = .finite ∧
        |rv (expSeries r i e sum).2 - hornerT (rv r) 1 (m + i)| ≤ HF (rv r) (uR nc.prec) := by
  have hu0 : 0 ≤ uR nc.prec := (uR_pos _).le
  intro i
  induction i with
  | zero =>
    intro e sum m _ hs h2 _
    exact ⟨hs, h2⟩
  | succ i ih =>
    intro e sum m hE hs he hfin
    rw [if_neg i.succ_ne_zero] at he
    rw [expSeries_succ] at hfin ⊢
    have hfail3 : (sR3 r i e sum).1.failed = false := by
      by_contra hcon
      rw [expSeries_failed r i _ _ (by simpa using hcon)] at hfin; cases hfin
    obtain ⟨E3, s3, θ, δ, hθ, hδ, hv⟩ := series_round nc hw hm r hr hr0 hnd i e hE sum hs hfail3
    have hinv := horner_round (rv r) (uR nc.prec) (rv sum) θ δ i m hρ hu0 hu he hθ hδ
    rw [← hv] at hinv
    rw [show m + (i + 1) = m + 1 + i by omega]
    exact ih (sR3 r i e sum).1 (sR3 r i e sum).2 (m + 1) E3 s3 hinv hfin

theorem series_total (nc : Ctx) (hw : Wide nc) (hm : nc.mode = .halfEven) (r : Dec) (hr : r.form = .finite)
    (hr0 : rv r ≠ 0) (hnd : ndigits r.coeff ≤ nc.prec) (hu : uR nc.prec ≤ 1 / 200) (hρ : |rv r| ≤ 1)
    (n : Nat) (hn : 1 ≤ n)
    (hfin : (expSeries r (n - 1) { c := nc } decOne).1.failed = false) :
    (expSeries r (n - 1) { c := nc } decOne).2.form = .finite ∧
      |rv (expSeries r (n - 1) { c := nc } decOne).2 - ∑ j ∈ Finset.range n, rv r ^ j / (j.factorial : ℝ)| ≤
        HF (rv r) (uR nc.prec) := by
  have e1 : n - 1 + 1 = n := by omega
  have hsum : hornerT (rv r) 1 (0 + (n - 1)) = ∑ j ∈ Finset.range n, rv r ^ j / (j.factorial : ℝ) := by
    rw [hornerT_one, Nat.zero_add, e1]
  have := series_loop nc hw hm r hr hr0 hnd hu hρ (n - 1) { c := nc } decOne 0 (EDg.init nc) rfl
    (by
      rw [rv_decOne, hornerT_zero, sub_self, abs_zero]
      split_ifs
      · exact (HF_bounds _ _ hρ (uR_pos _).le).1
      · exact (HB_bounds _ _ _ hρ (uR_pos _).le (by omega)).1) hfin
  rw [hsum] at this
  exact this

theorem mul_step (nc : Ctx) (hw : Wide nc) (hm : nc.mode = .halfEven) (hu : uR nc.prec < 1) (e : ED)
    (he : EDg nc e) (cur x y : Dec) (hx : x.form = .finite) (hy : y.form = .finite) (hx0 : 0 < rv x)
    (hy0 : 0 < rv y) (hf : (e.step cur (fun c => mulOp c x y)).1.failed = false) :
    EDg nc (e.step cur (fun c => mulOp c x y)).1 ∧ (e.step cur (fun c => mulOp c x y)).2.form = .finite ∧
      LogNear (uL nc.prec) (rv x * rv y) (rv (e.step cur (fun c => mulOp c x y)).2) := by
  obtain ⟨E, g1, δ, h2, h3⟩ := he.mul_real hw hm rfl hf hx hy
  exact ⟨E, g1, h3 ▸ LogNear.of_rel _ δ _ (mul_pos hx0 hy0).le h2 hu⟩

theorem intPow_loop (nc : Ctx) (hw : Wide nc) (hm : nc.mode = .halfEven) (hu : uR nc.prec < 1) :
    ∀ (fuel : Nat) (e : ED) (b : Nat) (z n : Dec), EDg nc e → z.form = .finite → n.form = .finite →
      0 < rv z → 0 < rv n → b < 2 ^ fuel → (intPowLoop fuel e b z n).1.failed = false →
      (intPowLoop fuel e b z n).2.form = .finite ∧
        LogNear ((b : ℝ) * uL nc.prec) (rv z * rv n ^ b) (rv (intPowLoop fuel e b z n).2) := by
  intro fuel
  induction fuel with
  | zero =>
    intro e b z n _ hz _ _ _ hb _
    obtain rfl : b = 0 := by simpa using hb
    exact ⟨hz, by simpa [intPowLoop] using LogNear.refl (rv z)⟩
  | succ fuel ih =>
    intro e b z n hE hz hn hz0 hn0 hb hfin
    rw [intPowLoop_succ] at hfin ⊢
    by_cases h0 : b = 0
    · subst h0
      exact ⟨hz, by simpa using LogNear.refl (rv z)⟩
    rw [if_neg (by simpa using h0)] at hfin ⊢
    have hf2 : (pR2 e b z n).1.failed = false := by
      by_contra hcon
      rw [if_pos (by simpa using hcon)] at hfin
      exact hcon hfin
    rw [if_neg (by simp [hf2])] at hfin ⊢
    have hf1 : (pR1 e b z n).1.failed = false := by
      unfold pR2 at hf2
      split_ifs at hf2
      · exact EDg.nf_back rfl hf2
      · exact hf2
    obtain ⟨E1, z1f, z1L⟩ : EDg nc (pR1 e b z n).1 ∧ (pR1 e b z n).2.form = .finite ∧
        LogNear (((b % 2 : ℕ) : ℝ) * uL nc.prec) (rv z * rv n ^ (b % 2)) (rv (pR1 e b z n).2) := by
      unfold pR1 at hf1 ⊢
      rcases Nat.mod_two_eq_zero_or_one b with hb0 | hb1
      · rw [hb0]
        exact ⟨hE, hz, by simpa using LogNear.refl (rv z)⟩
      · rw [hb1] at hf1 ⊢
        simpa using mul_step nc hw hm hu e hE z z n hz hn hz0 hn0 hf1
    have z1pos : 0 < rv (pR1 e b z n).2 := z1L.pos (by positivity)
    obtain ⟨E2, n2f, n2pos, n2L⟩ : EDg nc (pR2 e b z n).1 ∧ (pR2 e b z n).2.form = .finite ∧
        0 < rv (pR2 e b z n).2 ∧ (0 < b / 2 → LogNear (uL nc.prec) (rv n * rv n) (rv (pR2 e b z n).2)) := by
      unfold pR2 at hf2 ⊢
      split_ifs at hf2 ⊢ with hp
      · obtain ⟨g0, g1, g2⟩ := mul_step nc hw hm hu _ E1 n n n hn hn hn0 hn0 hf2
        exact ⟨g0, g1, g2.pos (by positivity), fun _ => g2⟩
      · exact ⟨E1, hn, hn0, fun h => absurd h hp⟩
    obtain ⟨r1, r2⟩ := ih _ (b / 2) _ _ E2 z1f n2f z1pos n2pos
      (by rw [pow_succ] at hb; omega) hfin
    refine ⟨r1, ?_⟩
    have := pow_combine (rv z) (rv n) _ _ _ (uL nc.prec) (b / 2) (b % 2) hz0 hn0 z1L n2L r2
    rwa [← show b = 2 * (b / 2) + b % 2 by omega] at this

theorem intPower_near (nc : Ctx) (hw : Wide nc) (hm : nc.mode = .halfEven) (hu : uR nc.prec < 1) (x : Dec)
    (hx : x.form = .finite) (hx0 : 0 < rv x) (K : Nat)
    (he : (integerPower nc x (K : Int)).2.2 = .none) :
    (integerPower nc x (K : Int)).1.form = .finite ∧
      LogNear ((K : ℝ) * uL nc.prec) (rv x ^ K) (rv (integerPower nc x (K : Int)).1) := by
  unfold integerPower at he ⊢
  have hb : (K : Int).natAbs = K := Int.natAbs_natCast K
  have hneg : decide ((K : Int) < 0) = false := by simp
  simp only [hb, hneg] at he ⊢
  by_cases hf : (intPowLoop (Nat.log2 K + 2) { c := nc } K decOne x).1.failed = true
  · rw [if_pos hf] at he
    exact absurd he (ED.errOf_ne_none hf)
  · have hf' : (intPowLoop (Nat.log2 K + 2) { c := nc } K decOne x).1.failed = false := by simpa using hf
    rw [if_neg hf]
    simp only [Bool.false_eq_true, if_false]
    have hlt : K < 2 ^ (Nat.log2 K + 2) := by
      have := @Nat.lt_log2_self K
      calc K < 2 ^ (Nat.log2 K + 1) := this
        _ ≤ 2 ^ (Nat.log2 K + 2) := Nat.pow_le_pow_right (by decide) (by omega)
    obtain ⟨r1, r2⟩ := intPow_loop nc hw hm hu (Nat.log2 K + 2) { c := nc } K decOne x (EDg.init nc) rfl hx
      (by rw [rv_decOne]; exact one_pos) hx0 hlt hf'
    refine ⟨r1, ?_⟩
    rw [rv_decOne, one_mul] at r2
    exact r2

end Apd.ExpAcc
