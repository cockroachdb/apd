import ApdVerif.Model.Conv
import ApdVerif.Lemmas.C15Lemmas
import Mathlib.Tactic.Ring
/-!
# `wrap64` arithmetic, the three paths of `modf`, `Cmp` against an integer
-/
namespace Apd.C17L
theorem wrap64_id (z : Int) (h1 : -2 ^ 63 ≤ z) (h2 : z < 2 ^ 63) : wrap64 z = z := by
  unfold wrap64; omega

theorem wrap64_mul10 (a : Int) : wrap64 (wrap64 a * 10) = wrap64 (a * 10) := by
  unfold wrap64; omega

theorem wrap64_neg (a : Int) : wrap64 (-wrap64 a) = wrap64 (-a) := by
  unfold wrap64; omega

theorem wrap64_mod (n : Nat) : wrap64 ((n % 2 ^ 64 : Nat) : Int) = wrap64 (n : Int) := by
  unfold wrap64; omega

theorem mul10Loop_wrap (k : Nat) (z : Int) : mul10Loop k (wrap64 z) = wrap64 (z * 10 ^ k) := by
  induction k generalizing z with
  | zero => simp [mul10Loop]
  | succ k ih =>
    simp only [mul10Loop]
    rw [wrap64_mul10, ih]
    congr 1
    ring

theorem modf_pos {d : Dec} (h : d.exp > 0) :
    modf d = (d, { form := .finite, neg := d.neg, exp := 0, coeff := 0 }) := if_pos h

theorem modf_frac {d : Dec} (h1 : ¬ d.exp > 0) (h2 : -d.exp > (ndigits d.coeff : Int)) :
    modf d = ({ form := .finite, neg := d.neg, exp := 0, coeff := 0 }, d) := by
  unfold modf; rw [if_neg h1]; exact if_pos h2

theorem modf_split {d : Dec} (h1 : ¬ d.exp > 0) (h2 : ¬ -d.exp > (ndigits d.coeff : Int)) :
    modf d = ({ form := .finite, neg := d.neg, exp := 0, coeff := d.coeff / 10 ^ (-d.exp).toNat },
       { form := .finite, neg := d.neg, exp := d.exp, coeff := d.coeff % 10 ^ (-d.exp).toNat }) := by
  unfold modf; rw [if_neg h1]; exact if_neg h2

theorem isZero_mk (n : Bool) (e : Int) (c : Nat) :
    ({ form := .finite, neg := n, exp := e, coeff := c } : Dec).isZero = true ↔ c = 0 := by
  simp [Dec.isZero]

def sval (neg : Bool) (N : Nat) : Int := (if neg then -1 else 1) * (N : Int)

theorem cmp_intExp (neg : Bool) (E : Int) (C : Nat) (yneg : Bool) (Y : Nat) (hE : 0 ≤ E) :
    Dec.cmp { form := .finite, neg := neg, exp := E, coeff := C }
            { form := .finite, neg := yneg, exp := 0, coeff := Y }
      = cmpInt (sval neg (C * 10 ^ E.toNat)) (sval yneg Y) := by
  rw [C15L.cmp_finite _ _ rfl rfl]
  simp only [Int.min_eq_right hE, signedScaled, sval, Int.sub_zero, Int.toNat_zero, Nat.pow_zero, Nat.mul_one]

/-- the value `Decimal.Int64` assembles from the low 64 bits, the `*= 10` loop and the sign: the integer, wrapped -/
theorem int64_value (neg : Bool) (E : Int) (C : Nat) :
    (if neg then wrap64 (-(mul10Loop E.toNat (wrap64 ((C % 2 ^ 64 : Nat) : Int))))
      else mul10Loop E.toNat (wrap64 ((C % 2 ^ 64 : Nat) : Int))) = wrap64 (sval neg (C * 10 ^ E.toNat)) := by
  rw [wrap64_mod, mul10Loop_wrap]
  cases neg
  · simp [sval]
  · rw [if_pos rfl, wrap64_neg]; simp [sval]

end Apd.C17L
