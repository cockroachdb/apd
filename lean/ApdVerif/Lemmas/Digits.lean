import ApdVerif.Model.Basic
/-!
# Digit-count lemmas

`ndigits n = k` is `10^(k-1) ≤ n < 10^k` (`ndigits_spec`, `ndigits_unique`); everything else follows from that. The carry
lemmas are what `roundAddOne` rests on: `y + 1` has more digits than `y` only when it is a power of ten.
-/
namespace Apd

theorem ndigitsAux_pos (f n : Nat) : 1 ≤ ndigitsAux f n := by
  cases f with
  | zero => simp [ndigitsAux]
  | succ f => simp only [ndigitsAux]; split <;> omega

theorem ndigitsAux_spec : ∀ (f n : Nat), n ≤ f → 0 < n →
    10 ^ (ndigitsAux f n - 1) ≤ n ∧ n < 10 ^ (ndigitsAux f n) := by
  intro f
  induction f with
  | zero => intro n h1 h2; omega
  | succ f ih =>
    intro n hf hn
    simp only [ndigitsAux]
    split
    · rename_i h; simp; omega
    · rename_i h
      have hq : 0 < n / 10 := by omega
      have hle : n / 10 ≤ f := by omega
      obtain ⟨a, b⟩ := ih (n / 10) hle hq
      have hp := ndigitsAux_pos f (n / 10)
      constructor
      · have : 1 + ndigitsAux f (n / 10) - 1 = (ndigitsAux f (n / 10) - 1) + 1 := by omega
        rw [this, Nat.pow_succ]
        have := Nat.div_mul_le_self n 10
        calc 10 ^ (ndigitsAux f (n / 10) - 1) * 10 ≤ (n / 10) * 10 := Nat.mul_le_mul_right 10 a
          _ ≤ n := this
      · have : 1 + ndigitsAux f (n / 10) = ndigitsAux f (n / 10) + 1 := by omega
        rw [this, Nat.pow_succ]
        have h3 : n / 10 + 1 ≤ 10 ^ ndigitsAux f (n / 10) := b
        have h4 : n < (n / 10 + 1) * 10 := by omega
        calc n < (n / 10 + 1) * 10 := h4
          _ ≤ 10 ^ ndigitsAux f (n / 10) * 10 := Nat.mul_le_mul_right 10 h3

theorem ndigits_spec (n : Nat) (hn : 0 < n) :
    10 ^ (ndigits n - 1) ≤ n ∧ n < 10 ^ (ndigits n) := ndigitsAux_spec n n (Nat.le_refl n) hn

theorem ndigits_pos (n : Nat) : 1 ≤ ndigits n := ndigitsAux_pos n n

theorem ndigits_unique (n k : Nat) (hk : 1 ≤ k) (h1 : 10 ^ (k - 1) ≤ n) (h2 : n < 10 ^ k) : ndigits n = k := by
  have hn : 0 < n := Nat.lt_of_lt_of_le (Nat.pow_pos (by decide)) h1
  obtain ⟨a, b⟩ := ndigits_spec n hn
  have hp := ndigits_pos n
  rcases Nat.lt_trichotomy (ndigits n) k with h | h | h
  · exfalso
    have : 10 ^ ndigits n ≤ 10 ^ (k - 1) := Nat.pow_le_pow_right (by decide) (by omega)
    omega
  · exact h
  · exfalso
    have : 10 ^ k ≤ 10 ^ (ndigits n - 1) := Nat.pow_le_pow_right (by decide) (by omega)
    omega

theorem ndigits_le_iff (n k : Nat) (hn : 0 < n) : ndigits n ≤ k ↔ n < 10 ^ k := by
  obtain ⟨a, b⟩ := ndigits_spec n hn
  have hp := ndigits_pos n
  constructor
  · intro h
    exact Nat.lt_of_lt_of_le b (Nat.pow_le_pow_right (by decide) h)
  · intro h
    apply Nat.le_of_not_lt
    intro hlt
    have : 10 ^ k ≤ 10 ^ (ndigits n - 1) := Nat.pow_le_pow_right (by decide) (by omega)
    omega

theorem ndigits_mono {m n : Nat} (hm : 0 < m) (h : m ≤ n) : ndigits m ≤ ndigits n := by
  have hn : 0 < n := Nat.lt_of_lt_of_le hm h
  rw [ndigits_le_iff m (ndigits n) hm]
  exact Nat.lt_of_le_of_lt h (ndigits_spec n hn).2

theorem ndigits_double (n : Nat) (hn : 0 < n) : ndigits (2 * n) ≤ ndigits n + 1 := by
  rw [ndigits_le_iff (2 * n) (ndigits n + 1) (by omega), Nat.pow_succ]
  have := (ndigits_spec n hn).2
  omega

theorem pow_pred_mul (k : Nat) (hk : 1 ≤ k) : 10 ^ k = 10 * 10 ^ (k - 1) := by
  rw [← Nat.pow_succ']; congr 1; omega

theorem carry (y : Nat) (hy : 0 < y) (h : ndigits (y + 1) > ndigits y) :
    y + 1 = 10 ^ ndigits y := by
  have a := (ndigits_spec y hy).2
  have hp := ndigits_pos y
  have hb := (ndigits_spec (y + 1) (by omega)).1
  have : 10 ^ ndigits y ≤ 10 ^ (ndigits (y + 1) - 1) := Nat.pow_le_pow_right (by decide) (by omega)
  omega

theorem carry_value (y : Nat) (hy : 0 < y) (h : ndigits (y + 1) > ndigits y) :
    (y + 1) / 10 * 10 = y + 1 ∧ ndigits ((y + 1) / 10) = ndigits y := by
  have e := carry y hy h
  have hp := ndigits_pos y
  have e2 := pow_pred_mul _ hp
  constructor
  · rw [e, e2, Nat.mul_div_cancel_left _ (by decide : 0 < 10), Nat.mul_comm]
  · rw [e, e2, Nat.mul_div_cancel_left _ (by decide : 0 < 10)]
    apply ndigits_unique _ _ hp (Nat.le_refl _)
    exact Nat.pow_lt_pow_right (by decide) (by omega)

theorem addOne_fits (y P : Nat) (hP : 1 ≤ P) (hy : 0 < y) (hlt : y < 10 ^ P) :
    (if ndigits (y + 1) > ndigits y then (y + 1) / 10 else y + 1) < 10 ^ P := by
  split
  · rename_i h
    have := carry_value y hy h
    have hd : ndigits y ≤ P := (ndigits_le_iff y P hy).2 hlt
    have : ndigits ((y + 1) / 10) ≤ P := by omega
    have hpos : 0 < (y + 1) / 10 := by
      have e := carry y hy h
      have hp := ndigits_pos y
      have : 10 ≤ 10 ^ ndigits y := by
        calc 10 = 10 ^ 1 := by decide
          _ ≤ 10 ^ ndigits y := Nat.pow_le_pow_right (by decide) hp
      omega
    exact (ndigits_le_iff _ P hpos).1 this
  · rename_i h
    have hd : ndigits y ≤ P := (ndigits_le_iff y P hy).2 hlt
    have : ndigits (y + 1) ≤ P := by omega
    exact (ndigits_le_iff _ P (by omega)).1 this

theorem ndigits_zero : ndigits 0 = 1 := rfl
theorem ndigits_one : ndigits 1 = 1 := by decide

theorem ndigits_pow (k : Nat) : ndigits (10 ^ k) = k + 1 :=
  ndigits_unique _ _ (by omega) (Nat.le_refl _) (Nat.pow_lt_pow_right (by decide) (by omega))

theorem ndigits_mul_pow (n k : Nat) (hn : 0 < n) : ndigits (n * 10 ^ k) = ndigits n + k := by
  obtain ⟨a, b⟩ := ndigits_spec n hn
  have hp := ndigits_pos n
  apply ndigits_unique _ _ (by omega)
  · have : ndigits n + k - 1 = (ndigits n - 1) + k := by omega
    rw [this, Nat.pow_add]
    exact Nat.mul_le_mul_right _ a
  · rw [Nat.pow_add]
    exact Nat.mul_lt_mul_of_lt_of_le b (Nat.le_refl _) (Nat.pow_pos (by decide))

theorem ndigits_div_pow_sub (n j : Nat) (hn : 0 < n) (hj : j < ndigits n) :
    0 < n / 10 ^ j ∧ ndigits (n / 10 ^ j) = ndigits n - j := by
  obtain ⟨a, b⟩ := ndigits_spec n hn
  have hpj : 0 < 10 ^ j := Nat.pow_pos (by decide)
  have h1 : 10 ^ (ndigits n - j - 1) ≤ n / 10 ^ j := by
    rw [Nat.le_div_iff_mul_le hpj, ← Nat.pow_add]
    have : ndigits n - j - 1 + j = ndigits n - 1 := by omega
    rw [this]; exact a
  refine ⟨Nat.lt_of_lt_of_le (Nat.pow_pos (by decide)) h1, ndigits_unique _ _ (by omega) h1 ?_⟩
  rw [Nat.div_lt_iff_lt_mul hpj, ← Nat.pow_add]
  have : ndigits n - j + j = ndigits n := by omega
  rw [this]; exact b

theorem ndigits_div_pow (n P : Nat) (hn : 0 < n) (hP : 1 ≤ P) (h : P ≤ ndigits n) :
    ndigits (n / 10 ^ (ndigits n - P)) = P := by
  rw [(ndigits_div_pow_sub n _ hn (by omega)).2]; omega

theorem lt_pow_of_ndigits_le (n k : Nat) (h : ndigits n ≤ k) : n < 10 ^ k := by
  rcases Nat.eq_zero_or_pos n with h0 | h0
  · subst h0; exact Nat.pow_pos (by decide)
  · exact Nat.lt_of_lt_of_le (ndigits_spec n h0).2 (Nat.pow_le_pow_right (by decide) h)

theorem ndigits_le_of_lt_pow (n k : Nat) (hk : 1 ≤ k) (h : n < 10 ^ k) : ndigits n ≤ k := by
  rcases Nat.eq_zero_or_pos n with h0 | h0
  · subst h0; exact hk
  · exact (ndigits_le_iff n k h0).2 h

theorem ndigits_le_of_le_pow (n P : Nat) (hP : 1 ≤ P) (h : n ≤ 10 ^ (P - 1)) : ndigits n ≤ P :=
  ndigits_le_of_lt_pow n P hP
    (Nat.lt_of_le_of_lt h (Nat.pow_lt_pow_right (by decide) (by omega)))

theorem ndigits_mul_ge (a b : Nat) (ha : 0 < a) (hb : 0 < b) : ndigits a + ndigits b ≤ ndigits (a * b) + 1 := by
  obtain ⟨a1, _⟩ := ndigits_spec a ha
  obtain ⟨b1, _⟩ := ndigits_spec b hb
  have hab : 0 < a * b := Nat.mul_pos ha hb
  have hpa := ndigits_pos a
  have hpb := ndigits_pos b
  apply Decidable.byContradiction
  intro hlt
  have hk : ndigits (a * b) ≤ ndigits a + ndigits b - 2 := by omega
  have := (ndigits_le_iff (a * b) _ hab).1 hk
  have e : ndigits a + ndigits b - 2 = (ndigits a - 1) + (ndigits b - 1) := by omega
  rw [e, Nat.pow_add] at this
  have := Nat.mul_le_mul a1 b1
  omega

theorem ndigits_mul_le (a b : Nat) (ha : 0 < a) (hb : 0 < b) : ndigits (a * b) ≤ ndigits a + ndigits b := by
  obtain ⟨_, a2⟩ := ndigits_spec a ha
  obtain ⟨_, b2⟩ := ndigits_spec b hb
  have hab : 0 < a * b := Nat.mul_pos ha hb
  have hpa := ndigits_pos a
  rw [ndigits_le_iff (a * b) _ hab, Nat.pow_add]
  exact Nat.mul_lt_mul'' a2 b2

end Apd

