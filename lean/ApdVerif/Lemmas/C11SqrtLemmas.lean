import ApdVerif.Lemmas.RoundShape
import ApdVerif.Lemmas.C11SettleLemmas
import ApdVerif.Props.C11
import ApdVerif.Props.RoundCore
import ApdVerif.Props.Rational
import Mathlib.Tactic.Ring
import Mathlib.Tactic.Linarith
import Mathlib.Tactic.NormNum
import Mathlib.Tactic.Positivity
import Mathlib.Tactic.FieldSimp
import Mathlib.Tactic.SplitIfs
/-!
# Helper lemmas for `C11_sqrt_correct_partial` (Props/C11Sqrt.lean)

* the coefficient the settling step selects is `Near` the root (`Lemmas/NearRoot.lean`: the nearest natural number,
  ties to even, on squares) on the iterate's own grid (`caseS`), and so is the iterate's own coefficient when the
  iterate lies on its grid (`Near_close`); hence each on the specification's grid (`near_transfer`, by uniqueness of
  the nearest number).
* the specification's coefficient `sM` is `Near` the same number (`sM_facts`), hence equal (`Near_unique`).
* `tailMid_shape` reads off the model, for any iterate, which multiple of the iterate's quantum the first half of the
  tail delivers; `tail_core`: for an iterate close to the root it is the specification's value.
* `tail_final`: from that value the second half of the tail (`tailFin`: final rounding and the exactness re-check
  `sqRecheck`) returns what `specSqrt` says, flags included.
-/
namespace Apd.C11Q
open Apd.Oracle Apd.C20L Apd.RatSpec

theorem mid_lt {M X u a : ℚ} (hu : 0 < u) (hM : 1 / 2 ≤ M) (ha : M * u - u / 2 ≤ a) (hlo : a ^ 2 < X) :
    (2 * M - 1) ^ 2 < 4 * (X / u ^ 2) := by
  have h0 := mul_nonneg (sub_nonneg.2 hM) hu.le
  have := pow_le_pow_left₀ (by linarith only [h0]) ha 2
  rw [mul_div_assoc', lt_div_iff₀ (pow_pos hu 2)]
  linarith only [this, hlo]

theorem lt_mid {M X u b : ℚ} (hu : 0 < u) (hb0 : 0 ≤ b) (hb : b ≤ M * u + u / 2) (hhi : X < b ^ 2) :
    4 * (X / u ^ 2) < (2 * M + 1) ^ 2 := by
  have := pow_le_pow_left₀ hb0 hb 2
  rw [mul_div_assoc', div_lt_iff₀ (pow_pos hu 2)]
  linarith only [this, hhi]

theorem Near_close (M : ℕ) (X u a b : ℚ) (hu : 0 < u) (hM : 1 ≤ M) (ha : (M : ℚ) * u - u / 2 ≤ a)
    (hlo : a ^ 2 < X) (hb0 : 0 ≤ b) (hb : b ≤ (M : ℚ) * u + u / 2) (hhi : X < b ^ 2) : Near (X / u ^ 2) M := by
  have h1 : (1 : ℚ) ≤ M := by exact_mod_cast hM
  exact Near_of_lt (mid_lt hu (by linarith only [h1]) ha hlo) (lt_mid hu hb0 hb hhi)

/-- the iterate `D`, truncated to `T·u` at its own quantum `u`, is within `δ ≤ u/2` of the root: the comparison
with the midpoint selects the multiple of `u` nearest to the root -/
theorem caseS (T : ℕ) (X D δ u : ℚ) (hu : 0 < u) (hT1 : (T : ℚ) * u ≤ D) (hT2 : D < ((T : ℚ) + 1) * u)
    (hδ0 : 0 ≤ δ) (hδ : δ ≤ u / 2) (hDδ : δ ≤ D)
    (hlo : (D - δ) ^ 2 < X) (hhi : X < (D + δ) ^ 2) : Near (X / u ^ 2) (choice T (X / u ^ 2)) := by
  refine Near_choice_of T _ ?_ ?_
  · rcases Nat.eq_zero_or_pos T with h | h
    · exact Or.inl h
    · have h1 : (1 : ℚ) ≤ T := by exact_mod_cast h
      exact Or.inr (mid_lt hu (by linarith only [h1]) (by linarith only [hT1, hδ]) hlo)
  · have := lt_mid (M := (T : ℚ) + 1) hu (by linarith only [hδ0, hDδ]) (by linarith only [hT2, hδ]) hhi
    linarith only [this]

theorem cases_q {h q qd ad etiny : ℤ} {P : ℕ} (had1 : h - 2 ≤ ad) (had2 : ad ≤ h)
    (hq : q = max (h - P) etiny) (hqd : qd = max (ad - P + 1) etiny) :
    qd = q ∨ (qd = q + 1 ∧ ad = h ∧ q = h - P) ∨ (qd = q - 1 ∧ ad = h - 2 ∧ q = h - P) := by
  omega

theorem delta_le {h q : ℤ} {P : ℕ} {δ : ℚ} (hδ : δ ≤ (10 : ℚ) ^ (h - P - 4)) (hq : h - P ≤ q) :
    δ ≤ (10 : ℚ) ^ q / 10000 := by
  have h1 : (10 : ℚ) ^ (h - P - 4) ≤ (10 : ℚ) ^ (q - 4) := zpow_le_zpow_right₀ ten_ge (by omega)
  have h2 : (10 : ℚ) ^ (q - 4) = (10 : ℚ) ^ q / 10000 := by
    rw [zpow_sub₀ ten_ne]; norm_num
  linarith

/-- a number `n` that is `Near` the root on the iterate's own grid `10^qd` denotes a number that is `Near` it on the
specification's grid `10^q`.  The grids differ only when iterate and root lie on different sides of a power of
ten `H`; the root is then within `δ` of `H`, which lies on both grids and is `Near` on both (`Near_close`), so
`n·10^qd = H` by `Near_unique`: the position of the iterate is never computed -/
theorem near_transfer (X D δ : ℚ) (h q qd ad etiny : ℤ) (P n : ℕ) (hP : 1 ≤ P)
    (hX1 : ((10 : ℚ) ^ (h - 1)) ^ 2 ≤ X) (hX2 : X < ((10 : ℚ) ^ h) ^ 2)
    (hδ0 : 0 ≤ δ) (hδ : δ ≤ (10 : ℚ) ^ (h - P - 4)) (hDδ : δ ≤ D)
    (hlo : (D - δ) ^ 2 < X) (hhi : X < (D + δ) ^ 2)
    (hA1 : (10 : ℚ) ^ ad ≤ D) (hA2 : D < (10 : ℚ) ^ (ad + 1)) (had1 : h - 2 ≤ ad) (had2 : ad ≤ h)
    (hq : q = max (h - P) etiny) (hqd : qd = max (ad - P + 1) etiny)
    (hn : Near (X / ((10 : ℚ) ^ qd) ^ 2) n) :
    ∃ m : ℕ, (n : ℚ) * (10 : ℚ) ^ qd = (m : ℚ) * (10 : ℚ) ^ q ∧ Near (X / ((10 : ℚ) ^ q) ^ 2) m := by
  have hu := tp q
  have hδu := delta_le hδ (by omega : h - P ≤ q)
  have hD0 : 0 ≤ D - δ := sub_nonneg.2 hDδ
  rcases cases_q had1 had2 hq hqd with e | ⟨e, ea, eq⟩ | ⟨e, ea, eq⟩
  · exact ⟨n, by rw [e], by rw [e] at hn; exact hn⟩
  · -- the iterate is at or above `H = 10^h`, the root just below
    have ew : (10 : ℚ) ^ qd = (10 : ℚ) ^ q * 10 := by rw [e, zpow_add_one₀ ten_ne]
    have eH : (10 : ℚ) ^ h = ((10 ^ P : ℕ) : ℚ) * (10 : ℚ) ^ q := by rw [← pow_split]; congr 1; omega
    obtain ⟨k, rfl⟩ : ∃ k, P = k + 1 := ⟨P - 1, by omega⟩
    have eHw : (10 : ℚ) ^ h = ((10 ^ k : ℕ) : ℚ) * ((10 : ℚ) ^ q * 10) := by rw [eH]; push_cast; ring
    rw [ea] at hA1
    have hH0 := (tp h).le
    rw [ew] at hn ⊢
    have N1 := Near_close (10 ^ k) X ((10 : ℚ) ^ q * 10) (D - δ) ((10 : ℚ) ^ h) (by positivity) (Nat.pow_pos (by decide))
      (by rw [← eHw]; linarith only [hA1, hδu, hu]) hlo hH0 (by rw [← eHw]; linarith only [hu]) hX2
    have N2 := Near_close (10 ^ (k + 1)) X ((10 : ℚ) ^ q) (D - δ) ((10 : ℚ) ^ h) hu (Nat.pow_pos (by decide))
      (by rw [← eH]; linarith only [hA1, hδu, hu]) hlo hH0 (by rw [← eH]; linarith only [hu]) hX2
    exact ⟨_, by rw [Near_unique hn N1, ← eHw, eH], N2⟩
  · -- the iterate is below `H = 10^(h-1)`, the root at or just above
    have ew : (10 : ℚ) ^ qd = (10 : ℚ) ^ q / 10 := by rw [e, zpow_sub_one₀ ten_ne, div_eq_mul_inv]
    have eH : (10 : ℚ) ^ (h - 1) = ((10 ^ (P - 1) : ℕ) : ℚ) * (10 : ℚ) ^ q := by rw [← pow_split]; congr 1; omega
    obtain ⟨k, rfl⟩ : ∃ k, P = k + 1 := ⟨P - 1, by omega⟩
    simp only [Nat.add_sub_cancel] at eH
    have eHw : (10 : ℚ) ^ (h - 1) = ((10 ^ (k + 1) : ℕ) : ℚ) * ((10 : ℚ) ^ q / 10) := by rw [eH]; push_cast; ring
    rw [show ad + 1 = h - 1 by omega] at hA2
    have hk1 : (1 : ℚ) ≤ ((10 ^ k : ℕ) : ℚ) := by exact_mod_cast Nat.pow_pos (by decide : 0 < 10)
    have hHu : (10 : ℚ) ^ q ≤ (10 : ℚ) ^ (h - 1) := by rw [eH]; exact le_mul_of_one_le_left hu.le hk1
    have hb0 : 0 ≤ D + δ := by linarith only [hD0, hδ0]
    rw [ew] at hn ⊢
    -- a twentieth of a unit below `H` is strictly below the root
    have hlo' : ((10 : ℚ) ^ (h - 1) - (10 : ℚ) ^ q / 20) ^ 2 < X :=
      lt_of_lt_of_le (pow_lt_pow_left₀ (by linarith only [hu]) (by linarith only [hHu, hu]) two_ne_zero) hX1
    have N1 := Near_close (10 ^ (k + 1)) X ((10 : ℚ) ^ q / 10) _ (D + δ) (by positivity) (Nat.pow_pos (by decide))
      (by rw [← eHw]; linarith only [hu]) hlo' hb0 (by rw [← eHw]; linarith only [hA2, hδu, hu]) hhi
    have N2 := Near_close (10 ^ k) X ((10 : ℚ) ^ q) _ (D + δ) hu (Nat.pow_pos (by decide))
      (by rw [← eH]; linarith only [hu]) hlo' hb0 (by rw [← eH]; linarith only [hA2, hδu, hu]) hhi
    exact ⟨_, by rw [Near_unique hn N1, ← eHw, eH], N2⟩

open Apd.Props

/-- the quantum of `specSqrt` -/
def sQ (c : Ctx) (x : Dec) : Int :=
  max (fdiv2 ((ndigits x.coeff : Int) - 1 + x.exp) - (c.prec : Int) + 1) (c.emin - (c.prec : Int) + 1)

def sN (c : Ctx) (x : Dec) : Nat := isqrt (sqrtNum x (sQ c x) / sqrtDen x (sQ c x))

def sExact (c : Ctx) (x : Dec) : Bool := sN c x * sN c x * sqrtDen x (sQ c x) == sqrtNum x (sQ c x)

/-- the coefficient of `specSqrt` (before the overflow test) -/
def sM (c : Ctx) (x : Dec) : Nat :=
  if sExact c x then sN c x
  else if specAddOne .halfEven (sN c x) false
      (compare (4 * sqrtNum x (sQ c x)) ((2 * sN c x + 1) * (2 * sN c x + 1) * sqrtDen x (sQ c x)))
    then sN c x + 1 else sN c x

theorem specSqrt_eq (c : Ctx) (x : Dec) :
    specSqrt c x =
      if sM c x != 0 && sQ c x + (ndigits (sM c x) : Int) - 1 > c.emax then
        { inf := true, inexact := true,
          subnormal := decide (fdiv2 ((ndigits x.coeff : Int) - 1 + x.exp) < c.emin), overflow := true }
      else { m := sM c x, q := sQ c x, inexact := !sExact c x,
             subnormal := decide (fdiv2 ((ndigits x.coeff : Int) - 1 + x.exp) < c.emin) } := rfl

theorem sM_facts (c : Ctx) (x : Dec) :
    Near (magQ x / ((10 : ℚ) ^ sQ c x) ^ 2) (sM c x) ∧
    (sExact c x = true ↔ ((sM c x : ℚ)) ^ 2 = magQ x / ((10 : ℚ) ^ sQ c x) ^ 2) := by
  have hd := sqrtDen_pos x (sQ c x)
  have hf := frame_rat x (sQ c x)
  obtain ⟨f1, f2⟩ := floor_frame hd hf (sN c x) ((Nat.le_div_iff_mul_le hd).mp (C11_isqrt _).1)
    ((Nat.div_lt_iff_lt_mul hd).mp (C11_isqrt _).2)
  have hm : sM c x = choice (sN c x) _ := (specM_eq_choice _ _ _ hd).trans (by rw [hf])
  rw [hm, choice_sq_iff _ _ f2, ← (sq_frame hd hf _).2.2]
  exact ⟨Near_choice_floor _ _ f1 f2, beq_iff_eq⟩

/-- the exactness re-check of `Sqrt` forms the square without a context, so no exponent limit is involved -/
theorem sq_cmp_iff (w x : Dec) (hx : x.form = .finite) (hxn : x.neg = false) :
    ({ coeff := w.coeff * w.coeff, exp := 2 * w.exp } : Dec).cmp x = 0 ↔ (magQ w) ^ 2 = magQ x := by
  rw [(cmp_toRat _ x rfl hx).2, toRat_pos _ rfl, toRat_pos x hxn, magQ_sq]

/-! ## the tail of `Context.Sqrt` as a composition

`SqrtD.tail` is one `let` chain.  Its two halves are named here — `tailMid`: first rounding and settling step,
`tailFin`: final rounding, exactness re-check (`sqRecheck`), packaging — and `sqrt_tail_eq` says, by `rfl`, that
`tail` is their composition. -/

/-- the caller's context with half-even rounding (`nc2` of `SqrtD.tail`) -/
def nc2 (c : Ctx) : Ctx := { c with prec := c.prec, mode := .halfEven }
/-- … with the exponent ceiling at the package limit (`ncw` of `SqrtD.tail`) -/
def ncw (c : Ctx) : Ctx := { nc2 c with emax := MaxExponent }
/-- … truncating (the context of the settling step's first rounding) -/
def ncwD (c : Ctx) : Ctx := { ncw c with mode := .down }

def tailMid (c : Ctx) (x d : Dec) : Dec × Cond :=
  let r0 := ctxRound (ncw c) d
  if r0.2.inexact && r0.1.form == .finite then
    let st := sqrtSettle (ncw c) r0.1 d x
    (st.1, r0.2 ||| st.2)
  else r0

def sqRecheck (x d : Dec) (fl : Cond) : Cond :=
  if !fl.inexact && d.form == .finite then
    let sq : Dec := { coeff := d.coeff * d.coeff, exp := 2 * d.exp }
    if sq.cmp x != 0 then fl ||| Cond.cInexact ||| Cond.cRounded else fl
  else fl

def tailFin (c : Ctx) (x v : Dec) (fl : Cond) : Out :=
  finish (nc2 c) ((ctxRound (nc2 c) v).1, sqRecheck x (ctxRound (nc2 c) v).1 (fl ||| (ctxRound (nc2 c) v).2))

theorem sqrt_tail_eq (c : Ctx) (x approx : Dec) :
    SqrtD.tail c x approx =
      tailFin c x (tailMid c x { approx with exp := approx.exp + Int.tdiv (SqrtD.e x) 2 }).1
        (tailMid c x { approx with exp := approx.exp + Int.tdiv (SqrtD.e x) 2 }).2 := rfl

theorem tailMid_exact {c : Ctx} {x d : Dec} (h : (ctxRound (ncw c) d).2.inexact = false) :
    tailMid c x d = ctxRound (ncw c) d := by
  unfold tailMid; dsimp only; rw [h]; rfl

theorem tailMid_settle {c : Ctx} {x d : Dec} (h : (ctxRound (ncw c) d).2.inexact = true)
    (hf : (ctxRound (ncw c) d).1.form = .finite) :
    tailMid c x d = ((sqrtSettle (ncw c) (ctxRound (ncw c) d).1 d x).1,
      (ctxRound (ncw c) d).2 ||| (sqrtSettle (ncw c) (ctxRound (ncw c) d).1 d x).2) := by
  unfold tailMid; dsimp only; rw [h, hf]; rfl

theorem sqRecheck_cases (x d : Dec) (fl : Cond) :
    sqRecheck x d fl = fl ∨ sqRecheck x d fl = fl ||| Cond.cInexact ||| Cond.cRounded := by
  unfold sqRecheck; dsimp only
  split_ifs
  · exact Or.inr rfl
  · exact Or.inl rfl
  · exact Or.inl rfl

theorem sqRecheck_noSys {x d : Dec} {fl : Cond} (h : NoSys fl) : NoSys (sqRecheck x d fl) := by
  rcases sqRecheck_cases x d fl with e | e <;> rw [e]
  · exact h
  · exact Apd.NoSys.or_iff.2 ⟨Apd.NoSys.or_iff.2 ⟨h, ⟨rfl, rfl⟩⟩, ⟨rfl, rfl⟩⟩

theorem sqRecheck_inexact {x d : Dec} {fl : Cond} (h : fl.inexact = true) : (sqRecheck x d fl).inexact = true := by
  rcases sqRecheck_cases x d fl with e | e <;> rw [e] <;> simp [h]

theorem sqRecheck_overflow {x d : Dec} {fl : Cond} (h : fl.overflow = true) : (sqRecheck x d fl).overflow = true := by
  rcases sqRecheck_cases x d fl with e | e <;> rw [e] <;> simp [h]

theorem sqRecheck_ne {x d : Dec} {fl : Cond} (hx : x.form = .finite) (hxn : x.neg = false) (hd : d.form = .finite)
    (hne : (magQ d) ^ 2 ≠ magQ x) : (sqRecheck x d fl).inexact = true := by
  cases hi : fl.inexact
  · unfold sqRecheck; dsimp only
    rw [hi, hd]
    have : (({ coeff := d.coeff * d.coeff, exp := 2 * d.exp } : Dec).cmp x != 0) = true := by
      rw [bne_iff_ne]; exact fun h2 => hne ((sq_cmp_iff d x hx hxn).1 h2)
    simp [this, Cond.cInexact]
  · exact sqRecheck_inexact hi

theorem sqRecheck_eq {x d : Dec} {fl : Cond} (hx : x.form = .finite) (hxn : x.neg = false)
    (hsq : (magQ d) ^ 2 = magQ x) : sqRecheck x d fl = fl := by
  unfold sqRecheck; dsimp only; rw [(sq_cmp_iff d x hx hxn).2 hsq]; simp

theorem sqRecheck_inexact_eq {x d : Dec} {fl : Cond} (hx : x.form = .finite) (hxn : x.neg = false)
    (hd : d.form = .finite) : (sqRecheck x d fl).inexact = (fl.inexact || !decide ((magQ d) ^ 2 = magQ x)) := by
  by_cases h : (magQ d) ^ 2 = magQ x
  · rw [sqRecheck_eq hx hxn h, decide_eq_true h]; simp
  · rw [sqRecheck_ne hx hxn hd h, decide_eq_false h]; simp

theorem tail_final (c : Ctx) (x : Dec) (hc : c.WF) (hx : x.form = .finite) (hxn : x.neg = false)
    (v : Dec) (fl : Cond) (G : Grid c.prec c.emin v) (hfl : NoSys fl)
    (hval : magQ v = (sM c x : ℚ) * (10 : ℚ) ^ (sQ c x)) :
    (c.traps = {} → (tailFin c x v fl).err = .none) ∧ (specSqrt c x).matches (tailFin c x v fl).d = true ∧
    fits c (tailFin c x v fl).d = true ∧
    (tailFin c x v fl).fl.inexact = (fl.inexact || (specSqrt c x).inexact) ∧
    ((specSqrt c x).overflow = true → (tailFin c x v fl).fl.overflow = true) := by
  have hWF2 : (nc2 c).WF := hc
  obtain ⟨g1, g2, g3, gf, gi⟩ := grid_final (nc2 c) hWF2 v G
  have hu := tp (sQ c x)
  obtain ⟨-, hex⟩ := sM_facts c x
  have hns : NoSys (fl ||| (ctxRound (nc2 c) v).2) := Apd.NoSys.or_iff.2 ⟨hfl, g1⟩
  have herr : c.traps = {} → (tailFin c x v fl).err = .none := by
    intro ht
    show goError (nc2 c).traps _ = .none
    rw [show (nc2 c).traps = {} from ht]
    exact SqrtL.goError_empty _ (sqRecheck_noSys hns)
  have hm0 : sM c x = 0 ↔ v.coeff = 0 := by
    constructor
    · intro h
      rw [h, Nat.cast_zero, zero_mul] at hval
      by_contra h0
      exact absurd hval (magQ_pos v h0).ne'
    · intro h0
      rw [magQ_zero h0] at hval
      exact_mod_cast (mul_eq_zero.1 hval.symm).resolve_right hu.ne'
  -- the specification overflows exactly when the final rounding does: `v` and `sM·10^sQ` have one adjusted exponent
  have hov : (sM c x ≠ 0 ∧ sQ c x + (ndigits (sM c x) : Int) - 1 > c.emax) ↔
      (v.coeff ≠ 0 ∧ (nc2 c).emax < v.exp + (ndigits v.coeff : Int) - 1) := by
    have hemax : (nc2 c).emax = c.emax := rfl
    have hadj := fun h0 hs =>
      adj_of_eq v.coeff (sM c x) v.exp (sQ c x) (Nat.pos_of_ne_zero h0) (Nat.pos_of_ne_zero hs) hval
    exact ⟨fun ⟨hs, h⟩ => ⟨mt hm0.2 hs, by have := hadj (mt hm0.2 hs) hs; omega⟩,
      fun ⟨h0, h⟩ => ⟨mt hm0.1 h0, by have := hadj h0 (mt hm0.1 h0); omega⟩⟩
  refine ⟨herr, ?_⟩
  show (specSqrt c x).matches (ctxRound (nc2 c) v).1 = true ∧ fits c (ctxRound (nc2 c) v).1 = true ∧ _
  rw [specSqrt_eq]
  by_cases h : v.coeff ≠ 0 ∧ (nc2 c).emax < v.exp + (ndigits v.coeff : Int) - 1
  · obtain ⟨i1, i2, i3⟩ := gi h
    rw [if_pos (by simpa using hov.2 h)]
    refine ⟨?_, g2, (sqRecheck_inexact (by simp [i2])).trans (by simp),
      fun _ => sqRecheck_overflow (by simp [i3])⟩
    rw [Rat_matches_infinite _ _ i1]
    exact ⟨rfl, g3⟩
  · -- otherwise a finite decimal of the value of `v` (`v` itself, or a zero), rounded without Inexact
    obtain ⟨f1, f2, f3⟩ := gf h
    rw [if_neg (by simpa using mt hov.1 h)]
    refine ⟨(Rat_matches_iff _ _ f1).2 ⟨rfl, g3, f2.trans hval⟩, g2, ?_, by simp⟩
    -- the re-check decides as the specification does
    show (sqRecheck x _ _).inexact = _
    rw [sqRecheck_inexact_eq hx hxn f1, f2, hval, Cond.or_inexact, f3, Bool.or_false]
    congr 2
    rw [Bool.eq_iff_iff, decide_eq_true_iff, hex, eq_div_iff (pow_pos hu 2).ne', mul_pow]

/-- the decimal `sqrtSettle` rounds is on the grid and denotes `choice · 10^qd` -/
theorem settle_grid (P : ℕ) (emin qd : ℤ) (T ch : ℕ) (t : Dec) (hP : 1 ≤ P)
    (htf : t.form = .finite) (htn : t.neg = false) (hte : t.exp = qd)
    (hT : ndigits T ≤ P) (hch : ch = T ∨ ch = T + 1)
    (hq1 : emin - (P : ℤ) + 1 ≤ qd) (hq2 : -100000 ≤ qd) (hq3 : qd + (P : ℤ) + 1 ≤ 100000) :
    let t' : Dec := if ndigits ch > P then { t with coeff := ch / 10, exp := t.exp + 1 } else { t with coeff := ch }
    Grid P emin t' ∧ magQ t' = (ch : ℚ) * (10 : ℚ) ^ qd := by
  intro t'
  have hG : ∀ (n : ℕ) (e : ℤ), ndigits n ≤ P → qd ≤ e → e ≤ qd + 1 →
      Grid P emin { t with coeff := n, exp := e } := fun n e hn h1 h2 =>
    ⟨htf, htn, hn, by show -100000 ≤ e; omega, by show e + (ndigits n : ℤ) ≤ 100000; omega,
      by show emin - (P : ℤ) + 1 ≤ e; omega⟩
  by_cases hc : ndigits ch > P
  · -- a carry: `ch = T + 1` has one digit more than `T`; a tenth of it stands one exponent higher
    have hch' : ch = T + 1 := hch.resolve_left fun h => by rw [h] at hc; omega
    have hT0 : 0 < T := Nat.pos_of_ne_zero fun h => by rw [hch', h, Nat.zero_add, ndigits_one] at hc; omega
    obtain ⟨v1, v2⟩ := carry_value T hT0 (by rw [← hch']; omega)
    have e : t' = { t with coeff := ch / 10, exp := t.exp + 1 } := if_pos hc
    rw [e, hch']
    refine ⟨hG _ _ (by rw [v2]; exact hT) (by omega) (by omega), ?_⟩
    show (((T + 1) / 10 : ℕ) : ℚ) * (10 : ℚ) ^ (t.exp + 1) = _
    have : (((T + 1) / 10 : ℕ) : ℚ) * 10 = ((T + 1 : ℕ) : ℚ) := by exact_mod_cast v1
    rw [hte, zpow_add_one₀ ten_ne, ← this]; ring
  · have e : t' = { t with coeff := ch } := if_neg hc
    rw [e]
    exact ⟨hG _ _ (by omega) (by omega) (by omega), by show (ch : ℚ) * (10 : ℚ) ^ t.exp = _; rw [hte]⟩

/-- the guard of `sqrtSettle` on an Inexact finite truncation that is subnormal or has exactly `P` digits -/
theorem guard_false {inex sub : Bool} {fm : Form} {n P : ℕ} (h1 : inex = true) (h2 : fm = .finite)
    (h3 : sub = true ∨ n = P) : (!inex || fm != .finite || (n != P && !sub)) = false := by
  subst h1 h2
  rcases h3 with rfl | rfl <;> simp

theorem trunc_normal {k nd P : ℕ} {qd ad e emin : ℤ} (hk : k = (qd - e).toNat)
    (hqd : qd = max (ad - (P : ℤ) + 1) (emin - (P : ℤ) + 1)) (had : ad = e + (nd : ℤ) - 1) (hs : ¬ ad < emin)
    (hlt : e < qd) : k = nd - P ∧ P ≤ nd := by
  omega

/-- what the tail of `Context.Sqrt` needs to know about the shifted iterate `d` (value `D`), the operand
(value `X`) and the half exponent `h`: `10^(h-1) ≤ √X < 10^h`, `|D - √X| < δ ≤ 10^(h-P-4)` -/
structure DHyp (c : Ctx) (x d : Dec) (h : Int) (δ : ℚ) : Prop where
  hf : d.form = .finite
  hneg : d.neg = false
  hn : d.coeff ≠ 0
  hnd : ndigits d.coeff ≤ 99999
  he : -100000 ≤ d.exp
  hh : h ≤ 99997
  hq : sQ c x = max (h - (c.prec : Int)) (c.emin - (c.prec : Int) + 1)
  hX1 : ((10 : ℚ) ^ (h - 1)) ^ 2 ≤ magQ x
  hX2 : magQ x < ((10 : ℚ) ^ h) ^ 2
  hδ0 : 0 ≤ δ
  hδ : δ ≤ (10 : ℚ) ^ (h - (c.prec : Int) - 4)
  hDδ : δ ≤ magQ d
  hlo : (magQ d - δ) ^ 2 < magQ x
  hhi : magQ x < (magQ d + δ) ^ 2
  hD1 : (10 : ℚ) ^ (h - 2) ≤ magQ d
  hD2 : magQ d < (10 : ℚ) ^ (h + 1)

theorem first_round {cc : Ctx} {d : Dec} (H : RHyp cc d) (hWF : cc.WF) (hneg : d.neg = false)
    (h3 : qdOf cc d + (cc.prec : ℤ) + 1 ≤ 100000) :
    Grid cc.prec cc.emin (ctxRound cc d).1 ∧ NoSys (ctxRound cc d).2 ∧
    ((ctxRound cc d).2.inexact = false →
      ∃ T : ℕ, magQ d = (T : ℚ) * (10 : ℚ) ^ qdOf cc d ∧ magQ (ctxRound cc d).1 = magQ d) := by
  have hnp := ndigits_pos d.coeff
  have he := H.he
  have hq1 : cc.emin - (cc.prec : ℤ) + 1 ≤ qdOf cc d := by unfold qdOf; omega
  by_cases hA : qdOf cc d ≤ d.exp
  · obtain ⟨a1, -, a3⟩ := shape_exact H hA
    rw [a1]
    refine ⟨⟨H.hf, hneg, ?_, he, H.ha2, by omega⟩, a3,
      fun _ => ⟨d.coeff * 10 ^ (d.exp - qdOf cc d).toNat, ?_, rfl⟩⟩
    · unfold qdOf at hA; omega
    · unfold magQ; rw [align d.coeff d.exp _ hA]
  · rw [not_le] at hA
    obtain ⟨s1, s2, s3, ⟨s4, s4'⟩, s5, -, s7⟩ := shape_round H hA
    have hfitd := fits_digits cc _ H.hp s1 (Apd.Props.C01_roundCore cc hWF d H.hf s3).2.2
    refine ⟨⟨s1, by rw [s2]; exact hneg, hfitd, by omega, by omega, by omega⟩, s3, fun hin => ?_⟩
    have hrem : d.coeff % 10 ^ (qdOf cc d - d.exp).toNat = 0 := by rw [s5] at hin; simpa using hin
    obtain ⟨-, -, tb3⟩ := trunc_bracket d (qdOf cc d) (qdOf cc d - d.exp).toNat (by omega)
    exact ⟨_, tb3 hrem, by rw [s7 (Or.inl hrem), tb3 hrem]; rfl⟩

/-- read off the model alone: nothing is assumed about how close `d` is to the root.  `T` is the truncation of `d` at
its own quantum `10^qd`, and `n = T` when `d` lies on that grid -/
theorem tailMid_shape (c : Ctx) (x d : Dec) (hc : c.WF) (hx : x.form = .finite) (hxn : x.neg = false)
    (R : RHyp (ncw c) d) (hneg : d.neg = false) (hq3 : qdOf (ncw c) d + (c.prec : ℤ) + 1 ≤ 100000) :
    ∃ T n : ℕ, (T : ℚ) * (10 : ℚ) ^ qdOf (ncw c) d ≤ magQ d ∧
      magQ d < ((T : ℚ) + 1) * (10 : ℚ) ^ qdOf (ncw c) d ∧
      (n = T ∧ magQ d = (T : ℚ) * (10 : ℚ) ^ qdOf (ncw c) d ∨
        n = choice T (magQ x / ((10 : ℚ) ^ qdOf (ncw c) d) ^ 2)) ∧
      Grid c.prec c.emin (tailMid c x d).1 ∧ NoSys (tailMid c x d).2 ∧
      magQ (tailMid c x d).1 = (n : ℚ) * (10 : ℚ) ^ qdOf (ncw c) d := by
  have hWFw : (ncw c).WF := by
    obtain ⟨a, b, c', d', e⟩ := hc
    exact ⟨a, by show (c.prec : Int) ≤ 100000; omega, by show (100000 : Int) ≤ 100000; omega, d', e⟩
  obtain ⟨hp, hpe, hemax, hemin, hemin0⟩ := hc
  have hf := R.hf
  have hnp := ndigits_pos d.coeff
  have hpos : 0 < d.coeff := Nat.pos_of_ne_zero R.hn
  obtain ⟨qd, hqd0⟩ : ∃ qd : ℤ, qd = qdOf (ncw c) d := ⟨_, rfl⟩
  have hqd : qd = max (d.exp + (ndigits d.coeff : ℤ) - 1 - (c.prec : ℤ) + 1) (c.emin - (c.prec : ℤ) + 1) := hqd0
  rw [← hqd0] at hq3 ⊢
  have hq1 : c.emin - (c.prec : ℤ) + 1 ≤ qd := by omega
  obtain ⟨G0, ns0, hex0⟩ := first_round R hWFw hneg (by rw [← hqd0]; exact hq3)
  cases hin : (ctxRound (ncw c) d).2.inexact
  · -- the first rounding is exact: the iterate is a multiple of its quantum
    obtain ⟨T, hT, hmag⟩ := hex0 hin
    rw [← hqd0] at hT
    rw [tailMid_exact hin]
    exact ⟨T, T, hT.ge, by rw [hT]; linarith only [tp qd], Or.inl ⟨rfl, hT⟩, G0, ns0, hmag.trans hT⟩
  · -- the settling step
    have hlt : d.exp < qd := by
      by_contra hge
      rw [(shape_exact R (by rw [← hqd0]; exact not_lt.1 hge)).2.1] at hin
      exact Bool.noConfusion hin
    obtain ⟨k, hk⟩ : ∃ k : ℕ, k = (qd - d.exp).toNat := ⟨_, rfl⟩
    obtain ⟨tb1, tb2, -⟩ := trunc_bracket d qd k (by omega)
    have RD : RHyp (ncwD c) d := ⟨hp, hemin, hemin0, rfl, hf, R.hn, R.he, R.hnd, R.ha1, R.ha2⟩
    obtain ⟨-, -, -, -, s5, -, -⟩ := shape_round R (by rw [← hqd0]; exact hlt)
    obtain ⟨d1, -, -, -, d5, d6, d7⟩ := shape_round RD (by show d.exp < qdOf (ncw c) d; rw [← hqd0]; exact hlt)
    have eqd : qdOf (ncwD c) d = qd := hqd0.symm
    rw [← hqd0, ← hk] at s5
    rw [eqd, ← hk] at d5 d7
    have hrem : (d.coeff % 10 ^ k != 0) = true := by rw [← s5]; exact hin
    obtain ⟨t, ht⟩ : ∃ t : Dec, t = { d with coeff := d.coeff / 10 ^ k, exp := qd } := ⟨_, rfl⟩
    have hdn1 : (ctxRound (ncwD c) d).1 = t := by rw [ht]; exact d7 (Or.inr rfl)
    have hdin : (ctxRound (ncwD c) d).2.inexact = true := by rw [d5]; exact hrem
    have hTdig : ndigits t.coeff ≤ c.prec := by
      have := Apd.C11S.roundDown_digits (ncwD c) d rfl hp hdin
      rw [hdn1] at this; exact this
    have htc : t.coeff = d.coeff / 10 ^ k := by rw [ht]
    have hte : t.exp = qd := by rw [ht]
    -- the guard of `sqrtSettle` does not fire
    have hguard : (!(ctxRound (ncwD c) d).2.inexact || (ctxRound (ncwD c) d).1.form != .finite ||
        (ndigits (ctxRound (ncwD c) d).1.coeff != (ncw c).prec && !(ctxRound (ncwD c) d).2.subnormal)) = false := by
      refine guard_false hdin d1 ?_
      rw [d6, hdn1, htc]
      by_cases hsub : d.exp + (ndigits d.coeff : ℤ) - 1 < (ncwD c).emin
      · exact Or.inl (decide_eq_true hsub)
      · obtain ⟨hkk, hle⟩ := trunc_normal hk hqd rfl hsub hlt
        rw [hkk]
        exact Or.inr (ndigits_div_pow _ _ hpos hp hle)
    have hst : sqrtSettle (ncw c) (ctxRound (ncw c) d).1 d x =
        if (settleT (ncw c) t x).cmp (ctxRound (ncw c) d).1 == 0 then ((ctxRound (ncw c) d).1, {})
        else ctxRound (ncw c) (settleT (ncw c) t x) := by
      rw [sqrtSettle_eq]
      have e : ({ ncw c with mode := Mode.down } : Ctx) = ncwD c := rfl
      simp only [e]
      rw [hguard, if_neg Bool.false_ne_true, hdn1]
    have hset := settleT_eq' (ncw c) t x hTdig
    have hch := sqrtChoice_rat t x hx hxn
    rw [htc, hte] at hch
    obtain ⟨ch, hchd⟩ : ∃ ch : ℕ, ch = sqrtChoice t x := ⟨_, rfl⟩
    rw [← hchd] at hset hch
    obtain ⟨G', hmag'⟩ := settle_grid c.prec c.emin qd (d.coeff / 10 ^ k) ch t hp (by rw [ht]; exact hf)
      (by rw [ht]; exact hneg) hte (by rw [← htc]; exact hTdig) (by rw [hch]; exact choice_cases _ _) hq1
      (by have := R.he; omega) hq3
    have hset' : settleT (ncw c) t x =
        if ndigits ch > c.prec then { t with coeff := ch / 10, exp := t.exp + 1 } else { t with coeff := ch } := hset
    rw [← hset'] at G' hmag'
    refine ⟨d.coeff / 10 ^ k, ch, tb1, tb2, Or.inr hch, ?_⟩
    rw [tailMid_settle hin G0.hf, hst]
    by_cases hcmp : ((settleT (ncw c) t x).cmp (ctxRound (ncw c) d).1 == 0) = true
    · rw [if_pos hcmp]
      have hmeq := (cmp_toRat _ _ G'.hf G0.hf).2.1 (by simpa using hcmp)
      rw [toRat_pos _ G'.hneg, toRat_pos _ G0.hneg] at hmeq
      exact ⟨G0, Apd.NoSys.or_iff.2 ⟨ns0, ⟨rfl, rfl⟩⟩, by rw [← hmeq, hmag']⟩
    · rw [if_neg hcmp]
      obtain ⟨i1, -, i3⟩ := grid_round_id (ncw c) hp hemin hemin0 rfl _ G'
      refine ⟨?_, Apd.NoSys.or_iff.2 ⟨ns0, i3⟩, ?_⟩
      · show Grid c.prec c.emin (ctxRound (ncw c) (settleT (ncw c) t x)).1
        rw [i1]; exact G'
      · show magQ (ctxRound (ncw c) (settleT (ncw c) t x)).1 = _
        rw [i1, hmag']

/-- for an iterate within `δ` of the root, the number `tailMid` selects is `Near` the root on the iterate's grid
(`caseS`, or `Near_close` when the iterate is on its grid), hence on the specification's (`near_transfer`), hence
`sM` -/
theorem tail_core (c : Ctx) (x d : Dec) (h : Int) (δ : ℚ) (hc : c.WF) (hx : x.form = .finite)
    (hxn : x.neg = false) (H : DHyp c x d h δ) :
    Grid c.prec c.emin (tailMid c x d).1 ∧ NoSys (tailMid c x d).2 ∧
      magQ (tailMid c x d).1 = (sM c x : ℚ) * (10 : ℚ) ^ (sQ c x) := by
  obtain ⟨hf, hneg, hn, hnd, he, hh, hq, hX1, hX2, hδ0, hδ, hDδ, hlo, hhi, hD1, hD2⟩ := H
  have hA : IsAdj (magQ d) (d.exp + (ndigits d.coeff : ℤ) - 1) := magQ_isAdj d (Nat.pos_of_ne_zero hn)
  have had1 := hA.le_of_le hD1
  have had2 := Int.lt_add_one_iff.1 (hA.lt_of_lt hD2)
  have hnp := ndigits_pos d.coeff
  have hqd : qdOf (ncw c) d =
      max (d.exp + (ndigits d.coeff : ℤ) - 1 - (c.prec : ℤ) + 1) (c.emin - (c.prec : ℤ) + 1) := rfl
  obtain ⟨hp, hpe, hemax, hemin, hemin0⟩ := id hc
  have R : RHyp (ncw c) d := ⟨hp, hemin, hemin0, rfl, hf, hn, he, by omega, by omega, by omega⟩
  obtain ⟨T, n, tb1, tb2, hn', G, ns, hmag⟩ := tailMid_shape c x d hc hx hxn R hneg (by rw [hqd]; omega)
  generalize qdOf (ncw c) d = qd at *
  have hw := tp qd
  have hδw := delta_le hδ (by omega : h - (c.prec : ℤ) ≤ qd + 1)
  rw [zpow_add_one₀ ten_ne] at hδw
  have hN : Near (magQ x / ((10 : ℚ) ^ qd) ^ 2) n := by
    rcases hn' with ⟨rfl, hT⟩ | rfl
    · have hT0 : 0 < n := Nat.pos_of_ne_zero fun h0 => by
        rw [h0, Nat.cast_zero, zero_mul] at hT; linarith only [hT, hA.1, tp (d.exp + (ndigits d.coeff : ℤ) - 1)]
      exact Near_close n _ _ (magQ d - δ) (magQ d + δ) hw hT0 (by rw [← hT]; linarith only [hδw, hw]) hlo
        (by linarith only [hDδ, hδ0]) (by rw [← hT]; linarith only [hδw, hw]) hhi
    · exact caseS T _ _ δ _ hw tb1 tb2 hδ0 (by linarith only [hδw, hw]) hDδ hlo hhi
  obtain ⟨m, hm1, hm2⟩ := near_transfer (magQ x) (magQ d) δ h (sQ c x) qd _ (c.emin - (c.prec : ℤ) + 1) c.prec n
    hp hX1 hX2 hδ0 hδ hDδ hlo hhi hA.1 hA.2 had1 had2 hq hqd hN
  exact ⟨G, ns, by rw [hmag, hm1, Near_unique hm2 (sM_facts c x).1]⟩

end Apd.C11Q

#print axioms Apd.C11Q.tail_core
#print axioms Apd.C11Q.tail_final
