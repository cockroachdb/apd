import ApdVerif.Lemmas.RoundCoreLemmas
/-!
# `Context.Quo`: scaled integer division, remainder-based rounding, the sticky digit below `emin`

`Quo` scales the coefficients so that the fraction `dividend/divisor` it divides has exactly `prec` integer digits
(the locals `qNdDiff` … `qDividend`), rounds on the remainder, and below `emin` hands the quotient on with a sticky
digit instead.  `quoOp_shape`: what it hands to `setExponent`, for those who ask only for flags, form or digits of the
quotient; `quo_core`: the delivered quotient against `specRound` of that fraction.  `Props/Quo.lean` shows the fraction
to be `X/Y` times a power of ten and carries the result over by `RatSpec.agrees_congr`.
-/
namespace Apd.QuoL
open Apd Apd.Oracle Cond

section cond
variable (a b : Cond)
@[simp] theorem or_sysOverflow : (a ||| b).sysOverflow = (a.sysOverflow || b.sysOverflow) := rfl
@[simp] theorem or_sysUnderflow : (a ||| b).sysUnderflow = (a.sysUnderflow || b.sysUnderflow) := rfl
@[simp] theorem or_overflow : (a ||| b).overflow = (a.overflow || b.overflow) := rfl
@[simp] theorem or_underflow : (a ||| b).underflow = (a.underflow || b.underflow) := rfl
@[simp] theorem or_inexact : (a ||| b).inexact = (a.inexact || b.inexact) := rfl
@[simp] theorem or_subnormal : (a ||| b).subnormal = (a.subnormal || b.subnormal) := rfl
@[simp] theorem or_rounded : (a ||| b).rounded = (a.rounded || b.rounded) := rfl
@[simp] theorem or_divUndefined : (a ||| b).divUndefined = (a.divUndefined || b.divUndefined) := rfl
@[simp] theorem or_divByZero : (a ||| b).divByZero = (a.divByZero || b.divByZero) := rfl
@[simp] theorem or_divImpossible : (a ||| b).divImpossible = (a.divImpossible || b.divImpossible) := rfl
@[simp] theorem or_invalidOp : (a ||| b).invalidOp = (a.invalidOp || b.invalidOp) := rfl
@[simp] theorem or_clamped : (a ||| b).clamped = (a.clamped || b.clamped) := rfl
end cond

theorem compare_cross (a b B D : Nat) (hB : 0 < B) (hD : 0 < D) (h : a * B = b * D) :
    compare a D = compare b B := by
  have h1 : a < D ↔ b < B := by
    rw [← Nat.mul_lt_mul_right hB, h, Nat.mul_comm D B, Nat.mul_lt_mul_right hD]
  have h2 : D < a ↔ B < b := by
    rw [← Nat.mul_lt_mul_right hB, h, Nat.mul_comm D B, Nat.mul_lt_mul_right hD]
  rcases Nat.lt_trichotomy a D with h | h | h
  · rw [compare_lt_iff_lt.2 h, compare_lt_iff_lt.2 (h1.1 h)]
  · rw [compare_eq_iff_eq.2 h, compare_eq_iff_eq.2 (by omega)]
  · rw [compare_gt_iff_gt.2 h, compare_gt_iff_gt.2 (h2.1 h)]

theorem roundAt_frac (mode : Mode) (neg : Bool) (N D : Nat) (E q : Int) (k : Nat) (hq : q = E + k) :
    roundAt mode neg N D E q = roundQuot mode neg N (D * 10 ^ k) := by
  subst hq
  rw [roundAt_eq, scaleNum, scaleDen, if_pos (by omega), if_pos (by omega)]
  congr 3; omega

/-! ## the scaling step of `Quo`

The locals of `Context.Quo` (context.go): `qNdDiff` is the difference of the digit counts, `qDividend0`/`qDivisor` the
coefficients after the shorter one is padded to the same length, `qLt` the test that gives the dividend one more
digit (`qDividend1`), `qAdjCoeffs` the exponent correction for both steps, `qDividend` the dividend scaled by
`10^(prec-1)` so that the integer quotient has exactly `prec` digits. -/

def qNdDiff (X Y : Nat) : Int := (ndigits X : Int) - (ndigits Y : Int)
def qDividend0 (X Y : Nat) : Nat := if qNdDiff X Y < 0 then X * 10 ^ (-(qNdDiff X Y)).toNat else X
def qDivisor (X Y : Nat) : Nat := if qNdDiff X Y > 0 then Y * 10 ^ (qNdDiff X Y).toNat else Y
def qLt (X Y : Nat) : Bool := decide (qDividend0 X Y < qDivisor X Y)
def qDividend1 (X Y : Nat) : Nat := if qLt X Y then qDividend0 X Y * 10 else qDividend0 X Y
def qAdjCoeffs (X Y : Nat) : Int := if qLt X Y then -qNdDiff X Y + 1 else -qNdDiff X Y
def qDividend (P X Y : Nat) : Nat := qDividend1 X Y * 10 ^ ((P : Int) - 1).toNat

theorem qDividend0_eq (X Y : Nat) : qDividend0 X Y = scaleNum X (qNdDiff X Y) := by
  unfold qDividend0 scaleNum
  by_cases h : qNdDiff X Y < 0
  · rw [if_pos h, if_neg (by omega)]
  · rw [if_neg h, if_pos (by omega)]

theorem qDivisor_eq (X Y : Nat) : qDivisor X Y = scaleDen Y (qNdDiff X Y) := by
  unfold qDivisor scaleDen
  by_cases h : qNdDiff X Y > 0
  · rw [if_pos h, if_pos (by omega)]
  · by_cases h2 : qNdDiff X Y = 0
    · rw [if_neg h, if_pos (by omega), h2]; simp
    · rw [if_neg h, if_neg (by omega)]

theorem adjRat_eq (X Y : Nat) :
    adjRat X Y = if qLt X Y then qNdDiff X Y - 1 else qNdDiff X Y := by
  unfold qLt
  rw [qDividend0_eq, qDivisor_eq]
  unfold adjRat scaleNum scaleDen
  simp only [← qNdDiff.eq_1]
  by_cases h : qNdDiff X Y ≥ 0
  · simp only [if_pos h, ge_iff_le, decide_eq_true_eq]
    by_cases h2 : X < Y * 10 ^ (qNdDiff X Y).toNat
    · rw [if_pos h2, if_neg (by omega)]
    · rw [if_neg h2, if_pos (by omega)]
  · simp only [if_neg h, ge_iff_le, decide_eq_true_eq]
    by_cases h2 : X * 10 ^ (-(qNdDiff X Y)).toNat < Y
    · rw [if_pos h2, if_neg (by omega)]
    · rw [if_neg h2, if_pos (by omega)]

theorem scaled_bounds (X Y : Nat) (hX : 0 < X) (hY : 0 < Y) :
    (10 ^ (max (ndigits X) (ndigits Y) - 1) ≤ scaleNum X (qNdDiff X Y) ∧
      scaleNum X (qNdDiff X Y) < 10 ^ (max (ndigits X) (ndigits Y))) ∧
    (10 ^ (max (ndigits X) (ndigits Y) - 1) ≤ scaleDen Y (qNdDiff X Y) ∧
      scaleDen Y (qNdDiff X Y) < 10 ^ (max (ndigits X) (ndigits Y))) := by
  have hx := ndigits_pos X
  have hy := ndigits_pos Y
  have hp : ∀ (n k : Nat), 0 < n → 0 < n * 10 ^ k := fun n k h => Nat.mul_pos h (Nat.pow_pos (by decide))
  unfold scaleNum scaleDen qNdDiff
  by_cases h : (ndigits X : Int) - (ndigits Y : Int) ≥ 0
  · have e0 : ndigits X = max (ndigits X) (ndigits Y) := by omega
    have e1 : ndigits (Y * 10 ^ ((ndigits X : Int) - (ndigits Y : Int)).toNat) = max (ndigits X) (ndigits Y) := by
      rw [ndigits_mul_pow _ _ hY]; omega
    rw [if_pos h, if_pos h]
    exact ⟨by rw [← e0]; exact ndigits_spec X hX, by rw [← e1]; exact ndigits_spec _ (hp _ _ hY)⟩
  · have e0 : ndigits Y = max (ndigits X) (ndigits Y) := by omega
    have e1 : ndigits (X * 10 ^ (-((ndigits X : Int) - (ndigits Y : Int))).toNat) = max (ndigits X) (ndigits Y) := by
      rw [ndigits_mul_pow _ _ hX]; omega
    rw [if_neg h, if_neg h]
    exact ⟨by rw [← e1]; exact ndigits_spec _ (hp _ _ hX), by rw [← e0]; exact ndigits_spec Y hY⟩

theorem quo_scale (X Y : Nat) (hX : 0 < X) (hY : 0 < Y) :
    0 < qDivisor X Y ∧ qDivisor X Y ≤ qDividend1 X Y ∧ qDividend1 X Y < 10 * qDivisor X Y := by
  obtain ⟨⟨n1, n2⟩, d1, d2⟩ := scaled_bounds X Y hX hY
  have hk : 1 ≤ max (ndigits X) (ndigits Y) := by have := ndigits_pos X; omega
  have hpw := pow_pred_mul _ hk
  have hpos : 0 < 10 ^ (max (ndigits X) (ndigits Y) - 1) := Nat.pow_pos (by decide)
  unfold qDividend1 qLt
  rw [qDividend0_eq, qDivisor_eq]
  by_cases h : scaleNum X (qNdDiff X Y) < scaleDen Y (qNdDiff X Y)
  · rw [decide_eq_true h, if_pos rfl]; omega
  · rw [decide_eq_false h, if_neg Bool.false_ne_true]; omega

theorem quo_adj (X Y : Nat) : adjRat X Y = -(qAdjCoeffs X Y) := by
  rw [adjRat_eq]; unfold qAdjCoeffs; split <;> omega

theorem quo_bounds (P X Y : Nat) (hP : 1 ≤ P) (hX : 0 < X) (hY : 0 < Y) :
    0 < qDivisor X Y ∧ qDivisor X Y * 10 ^ (P - 1) ≤ qDividend P X Y ∧ qDividend P X Y < qDivisor X Y * 10 ^ P := by
  obtain ⟨s1, s2, s3⟩ := quo_scale X Y hX hY
  have eP : ((P : Int) - 1).toNat = P - 1 := by omega
  unfold qDividend
  rw [eP]
  refine ⟨s1, Nat.mul_le_mul_right _ s2, ?_⟩
  rw [pow_pred_mul P hP]
  calc qDividend1 X Y * 10 ^ (P - 1) < 10 * qDivisor X Y * 10 ^ (P - 1) :=
        Nat.mul_lt_mul_of_pos_right s3 (Nat.pow_pos (by decide))
    _ = qDivisor X Y * (10 * 10 ^ (P - 1)) := by ring

theorem quot_digits (P dividend divisor : Nat) (hP : 1 ≤ P) (hdv : 0 < divisor)
    (hlo : divisor * 10 ^ (P - 1) ≤ dividend) (hhi : dividend < divisor * 10 ^ P) :
    10 ^ (P - 1) ≤ dividend / divisor ∧ ndigits (dividend / divisor) = P := by
  have hq1 : 10 ^ (P - 1) ≤ dividend / divisor := (Nat.le_div_iff_mul_le hdv).2 (by rw [Nat.mul_comm]; exact hlo)
  exact ⟨hq1, ndigits_unique _ _ hP hq1 ((Nat.div_lt_iff_lt_mul hdv).2 (by rw [Nat.mul_comm]; exact hhi))⟩

def quoSt (c : Ctx) (neg : Bool) (q rem divisor : Nat) (adj : Int) : Nat × Int × Cond :=
  if rem != 0 then
    if adj ≥ c.emin then
      if shouldAddOne c.mode q neg (cmpNat (2 * rem) divisor) then
        ((roundAddOne q 0).1, (roundAddOne q 0).2, cInexact ||| cRounded)
      else (q, 0, cInexact ||| cRounded)
    else (q * 10 + 1, -1, {})
  else (q, 0, {})

def quoFin (c : Ctx) (neg : Bool) (shift a : Int) (st : Nat × Int × Cond) : Dec × Cond :=
  let r := setExponent c { form := .finite, neg := neg, exp := 0, coeff := st.1 } st.2.2
             [shift, a, -((c.prec : Int) - 1), st.2.1]
  (r.1, st.2.2 ||| r.2)

theorem ndigits_sticky (q : Nat) (hq : 0 < q) : ndigits (q * 10 + 1) = ndigits q + 1 := by
  obtain ⟨h1, h2⟩ := ndigits_spec q hq
  apply ndigits_unique _ _ (by omega)
  · rw [Nat.add_sub_cancel, pow_pred_mul _ (ndigits_pos q)]; omega
  · rw [Nat.pow_succ]; omega

theorem quoSt_cases (c : Ctx) (neg : Bool) (q rem divisor : Nat) (adj : Int) (hq : 0 < q) :
    (quoSt c neg q rem divisor adj).2.2.subnormal = false ∧ NoSys (quoSt c neg q rem divisor adj).2.2 ∧
    ((ndigits (quoSt c neg q rem divisor adj).1 = ndigits q ∧ (quoSt c neg q rem divisor adj).1 ≠ 0 ∧
        0 ≤ (quoSt c neg q rem divisor adj).2.1 ∧ (quoSt c neg q rem divisor adj).2.1 ≤ 1) ∨
     (adj < c.emin ∧ quoSt c neg q rem divisor adj = (q * 10 + 1, -1, {}))) := by
  unfold quoSt
  by_cases hr : (rem != 0) = true
  · rw [if_pos hr]
    by_cases ha : adj ≥ c.emin
    · rw [if_pos ha]
      by_cases hs : shouldAddOne c.mode q neg (cmpNat (2 * rem) divisor) = true
      · rw [if_pos hs]
        refine ⟨rfl, ⟨rfl, rfl⟩, Or.inl ?_⟩
        rcases roundAddOne_cases q 0 with ⟨n, e⟩ | ⟨-, e, v1, v2⟩ <;> rw [e] <;> dsimp only
        · exact ⟨n, by omega, Int.le_refl _, by decide⟩
        · exact ⟨v2, by intro h0; rw [h0] at v1; omega, by decide, by decide⟩
      · rw [if_neg hs]; exact ⟨rfl, ⟨rfl, rfl⟩, Or.inl ⟨rfl, Nat.pos_iff_ne_zero.1 hq, Int.le_refl _, Int.zero_le_ofNat 1⟩⟩
    · rw [if_neg ha]; exact ⟨rfl, ⟨rfl, rfl⟩, Or.inr ⟨by omega, rfl⟩⟩
  · rw [if_neg hr]; exact ⟨rfl, ⟨rfl, rfl⟩, Or.inl ⟨rfl, Nat.pos_iff_ne_zero.1 hq, Int.le_refl _, Int.zero_le_ofNat 1⟩⟩

theorem quoOp_eq (c : Ctx) (x y : Dec) (hx : x.form = .finite) (hy : y.form = .finite)
    (hy0 : y.coeff ≠ 0) (hp : c.prec ≠ 0) (hx0 : x.coeff ≠ 0) :
    quoOp c x y = finish c (quoFin c (x.neg != y.neg) (x.exp - y.exp) (-(qAdjCoeffs x.coeff y.coeff))
      (quoSt c (x.neg != y.neg) (qDividend c.prec x.coeff y.coeff / qDivisor x.coeff y.coeff)
        (qDividend c.prec x.coeff y.coeff % qDivisor x.coeff y.coeff) (qDivisor x.coeff y.coeff)
        (x.exp - y.exp + (-(qAdjCoeffs x.coeff y.coeff)) + (-((c.prec : Int) - 1)) +
          (ndigits (qDividend c.prec x.coeff y.coeff / qDivisor x.coeff y.coeff) : Int) - 1))) := by
  have hs := quoSpecials_none c (Nat.pos_of_ne_zero hp) x y true hx hy hy0
  have hz : x.isZero = false := by simp [Dec.isZero, hx0]
  unfold quoOp
  rw [hs]
  simp only [hz, Bool.false_eq_true, ↓reduceIte]
  rfl

theorem quoOp_zero (c : Ctx) (x y : Dec) (hx : x.form = .finite) (hy : y.form = .finite)
    (hy0 : y.coeff ≠ 0) (hp : c.prec ≠ 0) (hx0 : x.coeff = 0) :
    quoOp c x y = finish c (setExponent c { form := .finite, neg := (x.neg != y.neg), exp := 0, coeff := 0 } {} [x.exp - y.exp]) := by
  have hs := quoSpecials_none c (Nat.pos_of_ne_zero hp) x y true hx hy hy0
  have hz : x.isZero = true := by simp [Dec.isZero, hx0, hx]
  unfold quoOp
  rw [hs]
  simp only [hz, ↓reduceIte]

theorem sumInts_quo (shift a p δ : Int) : sumInts [shift, a, -(p - 1), δ] = shift + a - (p - 1) + δ := by
  simp only [sumInts]; omega

/-- **what `Quo` hands to `setExponent`** on non-zero operands: a non-zero coefficient `cf` with flags `res` (no
Subnormal, no system flag) and the summands `[shift, adj, -(prec-1), δ]`, `adj` the adjusted exponent of the fraction;
`cf` has `prec` digits and `δ` is 0 (1 after a carry), or, below `emin` with a remainder, `cf` carries a sticky digit
(`prec + 1` digits, `δ = -1`, no flag yet) -/
theorem quoOp_shape (c : Ctx) (x y : Dec) (hx : x.form = .finite) (hy : y.form = .finite)
    (hy0 : y.coeff ≠ 0) (hp : 1 ≤ c.prec) (hx0 : x.coeff ≠ 0) :
    ∃ (cf : Nat) (δ : Int) (res : Cond),
      quoOp c x y = finish c (quoFin c (x.neg != y.neg) (x.exp - y.exp) (adjRat x.coeff y.coeff) (cf, δ, res)) ∧
      res.subnormal = false ∧ NoSys res ∧ cf ≠ 0 ∧
      ((ndigits cf = c.prec ∧ 0 ≤ δ ∧ δ ≤ 1) ∨
       (ndigits cf = c.prec + 1 ∧ δ = -1 ∧ x.exp - y.exp + adjRat x.coeff y.coeff < c.emin)) := by
  obtain ⟨s1, hlo, hhi⟩ := quo_bounds c.prec x.coeff y.coeff hp (Nat.pos_of_ne_zero hx0) (Nat.pos_of_ne_zero hy0)
  obtain ⟨hq1, hndq⟩ := quot_digits c.prec _ _ hp s1 hlo hhi
  have hq0 : 0 < qDividend c.prec x.coeff y.coeff / qDivisor x.coeff y.coeff :=
    Nat.lt_of_lt_of_le (Nat.pow_pos (by decide)) hq1
  rw [quoOp_eq c x y hx hy hy0 (by omega) hx0, ← quo_adj, hndq]
  obtain ⟨h1, h2, h3⟩ := quoSt_cases c (x.neg != y.neg) _ (qDividend c.prec x.coeff y.coeff % qDivisor x.coeff y.coeff)
    (qDivisor x.coeff y.coeff)
    (x.exp - y.exp + adjRat x.coeff y.coeff + -((c.prec : Int) - 1) + (c.prec : Int) - 1) hq0
  generalize quoSt c (x.neg != y.neg) _ _ _ _ = st at h1 h2 h3 ⊢
  obtain ⟨cf, δ, res⟩ := st
  refine ⟨cf, δ, res, rfl, h1, h2, ?_, ?_⟩
  · rcases h3 with h | ⟨-, e⟩
    · exact h.2.1
    · injection e with e1; rw [e1]; omega
  · rcases h3 with ⟨a, -, b, b'⟩ | ⟨a, e⟩
    · exact Or.inl ⟨a.trans hndq, b, b'⟩
    · injection e with e1 e2; injection e2 with e2
      exact Or.inr ⟨by rw [e1, ndigits_sticky _ hq0, hndq], e2, by omega⟩

theorem specRound_quo (c : Ctx) (neg : Bool) (X Y : Nat) (shift a : Int) (hX : X ≠ 0) (ha : adjRat X Y = a) :
    specRound c { neg := neg, num := X, den := Y, e10 := shift } =
      specPack c.emax neg (decide (a + shift < c.emin)) (max (a + shift - (c.prec : Int) + 1) c.etiny)
        (roundAt c.mode neg X Y shift (max (a + shift - (c.prec : Int) + 1) c.etiny)) := by
  rw [specRound_of_pos c _ hX]; simp only [ha]

/-- normal range: `cf × 10^δ` is the oracle's rounded coefficient (`δ = 1` after a carry) -/
theorem normal_finish (c : Ctx) (hc : c.WF) (neg : Bool) (shift a : Int) (N D : Nat) (hN : N ≠ 0)
    (ha : adjRat N D = (c.prec : Int) - 1) (hreg : c.emin ≤ shift + a) (cf : Nat) (δ : Int) (hδ : 0 ≤ δ) (inex : Bool)
    (hnd : ndigits cf = c.prec) (hcf0 : cf ≠ 0)
    (hround : roundQuot c.mode neg N D = (cf * 10 ^ δ.toNat, inex))
    (hns : NoSys (quoFin c neg shift a (cf, δ, if inex then cInexact ||| cRounded else {})).2) :
    Agrees c { neg := neg, num := N, den := D, e10 := shift + a - ((c.prec : Int) - 1) }
      (quoFin c neg shift a (cf, δ, if inex then cInexact ||| cRounded else {})).1
      (quoFin c neg shift a (cf, δ, if inex then cInexact ||| cRounded else {})).2 := by
  have het := c.etiny_eq
  have hP := hc.1
  unfold quoFin at hns ⊢
  rw [agrees_iff, specRound_quo c neg N D _ _ hN ha, max_eq_left (by omega), decide_eq_false (by omega),
    roundAt_frac _ _ _ _ _ _ 0 (by omega), Nat.pow_zero, Nat.mul_one, hround]
  exact setExponent_agrees_normal c hc ⟨.finite, neg, 0, cf⟩ rfl _ _ (NoSys.or_iff.1 hns).2 hcf0 hnd.le
    _ δ.toNat (by rw [sumInts_quo]; simp only []; omega)
    (by simp only [hnd]; omega) inex (roundedOnly_quo inex)

/-- below `emin`: `cf × 10^(shift + a - (prec - 1) + δ)` is a decimal that the oracle rounds at Etiny as it
rounds the fraction -/
theorem sub_finish (c : Ctx) (hc : c.WF) (neg : Bool) (shift a : Int) (N D : Nat) (hN : N ≠ 0)
    (ha : adjRat N D = (c.prec : Int) - 1) (hreg : shift + a < c.emin) (cf : Nat) (δ : Int) (hcf0 : cf ≠ 0)
    (hadj : (shift + a - ((c.prec : Int) - 1) + δ) + (ndigits cf : Int) - 1 < c.emin)
    (hround : roundAt c.mode neg N D (shift + a - ((c.prec : Int) - 1)) c.etiny =
      roundAt c.mode neg cf 1 (shift + a - ((c.prec : Int) - 1) + δ) c.etiny)
    (hns : NoSys (quoFin c neg shift a (cf, δ, {})).2) :
    Agrees c { neg := neg, num := N, den := D, e10 := shift + a - ((c.prec : Int) - 1) }
      (quoFin c neg shift a (cf, δ, {})).1 (quoFin c neg shift a (cf, δ, {})).2 := by
  have het := c.etiny_eq
  have hP := hc.1
  unfold quoFin at hns ⊢
  rw [agrees_iff, specRound_quo c neg N D _ _ hN ha, max_eq_right (by omega), decide_eq_true (by omega), hround]
  exact (setExponent_agrees_sub c hc ⟨.finite, neg, 0, cf⟩ rfl _ _ (NoSys.or_iff.1 hns).2 hcf0
    ⟨rfl, rfl, rfl, rfl, rfl, rfl, rfl⟩ _ (sumInts_quo _ _ _ _) hadj).2.2

/-- the sticky digit: below `emin`, `Quo` hands on the quotient `q` when the division is exact and `q·10 + 1`
when it is not; dropping `k`, respectively `k + 1`, digits of that rounds as the true fraction does -/
theorem roundQuot_sticky (mode : Mode) (neg : Bool) (dividend divisor k : Nat) (hdv : 0 < divisor) (hk : 1 ≤ k) :
    roundQuot mode neg dividend (divisor * 10 ^ k) =
      if dividend % divisor = 0 then roundQuot mode neg (dividend / divisor) (10 ^ k)
      else roundQuot mode neg (dividend / divisor * 10 + 1) (10 ^ (k + 1)) := by
  have hT : 0 < 10 ^ k := Nat.pow_pos (by decide)
  have hrem := Nat.mod_lt dividend hdv
  have hs := Nat.mod_lt (dividend / divisor) hT
  have e10 : 10 ^ (k + 1) = 10 ^ k * 10 := by rw [Nat.pow_succ]
  have eq1 : dividend / (divisor * 10 ^ k) = dividend / divisor / 10 ^ k := (Nat.div_div_eq_div_mul _ _ _).symm
  have em1 : dividend % (divisor * 10 ^ k) = dividend % divisor + divisor * (dividend / divisor % 10 ^ k) :=
    Nat.mod_mul
  generalize dividend / divisor = q at *
  generalize dividend % divisor = rem at *
  split
  · rename_i h0
    subst h0
    refine roundQuot_congr mode neg _ _ _ _ eq1 ?_ ?_
    · rw [em1, Nat.zero_add, Nat.mul_eq_zero]; exact ⟨fun h => h.resolve_left (by omega), Or.inr⟩
    · rw [em1, Nat.zero_add]
      exact compare_cross _ _ _ _ hT (Nat.mul_pos hdv hT) (by ring)
  · have eq2 : (q * 10 + 1) / 10 ^ (k + 1) = q / 10 ^ k := by
      rw [e10, Nat.mul_comm (10 ^ k) 10, ← Nat.div_div_eq_div_mul]; congr 1; omega
    have em2 : (q * 10 + 1) % 10 ^ (k + 1) = 1 + 10 * (q % 10 ^ k) := by
      rw [e10, Nat.mul_comm (10 ^ k) 10, Nat.mod_mul]
      have e1 : (q * 10 + 1) / 10 = q := by omega
      have e2 : (q * 10 + 1) % 10 = 1 := by omega
      rw [e1, e2]
    refine roundQuot_congr mode neg _ _ _ _ (eq1.trans eq2.symm) ?_ ?_
    · rw [em1, em2]; constructor <;> intro h <;> omega
    · -- both remainders lie on the same side of one half: the sticky 1 stands for `0 < rem < divisor`
      rw [em1, em2, e10]
      have ek := pow_pred_mul k hk
      generalize q % 10 ^ k = s at *
      rw [ek] at hs ⊢
      generalize 10 ^ (k - 1) = T0 at *
      have ev : divisor * (10 * T0) = 10 * (divisor * T0) := by ring
      rw [ev]
      by_cases h : s < 5 * T0
      · have h1 : divisor * (s + 1) ≤ divisor * (5 * T0) := Nat.mul_le_mul_left divisor (by omega)
        rw [Nat.mul_add, Nat.mul_one, show divisor * (5 * T0) = 5 * (divisor * T0) by ring] at h1
        generalize divisor * s = u at *
        generalize divisor * T0 = v at *
        rw [compare_lt_iff_lt.2 (by omega), compare_lt_iff_lt.2 (by omega)]
      · have h1 : divisor * (5 * T0) ≤ divisor * s := Nat.mul_le_mul_left divisor (by omega)
        rw [show divisor * (5 * T0) = 5 * (divisor * T0) by ring] at h1
        generalize divisor * s = u at *
        generalize divisor * T0 = v at *
        rw [compare_gt_iff_gt.2 (by omega), compare_gt_iff_gt.2 (by omega)]

/-- `Quo` on abstract data: `dividend / divisor` has exactly `prec` integer digits, and the delivered quotient is its
specified rounding at the exponent `shift + a - (prec - 1)` -/
theorem quo_core (c : Ctx) (hc : c.WF) (neg : Bool) (shift a : Int) (dividend divisor : Nat) (hdv : 0 < divisor)
    (hlo : divisor * 10 ^ (c.prec - 1) ≤ dividend) (hhi : dividend < divisor * 10 ^ c.prec)
    (ha : adjRat dividend divisor = (c.prec : Int) - 1)
    (hns : NoSys (quoFin c neg shift a (quoSt c neg (dividend / divisor) (dividend % divisor) divisor
             (shift + a + (-((c.prec : Int) - 1)) + (ndigits (dividend / divisor) : Int) - 1))).2) :
    Agrees c { neg := neg, num := dividend, den := divisor, e10 := shift + a - ((c.prec : Int) - 1) }
      (quoFin c neg shift a (quoSt c neg (dividend / divisor) (dividend % divisor) divisor
             (shift + a + (-((c.prec : Int) - 1)) + (ndigits (dividend / divisor) : Int) - 1))).1
      (quoFin c neg shift a (quoSt c neg (dividend / divisor) (dividend % divisor) divisor
             (shift + a + (-((c.prec : Int) - 1)) + (ndigits (dividend / divisor) : Int) - 1))).2 := by
  have hP := hc.1
  have het := c.etiny_eq
  have hN : dividend ≠ 0 := by
    have := Nat.mul_pos hdv (Nat.pow_pos (n := c.prec - 1) (show 0 < 10 by decide)); omega
  obtain ⟨hq1, hndq⟩ := quot_digits c.prec dividend divisor hP hdv hlo hhi
  rw [hndq] at hns ⊢
  have eadj : shift + a + -((c.prec : Int) - 1) + (c.prec : Int) - 1 = shift + a := by omega
  rw [eadj] at hns ⊢
  by_cases hreg : c.emin ≤ shift + a
  · -- normal range: `quoSt` is the rounding step, with the flags of an inexact division
    obtain ⟨h1, h⟩ := roundStep c.mode neg dividend divisor 0
    have hge := (roundQuot_bounds c.mode neg dividend divisor).1
    have hq0 := Nat.pow_pos (n := c.prec - 1) (show 0 < 10 by decide)
    have hst : quoSt c neg (dividend / divisor) (dividend % divisor) divisor (shift + a) =
        ((if dividend % divisor != 0 && shouldAddOne c.mode (dividend / divisor) neg
              (cmpNat (2 * (dividend % divisor)) divisor) then roundAddOne (dividend / divisor) 0
            else (dividend / divisor, 0)).1,
         (if dividend % divisor != 0 && shouldAddOne c.mode (dividend / divisor) neg
              (cmpNat (2 * (dividend % divisor)) divisor) then roundAddOne (dividend / divisor) 0
            else (dividend / divisor, 0)).2,
         if (dividend % divisor != 0) = true then cInexact ||| cRounded else {}) := by
      unfold quoSt
      by_cases hr0 : dividend % divisor = 0
      · simp [hr0]
      · by_cases hs : shouldAddOne c.mode (dividend / divisor) neg (cmpNat (2 * (dividend % divisor)) divisor) = true
        · simp [hr0, hreg, hs]
        · simp [hr0, hreg, hs]
    rw [hst] at hns ⊢
    -- no carry: the oracle's coefficient as it is; carry: its last digit, a zero, goes into the exponent
    rcases h with ⟨n1, e⟩ | ⟨n1, e, v1, v2⟩ <;> rw [e, ← h1] at hns ⊢
    · exact normal_finish c hc neg shift a dividend divisor hN ha hreg _ 0 (Int.le_refl _) _ (n1.trans hndq)
        (by omega) (by simp) hns
    · exact normal_finish c hc neg shift a dividend divisor hN ha hreg _ (0 + 1) (by omega) _ (v2.trans hndq)
        (by omega) (Prod.ext (by simpa using v1.symm) rfl) hns
  · have hreg' : shift + a < c.emin := by omega
    obtain ⟨k, hk⟩ : ∃ k : Nat, (k : Int) = c.emin - (shift + a) := ⟨(c.emin - (shift + a)).toNat, by omega⟩
    have hk1 : 1 ≤ k := by omega
    have hround := (roundAt_frac c.mode neg dividend divisor (shift + a - ((c.prec : Int) - 1)) c.etiny k
      (by omega)).trans (roundQuot_sticky c.mode neg dividend divisor k hdv hk1)
    generalize dividend / divisor = q at *
    generalize dividend % divisor = rem at *
    have hq0 : q ≠ 0 := by
      have := Nat.pow_pos (n := c.prec - 1) (show 0 < 10 by decide); omega
    by_cases hr0 : rem = 0
    · have hst : quoSt c neg q rem divisor (shift + a) = (q, (0 : Int), {}) := by
        simp [quoSt, hr0]
      rw [hst] at hns ⊢
      rw [if_pos hr0] at hround
      refine sub_finish c hc neg shift a dividend divisor hN ha hreg' q 0 hq0 (by omega) ?_ hns
      rw [hround, roundAt_dec _ _ _ _ _ (by omega)]
      congr 2; omega
    · have hst : quoSt c neg q rem divisor (shift + a) = (q * 10 + 1, (-1 : Int), {}) := by
        simp [quoSt, hr0, hreg']
      rw [hst] at hns ⊢
      rw [if_neg hr0] at hround
      have hnd10 : ndigits (q * 10 + 1) = c.prec + 1 := by rw [ndigits_sticky q (by omega), hndq]
      refine sub_finish c hc neg shift a dividend divisor hN ha hreg' (q * 10 + 1) (-1) (by omega)
        (by rw [hnd10]; push_cast; omega) ?_ hns
      rw [hround, roundAt_dec _ _ _ _ _ (by omega)]
      congr 2; omega

end Apd.QuoL
