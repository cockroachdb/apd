import ApdVerif.Lemmas.FootLemmas
import ApdVerif.Imp.TransOps
/-!
# Footprints of the store-level programs of `Imp/TransOps.lean` (core Lean only)

`Foot_localize`: a local `Decimal` at a virtual address leaves the footprint; `Foot_runTransOp`: every operation of
`runTransOp` reads `{x, y} ∪ {d}` and writes `{d}`.
-/
namespace Apd.Imp

variable {R W : Cell → Prop}

theorem Foot_localize {α : Type} (L : Cell) {p : Prog α}
    (hp : Foot (fun c => R c ∨ c = L) (fun c => W c ∨ c = L) p) (v : Dec) : Foot R W (localize L p v) := by
  have rd : ∀ {c}, (R c ∨ c = L) ∨ (W c ∨ c = L) → c ≠ L → R c ∨ W c := fun h hne =>
    h.elim (fun h => Or.inl (h.resolve_right hne)) (fun h => Or.inr (h.resolve_right hne))
  induction hp generalizing v with
  | ret a => exact .ret _
  | getForm c k hc _ ih | getNeg c k hc _ ih | getExp c k hc _ ih | getCoeff c k hc _ ih =>
    simp only [localize]; split
    · exact ih _ _
    · next hne =>
      constructor
      · exact rd hc hne
      · exact fun f => ih f v
  | setForm c f p hc _ ih | setNeg c f p hc _ ih | setExp c f p hc _ ih | setCoeff c f p hc _ ih =>
    simp only [localize]; split
    · exact ih _
    · next hne =>
      constructor
      · exact hc.resolve_right hne
      · exact ih v

theorem Foot_snapP {s : Src} (hs : SrcOK R W s) : Foot R W (snapP s) := by unfold snapP; foot

theorem Foot_retErr (fl : Cond) (e : ErrKind) : Foot R W (retErr fl e) := Foot.ret _

theorem Foot_rootSpecialsP {d : Cell} {x : Src} (hd : W d) (hx : SrcOK R W x) (c : Ctx) (f : Int) :
    Foot R W (rootSpecialsP c d x f) := by
  unfold rootSpecialsP; foot [Foot_shouldSetAsNaNP, Foot_setAsNaNP, Foot_setDec, Foot_signP, Foot_roundP]

theorem Foot_andFiniteP {d : Cell} (hd : W d) (b : Bool) : Foot R W (andFiniteP b d) := by
  unfold andFiniteP; foot

theorem Foot_sqrtSettleP {d : Cell} (hd : W d) (nc : Ctx) (a x : Dec) : Foot R W (sqrtSettleP nc d a x) := by
  unfold sqrtSettleP; foot [Foot_cmpP, Foot_roundP]

theorem Foot_sqrtSettleIfP {d : Cell} (hd : W d) (nc : Ctx) (a x : Dec) (res : Cond) :
    Foot R W (sqrtSettleIfP nc d a x res) := by
  unfold sqrtSettleIfP; foot [Foot_andFiniteP, Foot_sqrtSettleP]

theorem Foot_sqrtExactP {d : Cell} (hd : W d) (nc : Ctx) (x : Dec) (res : Cond) :
    Foot R W (sqrtExactP nc d x res) := by
  unfold sqrtExactP; foot [Foot_andFiniteP, Foot_retFlags]

theorem Foot_sqrtFinishP {d : Cell} (hd : W d) (c : Ctx) (a : Dec) (e : Int) (f : Dec) :
    Foot R W (sqrtFinishP c d a e f) := by
  unfold sqrtFinishP; foot [Foot_setDec, Foot_snapP, Foot_roundP, Foot_sqrtSettleIfP, Foot_sqrtExactP]

theorem Foot_sqrtP {d : Cell} {x : Src} (hd : W d) (hx : SrcOK R W x) (c : Ctx) : Foot R W (sqrtP c d x) := by
  unfold sqrtP; foot [Foot_rootSpecialsP, Foot_numDigitsP, Foot_snapP, Foot_retErr, Foot_sqrtFinishP]

theorem Foot_edStepP (e : ED) (cur : Dec) {p : Ctx → Prog (Res × Dec)} (hp : ∀ cc, Foot R W (p cc)) :
    Foot R W (edStepP e cur p) := by
  unfold edStepP; foot [hp]

theorem Foot_cbrtCheckP {d : Cell} (hd : W d) (c : Ctx) (z0 z : Dec) (fl res : Cond) (err : ErrKind) :
    Foot R W (cbrtCheckP c d z0 z fl res err) := by
  unfold cbrtCheckP; foot [Foot_edStepP, Foot_localize, Foot_mulP, Foot_retErr]

theorem Foot_cbrtFinishP {d : Cell} {x : Src} (hd : W d) (hx : SrcOK R W x) (c : Ctx) (neg : Bool) (z : Dec)
    (fl : Cond) : Foot R W (cbrtFinishP c d x neg z fl) := by
  unfold cbrtFinishP; foot [Foot_snapP, Foot_roundP, Foot_cbrtCheckP]

theorem Foot_cbrtP {d : Cell} {x : Src} (hd : W d) (hx : SrcOK R W x) (c : Ctx) : Foot R W (cbrtP c d x) := by
  unfold cbrtP; foot [Foot_rootSpecialsP, Foot_snapP, Foot_retErr, Foot_cbrtFinishP]

theorem Foot_edStepCellP (e : ED) {p : Ctx → Prog Res} (hp : ∀ cc, Foot R W (p cc)) :
    Foot R W (edStepCellP e p) := by
  unfold edStepCellP; foot [hp]

theorem Foot_intPowLoopP {d : Cell} (hd : W d) (fuel : Nat) (e : ED) (b : Nat) (n : Dec) :
    Foot R W (intPowLoopP fuel e b d n) := by
  induction fuel generalizing e b n with
  | zero => exact Foot.pure _
  | succ k ih => unfold intPowLoopP; foot [Foot_edStepCellP, Foot_mulP, ih]

theorem Foot_integerPowerP {d : Cell} {x : Src} (hd : W d) (hx : SrcOK R W x) (c : Ctx) (y : Int) :
    Foot R W (integerPowerP c d x y) := by
  unfold integerPowerP; foot [Foot_snapP, Foot_setDec, Foot_intPowLoopP, Foot_edStepCellP, Foot_quoP]

theorem Foot_setFiniteP {d : Cell} (hd : W d) (v e : Int) : Foot R W (setFiniteP d v e) := by
  unfold setFiniteP; foot

theorem Foot_retT (r : Res) (t : Tape) : Foot R W (retT r t) := Foot.ret _

theorem Foot_expFinishP {d : Cell} (hd : W d) (c nc : Ctx) (sum : Dec) (t : Nat) :
    Foot R W (expFinishP c nc d sum t) := by
  unfold expFinishP; foot [Foot_integerPowerP, Foot_retErr, Foot_roundP, Foot_retFlags]

theorem Foot_expSeriesP {d : Cell} (hd : W d) (c nc : Ctx) (r : Dec) (t : Nat) (tape : Tape) :
    Foot R W (expSeriesP c nc d r t tape) := by
  unfold expSeriesP; foot [Foot_retT, Foot_expFinishP]

theorem Foot_expMainP {d : Cell} {x : Src} (hd : W d) (hx : SrcOK R W x) (c : Ctx) (ax : Dec) (cp : Nat)
    (tape : Tape) : Foot R W (expMainP c d x ax cp tape) := by
  unfold expMainP
  foot [Foot_signP, Foot_setFiniteP, Foot_retT, Foot_setDec, Foot_numDigitsP, Foot_localize, Foot_quoP,
    Foot_expSeriesP]

theorem Foot_expP {d : Cell} {x : Src} (hd : W d) (hx : SrcOK R W x) (c : Ctx) (tape : Tape) :
    Foot R W (expP c d x tape) := by
  unfold expP
  foot [Foot_shouldSetAsNaNP, Foot_setAsNaNP, Foot_retT, Foot_setDec, Foot_isZeroP, Foot_snapP, Foot_expMainP]

theorem Foot_logSpecialsP {d : Cell} {x : Src} (hd : W d) (hx : SrcOK R W x) (c : Ctx) :
    Foot R W (logSpecialsP c d x) := by
  unfold logSpecialsP; foot [Foot_shouldSetAsNaNP, Foot_setAsNaNP, Foot_signP, Foot_setDec, Foot_cmpP]

theorem Foot_lnFinishP {d : Cell} (hd : W d) (c : Ctx) (ed : ED) (t ra : Dec) :
    Foot R W (lnFinishP c d ed t ra) := by
  unfold lnFinishP; foot [Foot_retErr, Foot_roundP, Foot_retFlags]

theorem Foot_lnP {d : Cell} {x : Src} (hd : W d) (hx : SrcOK R W x) (c : Ctx) (tape : Tape) :
    Foot R W (lnP c d x tape) := by
  unfold lnP; foot [Foot_logSpecialsP, Foot_retT, Foot_snapP, Foot_lnFinishP]

theorem Foot_log10P {d : Cell} {x : Src} (hd : W d) (hx : SrcOK R W x) (c : Ctx) (tape : Tape) :
    Foot R W (log10P c d x tape) := by
  unfold log10P; foot [Foot_logSpecialsP, Foot_retT, Foot_localize, Foot_lnP, Foot_mulP, Foot_roundP]

theorem Foot_modfLoc2 {y : Src} (hy : SrcOK R W y) : Foot R W (modfLoc2 y) := by
  unfold modfLoc2; foot [Foot_snapP, Foot_numDigitsP]

theorem Foot_powFracP {d : Cell} {x zs : Src} (hd : W d) (hx : SrcOK R W x) (hz : SrcOK R W zs) (c nc : Ctx)
    (frac tmp0 : Dec) (neg : Bool) (res : Cond) (tape : Tape) :
    Foot R W (powFracP c nc d x zs frac tmp0 neg res tape) := by
  unfold powFracP
  foot [Foot_edStepP, Foot_localize, Foot_absP, Foot_mulP, Foot_setDec, Foot_retT, Foot_roundP]

theorem Foot_powRestP {d : Cell} {x zs : Src} (hd : W d) (hx : SrcOK R W x) (hz : SrcOK R W zs) (c nc : Ctx)
    (ip : Cond × ErrKind) (qfl : Cond) (frac tmp0 : Dec) (yi neg : Bool) (tape : Tape) :
    Foot R W (powRestP c nc d x zs ip qfl frac tmp0 yi neg tape) := by
  unfold powRestP; foot [Foot_setDec, Foot_retT, Foot_roundP, Foot_powFracP]

theorem Foot_powMainP {d : Cell} {x : Src} (hd : W d) (hx : SrcOK R W x) (c : Ctx) (i f t0 : Dec)
    (yi neg : Bool) (tape : Tape) : Foot R W (powMainP c d x i f t0 yi neg tape) := by
  unfold powMainP; foot [Foot_numDigitsP, Foot_localize, Foot_integerPowerP, Foot_powRestP]

theorem Foot_powP {d : Cell} {x y : Src} (hd : W d) (hx : SrcOK R W x) (hy : SrcOK R W y) (c : Ctx) (tape : Tape) :
    Foot R W (powP c d x y tape) := by
  unfold powP
  foot [Foot_shouldSetAsNaNP, Foot_setAsNaNP, Foot_retT, Foot_modfLoc2, Foot_signP, Foot_setDec, Foot_snapP,
    Foot_cmpP, Foot_powMainP]

theorem Foot_runTransOp {op : String} {c : Ctx} {d x y : Cell} {tape : Tape} :
    ∀ p, runTransOp op c d x y tape = some p → Foot (footR x y) (footW d) p :=
  have hd : footW d d := footW_self
  have hx : SrcOK (footR x y) (footW d) (.cell x) := footR_fst
  forall_ite_some ((Foot_sqrtP hd hx _).map _) <|
  forall_ite_some ((Foot_cbrtP hd hx _).map _) <|
  forall_ite_some (Foot_expP hd hx _ _) <|
  forall_ite_some (Foot_lnP hd hx _ _) <|
  forall_ite_some (Foot_log10P hd hx _ _) <|
  forall_ite_some (Foot_powP hd hx footR_snd _ _) <|
  fun _ h => by cases h

end Apd.Imp
