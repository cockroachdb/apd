import ApdVerif.Lemmas.C05TransPowLemmas
import ApdVerif.Imp.ReadOps
/-!
# Run lemmas for the read-only `Decimal` methods of `Imp/ReadOps.lean`: the heap is returned unchanged and the result
is the value-level model's (`Dec.cmpTotal`, `Text.append`, `int64Op`)
-/
namespace Apd.Imp

@[simp, prog_run] theorem run_cmpOrderP (s : Src) (h : Heap) : run (cmpOrderP s) h = ((s.val h).cmpOrder, h) := by
  unfold cmpOrderP Dec.cmpOrder
  simp only [prog_run]
  cases (s.val h).form <;> rfl

@[simp, prog_run] theorem run_cmpTotalP (d x : Src) (h : Heap) :
    run (cmpTotalP d x) h = ((d.val h).cmpTotal (x.val h), h) := by
  unfold cmpTotalP Dec.cmpTotal
  simp only [prog_run]
  cases hf : (d.val h).form <;>
    simp only [prog_run, ite_pair_heap]

theorem run_zerosLoopP (d : Src) (h : Heap) (fuel : Nat) :
    ∀ i : Int, i ≤ (d.val h).exp → ((d.val h).exp - i).toNat < fuel →
      run (zerosLoopP d fuel i) h = ((d.val h).exp, h) := by
  induction fuel with
  | zero => intro i _ hf; omega
  | succ k ih =>
    intro i hi hf
    unfold zerosLoopP
    simp only [prog_run]
    by_cases hlt : i < (d.val h).exp
    · simp only [hlt, if_true]
      exact ih (i + 1) (by omega) (by omega)
    · simp only [hlt, if_false]
      have : i = (d.val h).exp := by omega
      rw [this]

@[simp, prog_run] theorem run_fmtFP (d : Src) (digits : List Char) (h : Heap) :
    run (fmtFP d digits) h = (Text.fmtF (d.val h) digits, h) := by
  unfold fmtFP Text.fmtF
  simp only [prog_run]
  by_cases h1 : (d.val h).exp < 0
  · simp only [h1, if_true]
    split_ifs <;> rfl
  · simp only [h1, if_false]
    have h2 : (d.val h).exp ≥ 0 := by omega
    simp only [h2, if_true, prog_run]
    rw [run_zerosLoopP d h _ 0 h2 (by omega)]

@[simp, prog_run] theorem run_fmtEP (fmt : Char) (d : Src) (digits : List Char) (h : Heap) :
    run (fmtEP fmt d digits) h = (Text.fmtE fmt (d.val h) digits, h) := by
  unfold fmtEP
  simp only [prog_run]
  rfl

theorem ite_and_nest {α : Type} (a b : Prop) [Decidable a] [Decidable b] (x y : α) :
    (if a ∧ b then x else y) = if a then (if b then x else y) else y := by
  by_cases ha : a <;> by_cases hb : b <;> simp only [ha, hb, and_self, and_false, false_and, if_true, if_false]

@[simp, prog_run] theorem run_appendLP (d : Src) (verb : Char) (h : Heap) :
    run (appendLP d verb) h = (Text.appendL (d.val h) verb, h) := by
  unfold appendLP Text.appendL
  simp only [prog_run]
  cases hf : (d.val h).form <;> simp only [prog_run]
  -- the program tests the three conditions of the zero-coefficient correction one after the other
  simp only [ite_pair_heap, ite_and_nest]

@[simp, prog_run] theorem run_textP (d : Src) (verb : Char) (h : Heap) :
    run (textP d verb) h = (Text.append (d.val h) verb, h) := by
  unfold textP Text.append
  simp only [prog_run]

@[simp, prog_run] theorem run_stringP (d : Src) (h : Heap) : run (stringP d) h = (Text.string (d.val h), h) := by
  unfold stringP Text.string; simp only [prog_run]

@[simp, prog_run] theorem run_float64P (d : Src) (h : Heap) : run (float64P d) h = (Text.string (d.val h), h) := by
  unfold float64P; simp only [prog_run]

@[simp, prog_run] theorem run_int64P (d : Src) (h : Heap) : run (int64P d) h = (int64Op (d.val h), h) := by
  unfold int64P int64Op
  simp only [prog_run, ite_pair_heap]

end Apd.Imp
