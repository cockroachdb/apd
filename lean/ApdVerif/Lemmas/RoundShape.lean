import ApdVerif.Lemmas.RoundOut
import ApdVerif.Props.Rational
import Mathlib.Tactic.Ring
import Mathlib.Tactic.Linarith
/-!
# The magnitude of a decimal and the shape of `Context.round` inside the package limits (Sqrt and Cbrt)

`magQ`, the magnitude of a decimal in ℚ, and what `ctxRound` returns on a non-zero decimal inside the package limits
(`RHyp`): unchanged on the grid of the quantum `qdOf`, below it the coefficient divided by a power of ten and rounded;
likewise on a decimal that is already on the result grid (`Grid`).  All read off the closed form `roundOut` of
`Lemmas/RoundOut`.
-/
namespace Apd.C11Q
open Apd Apd.Oracle Apd.C20L Apd.RatSpec

noncomputable def magQ (x : Dec) : ℚ := (x.coeff : ℚ) * (10 : ℚ) ^ x.exp

theorem toRat_pos (x : Dec) (hn : x.neg = false) : x.toRat = magQ x := by
  unfold Dec.toRat magQ; simp [hn]

theorem sq_zpow (q : ℤ) : ((10 : ℚ) ^ q) ^ 2 = (10 : ℚ) ^ (2 * q) := by
  rw [pow_two, ← zpow_add₀ ten_ne]; congr 1; ring

theorem magQ_eq_abs (d : Dec) : magQ d = |d.toRat| := (abs_toRat d).symm

theorem magQ_isAdj (d : Dec) (hpos : 0 < d.coeff) : IsAdj (magQ d) (d.exp + (ndigits d.coeff : ℤ) - 1) :=
  magQ_eq_abs d ▸ abs_toRat_isAdj d hpos

theorem magQ_zero {x : Dec} (h : x.coeff = 0) : magQ x = 0 := by unfold magQ; rw [h]; simp

theorem pow_split (q : ℤ) (k : ℕ) : (10 : ℚ) ^ (q + (k : ℤ)) = ((10 ^ k : ℕ) : ℚ) * (10 : ℚ) ^ q := by
  rw [zpow_add₀ ten_ne, zpow_natCast]; push_cast; ring

theorem magQ_shift (d : Dec) (k : ℤ) : magQ { d with exp := d.exp + k } = magQ d * (10 : ℚ) ^ k := by
  unfold magQ
  show (d.coeff : ℚ) * (10 : ℚ) ^ (d.exp + k) = _
  rw [zpow_add₀ ten_ne, mul_assoc]

theorem magQ_pos (x : Dec) (h : x.coeff ≠ 0) : 0 < magQ x := by
  unfold magQ
  have : (0 : ℚ) < x.coeff := by exact_mod_cast Nat.pos_of_ne_zero h
  exact mul_pos this (tp _)

/-- the value of the square formed on the coefficient (`sq.Coeff.Mul(&d.Coeff, &d.Coeff); sq.Exponent = 2 * d.Exponent`) -/
theorem magQ_sq (w : Dec) :
    magQ { coeff := w.coeff * w.coeff, exp := 2 * w.exp } = (magQ w) ^ 2 := by
  unfold magQ
  simp only []
  push_cast
  rw [two_mul, zpow_add₀ ten_ne]; ring

theorem trunc_bracket (d : Dec) (qd : ℤ) (k : ℕ) (hk : qd = d.exp + (k : ℤ)) :
    ((d.coeff / 10 ^ k : ℕ) : ℚ) * (10 : ℚ) ^ qd ≤ magQ d ∧
    magQ d < (((d.coeff / 10 ^ k : ℕ) : ℚ) + 1) * (10 : ℚ) ^ qd ∧
    (d.coeff % 10 ^ k = 0 → magQ d = ((d.coeff / 10 ^ k : ℕ) : ℚ) * (10 : ℚ) ^ qd) := by
  have hpk : 0 < 10 ^ k := Nat.pow_pos (by decide)
  have e : (d.coeff : ℚ) = ((10 ^ k : ℕ) : ℚ) * ((d.coeff / 10 ^ k : ℕ) : ℚ) + ((d.coeff % 10 ^ k : ℕ) : ℚ) := by
    exact_mod_cast (Nat.div_add_mod d.coeff (10 ^ k)).symm
  have hr : ((d.coeff % 10 ^ k : ℕ) : ℚ) < ((10 ^ k : ℕ) : ℚ) := by exact_mod_cast Nat.mod_lt d.coeff hpk
  have hr0 : (0 : ℚ) ≤ ((d.coeff % 10 ^ k : ℕ) : ℚ) := Nat.cast_nonneg _
  have hq : (10 : ℚ) ^ qd = ((10 ^ k : ℕ) : ℚ) * (10 : ℚ) ^ d.exp := by
    rw [hk, pow_split]
  have hp := tp d.exp
  unfold magQ
  rw [hq, e]
  refine ⟨?_, ?_, ?_⟩
  · linarith only [mul_nonneg hr0 hp.le]
  · linarith only [mul_lt_mul_of_pos_right hr hp]
  · intro h0
    rw [h0]; push_cast; ring

open Cond

theorem round_sub_shape (cc : Ctx) (d : Dec) (hp : 1 ≤ cc.prec) (hemin : cc.emin ≤ 100000)
    (hf : d.form = .finite) (hn : d.coeff ≠ 0) (he : -100000 ≤ d.exp) (he2 : d.exp ≤ 100000)
    (hadj : d.exp + (ndigits d.coeff : Int) - 1 < cc.emin)
    (ha1 : -100000 ≤ d.exp + (ndigits d.coeff : Int) - 1) (hlt : d.exp < cc.etiny) :
    (ctxRound cc d).1.form = .finite ∧ (ctxRound cc d).1.neg = d.neg ∧ NoSys (ctxRound cc d).2 ∧
    (ctxRound cc d).1.exp = cc.etiny ∧
    (ctxRound cc d).2.inexact = (d.coeff % 10 ^ (cc.etiny - d.exp).toNat != 0) ∧
    (ctxRound cc d).2.subnormal = true ∧
    ((d.coeff % 10 ^ (cc.etiny - d.exp).toNat = 0 ∨ cc.mode = .down) →
      (ctxRound cc d).1 = { d with coeff := d.coeff / 10 ^ (cc.etiny - d.exp).toNat, exp := cc.etiny }) := by
  rw [ctxRound_finite cc d hf]
  unfold ctxRoundFin
  rw [roundX_sub_round cc hp hemin d hf hn hadj (checkXs_single _ he he2) ha1 hlt]
  exact ⟨hf, rfl, ⟨rfl, rfl⟩, rfl, roundQuot_inexact _ _ _ _, rfl, fun h => by rw [roundQuot_trunc _ _ _ _ h]⟩

def qdOf (cc : Ctx) (d : Dec) : Int :=
  max (d.exp + (ndigits d.coeff : Int) - 1 - (cc.prec : Int) + 1) (cc.emin - (cc.prec : Int) + 1)

theorem qdOf_eq (cc : Ctx) (d : Dec) : qdOf cc d = quantum cc (d.exp + (ndigits d.coeff : Int) - 1) := rfl

/-- a non-zero finite decimal inside the package limits, a context that cannot overflow -/
structure RHyp (cc : Ctx) (d : Dec) : Prop where
  hp : 1 ≤ cc.prec
  hemin : -100000 ≤ cc.emin
  hemin0 : cc.emin ≤ 0
  hemax : cc.emax = 100000
  hf : d.form = .finite
  hn : d.coeff ≠ 0
  he : -100000 ≤ d.exp
  hnd : ndigits d.coeff ≤ 100000
  ha1 : -100000 ≤ d.exp + (ndigits d.coeff : Int) - 1
  ha2 : d.exp + (ndigits d.coeff : Int) ≤ 100000

theorem rhyp_eq {cc : Ctx} {d : Dec} (H : RHyp cc d) :
    NoSys (ctxRound cc d).2 ∧ ctxRound cc d = roundOut cc d ∧ cc.quantumOf d = max d.exp (qdOf cc d) := by
  obtain ⟨hp, hemin, hemin0, hemax, hf, hn, he, hnd, ha1, ha2⟩ := H
  have hnp := ndigits_pos d.coeff
  have hns := ctxRound_noSys_of cc hp d hf he (by omega) (by omega) (by omega) (by omega)
  exact ⟨hns, ctxRound_eq cc hp hemin (by omega) (by omega) d hf hns, by unfold Ctx.quantumOf qdOf Ctx.etiny; omega⟩

theorem shape_exact {cc : Ctx} {d : Dec} (H : RHyp cc d) (h : qdOf cc d ≤ d.exp) :
    (ctxRound cc d).1 = d ∧ (ctxRound cc d).2.inexact = false ∧ NoSys (ctxRound cc d).2 := by
  obtain ⟨hp, hemin, hemin0, hemax, hf, hn, he, hnd, ha1, ha2⟩ := H
  have hnp := ndigits_pos d.coeff
  unfold qdOf at h
  rw [ctxRound_keep cc hp hemin (by omega) (by omega) (by omega) d hf (by omega) (by unfold Ctx.etiny; omega) he
    (by omega)]
  split <;> exact ⟨rfl, rfl, rfl, rfl⟩

theorem shape_round {cc : Ctx} {d : Dec} (H : RHyp cc d) (h : d.exp < qdOf cc d) :
    (ctxRound cc d).1.form = .finite ∧ (ctxRound cc d).1.neg = d.neg ∧ NoSys (ctxRound cc d).2 ∧
    (qdOf cc d ≤ (ctxRound cc d).1.exp ∧ (ctxRound cc d).1.exp ≤ qdOf cc d + 1) ∧
    (ctxRound cc d).2.inexact = (d.coeff % 10 ^ (qdOf cc d - d.exp).toNat != 0) ∧
    (ctxRound cc d).2.subnormal = decide (d.exp + (ndigits d.coeff : Int) - 1 < cc.emin) ∧
    ((d.coeff % 10 ^ (qdOf cc d - d.exp).toNat = 0 ∨ cc.mode = .down) →
      (ctxRound cc d).1 = { d with coeff := d.coeff / 10 ^ (qdOf cc d - d.exp).toNat, exp := qdOf cc d }) := by
  obtain ⟨hns, e, hq⟩ := rhyp_eq H
  obtain ⟨hp, hemin, hemin0, hemax, hf, hn, he, hnd, ha1, ha2⟩ := H
  have hnp := ndigits_pos d.coeff
  rw [max_eq_right (Int.le_of_lt h)] at hq
  have hndk : ndigits d.coeff ≤ cc.prec + (qdOf cc d - d.exp).toNat := by unfold qdOf; omega
  have hqhi : qdOf cc d + (cc.prec : Int) ≤ 100000 := by unfold qdOf; omega
  -- more than `prec` digits after the rounding can only be the carry `10^prec`
  have hcar := roundQuot_carry cc.mode d.neg d.coeff (qdOf cc d - d.exp).toNat cc.prec hp hndk
  have hix := roundQuot_inexact cc.mode d.neg d.coeff (10 ^ (qdOf cc d - d.exp).toNat)
  have hdown := roundQuot_trunc cc.mode d.neg d.coeff (10 ^ (qdOf cc d - d.exp).toNat)
  have hlt : d.coeff / 10 ^ (qdOf cc d - d.exp).toNat < 10 ^ cc.prec := by
    rw [Nat.div_lt_iff_lt_mul (Nat.pow_pos (by decide)), ← Nat.pow_add]
    exact lt_pow_of_ndigits_le _ _ hndk
  have hs : decide (d.coeff ≠ 0 ∧ d.exp + (ndigits d.coeff : Int) - 1 < cc.emin) =
      decide (d.exp + (ndigits d.coeff : Int) - 1 < cc.emin) := by simp [hn]
  rw [e]
  unfold roundOut
  simp only [hq, hs, hix]
  generalize roundQuot cc.mode d.neg d.coeff (10 ^ (qdOf cc d - d.exp).toNat) = ra at hcar hix hdown ⊢
  have h3 : ¬ (d.coeff = 0 ∧ cc.emax < d.exp) := fun h => hn h.1
  -- what follows is arithmetic on `hqhi`, `hlt` and `hemax`; `omega` is slow under the other hypotheses
  clear hns e hq hs hndk ha1 ha2 hnd he h hemin hemin0
  by_cases hc : cc.prec < ndigits ra.1
  · obtain ⟨v1, v2⟩ := hcar hc
    have h1 : ¬ (ra.1 / 10 ≠ 0 ∧ cc.emax < qdOf cc d + 1 + (ndigits (ra.1 / 10) : Int) - 1) := by
      rw [v2, ndigits_pow]; omega
    simp only [if_pos hc]
    rw [if_neg h1, if_neg h3]
    refine ⟨hf, rfl, ⟨rfl, rfl⟩, ⟨by simp, by simp⟩, rfl, rfl, fun hh => ?_⟩
    have := hdown hh; omega
  · have hpm := ndigits_pos ra.1
    have h1 : ¬ (ra.1 ≠ 0 ∧ cc.emax < qdOf cc d + (ndigits ra.1 : Int) - 1) := by omega
    simp only [if_neg hc]
    rw [if_neg h1, if_neg h3]
    exact ⟨hf, rfl, ⟨rfl, rfl⟩, ⟨by simp, by simp⟩, rfl, rfl, fun hh => by rw [hdown hh]⟩

/-- a non-negative finite decimal of at most `P` digits, exponent at or above `Etiny`, inside the package limits -/
structure Grid (P : Nat) (emin : Int) (v : Dec) : Prop where
  hf : v.form = .finite
  hneg : v.neg = false
  hnd : ndigits v.coeff ≤ P
  he : -100000 ≤ v.exp
  ha : v.exp + (ndigits v.coeff : Int) ≤ 100000
  het : emin - (P : Int) + 1 ≤ v.exp

theorem grid_round_id (cc : Ctx) (hp : 1 ≤ cc.prec) (hemin : -100000 ≤ cc.emin) (hemin0 : cc.emin ≤ 0)
    (hemax : cc.emax = 100000) (v : Dec) (G : Grid cc.prec cc.emin v) :
    (ctxRound cc v).1 = v ∧ (ctxRound cc v).2.inexact = false ∧ NoSys (ctxRound cc v).2 := by
  rw [ctxRound_keep cc hp hemin (by omega) (by omega) (by omega) v G.hf G.hnd (by unfold Ctx.etiny; exact G.het) G.he
    (by have := G.ha; omega)]
  split <;> exact ⟨rfl, rfl, rfl, rfl⟩

/-- the final rounding (the caller's `MaxExponent` applied) of a grid decimal -/
theorem grid_final (cc : Ctx) (hWF : cc.WF) (v : Dec) (G : Grid cc.prec cc.emin v) :
    NoSys (ctxRound cc v).2 ∧ fits cc (ctxRound cc v).1 = true ∧ (ctxRound cc v).1.neg = false ∧
    (¬ (v.coeff ≠ 0 ∧ cc.emax < v.exp + (ndigits v.coeff : Int) - 1) →
      (ctxRound cc v).1.form = .finite ∧ magQ (ctxRound cc v).1 = magQ v ∧ (ctxRound cc v).2.inexact = false) ∧
    (v.coeff ≠ 0 ∧ cc.emax < v.exp + (ndigits v.coeff : Int) - 1 →
      (ctxRound cc v).1.form = .infinite ∧ (ctxRound cc v).2.inexact = true ∧
      (ctxRound cc v).2.overflow = true) := by
  obtain ⟨hf, hneg, hnd, he, ha, het⟩ := G
  obtain ⟨hp, hpe, hemax, hemin, hemin0⟩ := id hWF
  have hnp := ndigits_pos v.coeff
  have hns := ctxRound_noSys_of cc hp v hf he (by omega) (by omega) (by omega) (by omega)
  have e := ctxRound_eq cc hp hemin (by omega) (by omega) v hf hns
  rw [e, roundOut_grid cc v hnd het] at hns ⊢
  refine ⟨hns, ?_⟩
  -- the three branches of `roundOut_grid`: an infinity, a clamped zero, the decimal itself
  by_cases h1 : v.coeff ≠ 0 ∧ cc.emax < v.exp + (ndigits v.coeff : Int) - 1
  · rw [if_pos h1]
    exact ⟨by simp [fits], hneg, fun h => absurd h1 h, fun _ => ⟨rfl, rfl, rfl⟩⟩
  · rw [if_neg h1]
    by_cases h2 : v.coeff = 0 ∧ cc.emax < v.exp
    · rw [if_pos h2]
      refine ⟨?_, hneg, fun _ => ⟨hf, ?_, rfl⟩, fun h => absurd h h1⟩
      · simp [fits, hf, h2.1, ndigits_zero]; omega
      · exact (magQ_zero (x := { v with exp := cc.emax }) h2.1).trans (magQ_zero h2.1).symm
    · rw [if_neg h2]
      refine ⟨?_, hneg, fun _ => ⟨hf, rfl, by split <;> rfl⟩, fun h => absurd h h1⟩
      simp [fits, hf]
      refine ⟨⟨by omega, ?_⟩, by omega⟩
      by_cases h0 : v.coeff = 0
      · rw [h0, ndigits_zero]; have := fun h => h2 ⟨h0, h⟩; omega
      · exact Int.not_lt.1 fun h => h1 ⟨h0, by omega⟩

theorem adj_of_eq (a b : ℕ) (i j : ℤ) (ha : 0 < a) (hb : 0 < b)
    (h : (a : ℚ) * (10 : ℚ) ^ i = (b : ℚ) * (10 : ℚ) ^ j) :
    i + (ndigits a : ℤ) = j + (ndigits b : ℤ) := by
  have := IsAdj_unique (h ▸ IsAdj_digits a i ha) (IsAdj_digits b j hb)
  omega

end Apd.C11Q
