import ApdVerif.Model.Conv
import ApdVerif.Lemmas.Digits
import ApdVerif.Lemmas.BitLen
/-! # `NumDigits` counts the digits; `stripZeros` strips exactly the trailing zeros (core only)

The table path and the estimate path of `NumDigits` are each correct for every bit length: a magnitude of bit length
`bl` has as many digits as `2^(bl-1)` or one more, and no more than `2^bl` (`ndigits_bracket`). -/
namespace Apd

theorem ndigits_bracket (a bl : Nat) (hbl : 1 ≤ bl) (h1 : 2 ^ (bl - 1) ≤ a) (h2 : a < 2 ^ bl) :
    0 < a ∧ ndigits (2 ^ (bl - 1)) ≤ ndigits a ∧ ndigits a ≤ ndigits (2 ^ bl) ∧
      ndigits (2 ^ bl) ≤ ndigits (2 ^ (bl - 1)) + 1 := by
  have hpos : 0 < 2 ^ (bl - 1) := Nat.pow_pos (by decide)
  have ha : 0 < a := Nat.lt_of_lt_of_le hpos h1
  have e2 : 2 ^ bl = 2 * 2 ^ (bl - 1) := by
    rw [← Nat.pow_succ']; congr 1; omega
  exact ⟨ha, ndigits_mono hpos h1, ndigits_mono ha (Nat.le_of_lt h2), e2 ▸ ndigits_double _ hpos⟩

/-- the ≤128-bit path of `numDigitsImpl` at a positive magnitude `a` of bit length `bl`: entry `i` of the table holds
`ndigits (2^(i-1))` and `10^` that, exactly as table.go -/
theorem numDigitsTable_correct (a bl : Nat) (hbl : 1 ≤ bl) (h1 : 2 ^ (bl - 1) ≤ a) (h2 : a < 2 ^ bl) :
    (if bl < 128 ∧ tblDigits (bl + 1) = tblDigits bl then tblDigits bl
      else if a < tblBorder bl then tblDigits bl else tblDigits bl + 1) = ndigits a := by
  obtain ⟨ha, lo, hi, hi2⟩ := ndigits_bracket a bl hbl h1 h2
  have key := ndigits_le_iff a (ndigits (2 ^ (bl - 1))) ha
  unfold tblBorder tblDigits
  rw [Nat.add_sub_cancel]
  split
  · omega
  · split <;> omega

theorem numDigitsEst_correct (a bl : Nat) (hbl : 1 ≤ bl) (h1 : 2 ^ (bl - 1) ≤ a) (h2 : a < 2 ^ bl) :
    (if a ≥ 10 ^ estDigits bl then estDigits bl + 1 else estDigits bl) = ndigits a := by
  obtain ⟨ha, lo, hi, hi2⟩ := ndigits_bracket a bl hbl h1 h2
  have key := ndigits_le_iff a (ndigits (2 ^ bl) - 1) ha
  have hp := ndigits_pos (2 ^ bl)
  unfold estDigits
  split <;> omega

end Apd

namespace Apd.C19L
theorem bitLen_spec (a : Nat) (ha : a ≠ 0) :
    1 ≤ bitLen a ∧ 2 ^ (bitLen a - 1) ≤ a ∧ a < 2 ^ bitLen a := bitLenExpr_spec a ha

theorem stripZerosAux_spec : ∀ (fuel n k : Nat), 0 < n → n ≤ fuel →
    (stripZerosAux fuel n k).1 * 10 ^ ((stripZerosAux fuel n k).2 - k) = n ∧
    k ≤ (stripZerosAux fuel n k).2 ∧ (stripZerosAux fuel n k).1 % 10 ≠ 0 := by
  intro fuel
  induction fuel with
  | zero => intro n k h1 h2; omega
  | succ f ih =>
    intro n k hn hf
    simp only [stripZerosAux]
    by_cases hm : n % 10 = 0
    · have hne : n ≠ 0 := by omega
      have hc : (n != 0 && n % 10 == 0) = true := by simp [hne, hm]
      rw [if_pos hc]
      have hq : 0 < n / 10 := by omega
      have hle : n / 10 ≤ f := by omega
      obtain ⟨a, b, c⟩ := ih (n / 10) (k + 1) hq hle
      refine ⟨?_, by omega, c⟩
      generalize (stripZerosAux f (n / 10) (k + 1)).1 = s at *
      generalize (stripZerosAux f (n / 10) (k + 1)).2 = t at *
      have : t - k = (t - (k + 1)) + 1 := by omega
      rw [this, Nat.pow_succ, ← Nat.mul_assoc, a]
      omega
    · have hc : ¬ (n != 0 && n % 10 == 0) = true := by simp [hm]
      rw [if_neg hc]
      simp [hm]

theorem stripZeros_spec (n : Nat) (hn : n ≠ 0) :
    (stripZeros n).1 * 10 ^ (stripZeros n).2 = n ∧ (stripZeros n).1 % 10 ≠ 0 := by
  have := stripZerosAux_spec n n 0 (by omega) (Nat.le_refl n)
  unfold stripZeros
  simpa using And.intro this.1 this.2.2

end Apd.C19L
