import ApdVerif.Imp.Ops
import ApdVerif.Spec.Defs
import ApdVerif.Lemmas.Flags
import ApdVerif.Lemmas.SetExponent
import ApdVerif.Lemmas.FootLemmas
import ApdVerif.Lemmas.RunSimp
import Mathlib.Tactic.SplitIfs
/-!
# Run lemmas for the store-level programs of `Imp/Ops.lean`

Each building block gets an equation `run (prog …) h = (value-level result, h.set d (value-level destination))`
that holds for EVERY choice of cells (so for every aliasing pattern); they are the rewrite rules for calls, collected
in the simp set `prog_run` (`Lemmas/RunSimp`).
The contract of a `Context` method is `OpRun p d h m`: the run ends in the model's outcome `m` with the destination
`d` set; `OpSpec` is the form the `C05_*` theorems state.
The frame of the two-output `Modf` comes from its footprint (`Lemmas/FootLemmas`).
-/
namespace Apd.Imp
open Apd.Cond

/-- `by_cases`, then rewrite every `if` on that condition; a branch whose sides are now identical is closed (a `bcases`
line without bullets has closed the true branch, or both) -/
macro "bcases " h:ident " : " t:term : tactic =>
  `(tactic| by_cases $h : $t <;>
      simp only [$h:ident, if_true, if_false, Bool.false_eq_true, Bool.true_and, Bool.false_and, Bool.and_true,
        Bool.and_false, ↓reduceIte])

/-- `simp only` with the given facts plus Boolean / `if` clean-up -/
macro "bsimp " "[" ts:Lean.Parser.Tactic.simpLemma,* "]" : tactic =>
  `(tactic| simp only [$ts,*, Bool.or_self, Bool.or_true, Bool.true_or, Bool.or_false, Bool.false_or,
      Bool.and_self, Bool.false_and, Bool.true_and, Bool.and_false, Bool.and_true, if_true, if_false,
      Bool.false_eq_true, Bool.not_true, Bool.not_false, ↓reduceIte])

attribute [prog_run] run_bind run_pure run_ret run_ite Heap.set_same Heap.set_set

@[simp, prog_run] theorem Src.val_cell (c : Cell) (h : Heap) : (Src.cell c).val h = h c := rfl
@[simp, prog_run] theorem Src.val_const (v : Dec) (h : Heap) : (Src.const v).val h = v := rfl

theorem Src.val_set_of_ne {s : Src} {d : Cell} (hne : s ≠ .cell d) (h : Heap) (v : Dec) :
    s.val (h.set d v) = s.val h := by
  cases s with
  | cell c =>
    have : c ≠ d := fun e => hne (by rw [e])
    simp [Heap.set_other, this]
  | const w => rfl

@[simp, prog_run] theorem Src.val_set_val_self (s : Src) (d : Cell) (h : Heap) : s.val (h.set d (s.val h)) = s.val h := by
  by_cases hs : s = .cell d
  · subst hs; simp
  · exact Src.val_set_of_ne hs h _

@[simp, prog_run] theorem run_rdForm (s : Src) (h : Heap) : run (rdForm s) h = ((s.val h).form, h) := by cases s <;> rfl
@[simp, prog_run] theorem run_rdNeg (s : Src) (h : Heap) : run (rdNeg s) h = ((s.val h).neg, h) := by cases s <;> rfl
@[simp, prog_run] theorem run_rdExp (s : Src) (h : Heap) : run (rdExp s) h = ((s.val h).exp, h) := by cases s <;> rfl
@[simp, prog_run] theorem run_rdCoeff (s : Src) (h : Heap) : run (rdCoeff s) h = ((s.val h).coeff, h) := by cases s <;> rfl

@[simp, prog_run] theorem run_wrForm (d : Cell) (v : Form) (h : Heap) :
    run (wrForm d v) h = ((), h.set d { h d with form := v }) := by
  show ((), upd h d _) = _; rw [upd_eq_set]
@[simp, prog_run] theorem run_wrNeg (d : Cell) (v : Bool) (h : Heap) :
    run (wrNeg d v) h = ((), h.set d { h d with neg := v }) := by
  show ((), upd h d _) = _; rw [upd_eq_set]
@[simp, prog_run] theorem run_wrExp (d : Cell) (v : Int) (h : Heap) :
    run (wrExp d v) h = ((), h.set d { h d with exp := v }) := by
  show ((), upd h d _) = _; rw [upd_eq_set]
@[simp, prog_run] theorem run_wrCoeff (d : Cell) (v : Nat) (h : Heap) :
    run (wrCoeff d v) h = ((), h.set d { h d with coeff := v }) := by
  show ((), upd h d _) = _; rw [upd_eq_set]

/-- value of a `*BigInt` returned by `upscale(a, b, &tmp)` -/
def BRef.get (a b : Src) : BRef → Heap → Nat
  | .val n, _ => n
  | .fst, h => (a.val h).coeff
  | .snd, h => (b.val h).coeff

@[simp, prog_run] theorem run_rdB (a b : Src) (r : BRef) (h : Heap) : run (rdB a b r) h = (r.get a b h, h) := by
  cases r <;> simp [rdB, BRef.get]

@[simp] theorem BRef.get_val (a b : Src) (n : Nat) (h : Heap) : (BRef.val n).get a b h = n := rfl
@[simp] theorem BRef.get_fst (a b : Src) (h : Heap) : BRef.fst.get a b h = (a.val h).coeff := rfl
@[simp] theorem BRef.get_snd (a b : Src) (h : Heap) : BRef.snd.get a b h = (b.val h).coeff := rfl

theorem ite_pair_heap {α : Type} (c : Prop) [Decidable c] (a b : α) (h : Heap) :
    (if c then (a, h) else (b, h)) = ((if c then a else b), h) := by split <;> rfl

@[simp, prog_run] theorem run_signP (s : Src) (h : Heap) : run (signP s) h = ((s.val h).sign, h) := by
  unfold signP Dec.sign
  simp only [prog_run]
  cases hf : (s.val h).form <;> simp
  by_cases hc : (s.val h).coeff = 0 <;> simp [hc]

@[simp, prog_run] theorem run_isZeroP (s : Src) (h : Heap) : run (isZeroP s) h = ((s.val h).isZero, h) := by
  unfold isZeroP
  simp only [prog_run, sign_beq_zero]

@[simp, prog_run] theorem run_numDigitsP (s : Src) (h : Heap) : run (numDigitsP s) h = (ndigits (s.val h).coeff, h) := by
  unfold numDigitsP
  simp only [prog_run]

@[simp, prog_run] theorem run_isNaNP (s : Src) (h : Heap) : run (isNaNP s) h = ((s.val h).isNaN, h) := by
  unfold isNaNP Dec.isNaN
  simp only [prog_run]
  cases (s.val h).form <;> simp

@[simp, prog_run] theorem run_shouldSetAsNaNP (x : Src) (y : Option Src) (h : Heap) :
    run (shouldSetAsNaNP x y) h = (shouldSetAsNaN (x.val h) (y.map (·.val h)), h) := by
  unfold shouldSetAsNaNP shouldSetAsNaN
  simp only [prog_run]
  cases y with
  | none => cases (x.val h).isNaN <;> simp
  | some y => cases (x.val h).isNaN <;> simp

/-- `cmpP` is the text of `Dec.cmp` except that the final sign flip stands inside the two scaling branches -/
@[simp, prog_run] theorem run_cmpP (d x : Src) (h : Heap) : run (cmpP d x) h = ((d.val h).cmp (x.val h), h) := by
  unfold cmpP Dec.cmp
  simp only [prog_run, ite_pair_heap]
  by_cases hlt : (d.val h).exp < (x.val h).exp <;> simp only [hlt, if_true, if_false]

@[simp, prog_run] theorem run_setDec (d : Cell) (x : Src) (h : Heap) : run (setDec d x) h = ((), h.set d (x.val h)) := by
  unfold setDec
  by_cases hx : x = .cell d
  · subst hx; simp
  · simp [hx, Src.val_set_of_ne hx]

@[simp, prog_run] theorem run_setInt64P (d : Cell) (v : Int) (h : Heap) :
    run (setInt64P d v) h = ((), h.set d (decOfInt v)) := by
  unfold setInt64P decOfInt
  simp

@[simp, prog_run] theorem run_negDec (d : Cell) (x : Src) (h : Heap) : run (negDec d x) h = ((), h.set d (x.val h).negD) := by
  unfold negDec Dec.negD
  simp only [prog_run]
  split_ifs <;> rfl

@[simp, prog_run] theorem run_absDec (d : Cell) (x : Src) (h : Heap) : run (absDec d x) h = ((), h.set d (x.val h).absD) := by
  unfold absDec Dec.absD
  simp

theorem stripZerosAux_count (fuel n k : Nat) :
    k ≤ (stripZerosAux fuel n k).2 ∧ ((stripZerosAux fuel n k).2 = k → (stripZerosAux fuel n k).1 = n) := by
  induction fuel generalizing n k with
  | zero => simp [stripZerosAux]
  | succ f ih =>
    unfold stripZerosAux
    split
    · have := ih (n / 10) (k + 1)
      constructor
      · omega
      · intro e; omega
    · simp

@[prog_run] theorem run_reduceDec (d : Cell) (x : Src) (h : Heap) :
    run (reduceDec d x) h = (((reduceD (x.val h)).2 : Int), h.set d (reduceD (x.val h)).1) := by
  unfold reduceDec reduceD
  simp only [prog_run]
  by_cases h1 : ((x.val h).form != Form.finite) = true
  · simp [h1]
  · simp only [h1]
    have hf : (x.val h).form = .finite := by simpa using h1
    by_cases h2 : (x.val h).coeff = 0
    · have hs : (x.val h).sign = 0 := by simp [Dec.sign, hf, h2]
      simp [hs, h2, decOfInt]
    · have hs : (x.val h).sign ≠ 0 := by
        unfold Dec.sign; simp [hf, h2]; cases (x.val h).neg <;> simp
      have hn : decide ((x.val h).sign = -1) = (x.val h).neg := by
        unfold Dec.sign; simp [hf, h2]
      simp only [hs, if_false, hn]
      have hc : ((x.val h).coeff == 0) = false := by simpa using h2
      simp only [hc]
      by_cases h3 : (x.val h).coeff < 2 ^ 64
      · simp only [h3, if_true]
        by_cases h4 : ((stripZeros (x.val h).coeff).2 != 0) = true
        · simp [h4]
        · simp only [h4]
          have h5 : (stripZeros (x.val h).coeff).2 = 0 := by simpa using h4
          have h6 : (stripZeros (x.val h).coeff).1 = (x.val h).coeff :=
            (stripZerosAux_count _ _ _).2 h5
          simp [h5, h6]
      · simp [h3]

@[prog_run] theorem run_modfLocFrac (d : Src) (i : Cell) (h : Heap) :
    run (modfLocFrac d i) h = ((modf (d.val h)).2, h.set i (modf (d.val h)).1) := by
  unfold modfLocFrac modf
  simp only [prog_run]
  by_cases h1 : (d.val h).exp > 0
  · simp only [h1, if_true]
  · simp only [h1, if_false]
    by_cases h2 : -(d.val h).exp > (ndigits (d.val h).coeff : Int)
    · simp only [h2, if_true]
    · simp only [h2, if_false]
      rcases Decidable.em (d = .cell i) with rfl | hd
      · simp
      · simp [Src.val_set_of_ne hd]

theorem modfP_frame (d : Src) (integ frac : Option Cell) (h : Heap) (c : Cell) (hi : integ ≠ some c)
    (hf : frac ≠ some c) : (run (modfP d integ frac) h).2 c = h c :=
  (Foot_modfP (R := fun _ => True) (W := fun c => integ = some c ∨ frac = some c) (d := d)
    (fun _ _ => Or.inl trivial) (fun _ => Or.inl) (fun _ => Or.inr)).writesOnly.frame h c (fun hc => hc.elim hi hf)

theorem modfP_spec (d : Src) (integ frac : Option Cell) (h : Heap)
    (hne : ∀ i, integ = some i → frac ≠ some i) :
    let h' := (run (modfP d integ frac) h).2
    (∀ i, integ = some i → h' i = (modf (d.val h)).1) ∧
    (∀ f, frac = some f → h' f = (modf (d.val h)).2) ∧
    ∀ c, integ ≠ some c → frac ≠ some c → h' c = h c := by
  suffices hv : (∀ i, integ = some i → (run (modfP d integ frac) h).2 i = (modf (d.val h)).1) ∧
      (∀ f, frac = some f → (run (modfP d integ frac) h).2 f = (modf (d.val h)).2) from
    ⟨hv.1, hv.2, modfP_frame d integ frac h⟩
  unfold modfP modf
  rcases integ with _ | i <;> rcases frac with _ | f <;>
    simp only [prog_run]
  · simp
  · by_cases h1 : (d.val h).exp > 0
    · simp [h1]
    · by_cases h2 : -(d.val h).exp > (ndigits (d.val h).coeff : Int) <;> simp [h1, h2]
  · by_cases h1 : (d.val h).exp > 0
    · simp [h1]
    · by_cases h2 : -(d.val h).exp > (ndigits (d.val h).coeff : Int)
      · simp [h1, h2]
      · rcases Decidable.em (d = .cell i) with rfl | hd
        · simp only [Src.val_cell] at h1 h2
          simp [h1, h2]
        · simp [h1, h2, Src.val_set_of_ne hd]
  · have hi : i ≠ f := fun e => hne i rfl (e ▸ rfl)
    have hf : f ≠ i := Ne.symm hi
    by_cases h1 : (d.val h).exp > 0
    · simp [h1, Heap.set_other _ _ hi]
    · by_cases h2 : -(d.val h).exp > (ndigits (d.val h).coeff : Int)
      · simp [h1, h2, Heap.set_other _ _ hf]
      · rcases Decidable.em (d = .cell i) with rfl | hd
        · simp only [Src.val_cell] at h1 h2
          simp [h1, h2, Heap.set_other _ _ hi]
        · simp [h1, h2, Src.val_set_of_ne hd, Heap.set_other _ _ hi]

@[simp, prog_run] theorem run_seFinishP (d : Cell) (r : Int) (res : Cond) (h : Heap) :
    run (seFinishP d r res) h = ((seFinish (h d) r res).2, h.set d (seFinish (h d) r res).1) := by
  unfold seFinishP seFinish
  simp

theorem run_setExponentP (c : Ctx) (d : Cell) (nd : Option Nat) (res : Cond) (xs : List Int) (h : Heap)
    (hnd : ∀ n, nd = some n → n = ndigits (h d).coeff) :
    run (setExponentP c d nd res xs) h =
      ((setExponent c (h d) res xs).2, h.set d (setExponent c (h d) res xs).1) := by
  have hnd' : run (ndOrCountP d nd) h = (ndigits (h d).coeff, h) := by
    unfold ndOrCountP
    cases nd with
    | none => simp
    | some n => simp [hnd n rfl]
  unfold setExponentP setExponent
  cases checkXs xs with
  | some fl => simp
  | none =>
    simp only [prog_run, hnd']
    by_cases c1 : sumInts xs + ↑(ndigits (h d).coeff) - 1 > MaxExponent
    · simp only [c1, if_true, Heap.set_self]
    simp only [c1, if_false]
    by_cases c2 : sumInts xs + ↑(ndigits (h d).coeff) - 1 < MinExponent
    · simp only [c2, if_true, Heap.set_self]
    simp only [c2, if_false]
    by_cases c3 : sumInts xs + ↑(ndigits (h d).coeff) - 1 < c.emin
    · simp only [c3, if_true]
      by_cases c4 : sumInts xs < c.emin - (↑c.prec - 1)
      · simp only [c4, if_true]
      · simp only [c4, if_false]
    simp only [c3, if_false]
    by_cases c5 : sumInts xs + ↑(ndigits (h d).coeff) - 1 > c.emax
    · simp only [c5, if_true]
      by_cases c6 : (h d).isZero = true
      · simp only [c6, if_true]
      · simp only [c6, if_false, Bool.false_eq_true]
    · simp only [c5, if_false]

@[simp, prog_run] theorem run_setExponentP_none (c : Ctx) (d : Cell) (res : Cond) (xs : List Int) (h : Heap) :
    run (setExponentP c d none res xs) h =
      ((setExponent c (h d) res xs).2, h.set d (setExponent c (h d) res xs).1) :=
  run_setExponentP c d none res xs h (fun _ e => by cases e)

theorem run_setExponentP_some (c : Ctx) (d : Cell) (n : Nat) (res : Cond) (xs : List Int) (h : Heap)
    (hn : n = ndigits (h d).coeff) :
    run (setExponentP c d (some n) res xs) h =
      ((setExponent c (h d) res xs).2, h.set d (setExponent c (h d) res xs).1) :=
  run_setExponentP c d (some n) res xs h (fun _ e => by cases e; exact hn)

@[simp, prog_run] theorem run_roundTailP (c : Ctx) (d : Cell) (res : Cond) (yd : Nat × Int) (h : Heap) :
    run (roundTailP c d res yd) h =
      (res ||| (setExponent c { h d with coeff := yd.1 } res [(h d).exp, yd.2]).2,
       h.set d (setExponent c { h d with coeff := yd.1 } res [(h d).exp, yd.2]).1) := by
  unfold roundTailP
  simp

/-- the finite part of `Rounder.Round`, run right after `d.Set(x)` -/
theorem run_roundFinP (c : Ctx) (d : Cell) (x : Src) (dis : Bool) (h : Heap) :
    run (roundFinP c d x dis) (h.set d (x.val h)) =
      ((roundXFin c (x.val h) dis).2, h.set d (roundXFin c (x.val h) dis).1) := by
  have hx : x.val (h.set d (x.val h)) = x.val h := Src.val_set_val_self x d h
  unfold roundFinP roundXFin
  simp only [prog_run, hx]
  have hse : ∀ res xs, run (setExponentP c d (some (ndigits (x.val h).coeff)) res xs) (h.set d (x.val h))
      = ((setExponent c (x.val h) res xs).2, h.set d (setExponent c (x.val h) res xs).1) := by
    intro res xs; rw [run_setExponentP_some _ _ _ _ _ _ (by simp)]; simp
  simp only [hse]
  bcases c1 : (dis && c.prec == 0) = true
  bcases c2 : ((x.val h).sign != 0 && decide ((x.val h).exp + ↑(ndigits (x.val h).coeff) - 1 < c.emin)) = true
  bcases c3 : (ndigits (x.val h).coeff : Int) - ↑c.prec > 0
  bcases c4 : (ndigits (x.val h).coeff : Int) - ↑c.prec > MaxExponent
  bcases c5 : ((x.val h).coeff % 10 ^ (↑(ndigits (x.val h).coeff) - (c.prec : Int)).toNat != 0) = true
  bcases c6 : shouldAddOne c.mode ((x.val h).coeff / 10 ^ (↑(ndigits (x.val h).coeff) - (c.prec : Int)).toNat)
                      (x.val h).neg
                      (cmpNat (2 * ((x.val h).coeff % 10 ^ (↑(ndigits (x.val h).coeff) - (c.prec : Int)).toNat))
                        (10 ^ (↑(ndigits (x.val h).coeff) - (c.prec : Int)).toNat)) = true

@[prog_run] theorem run_roundP (c : Ctx) (d : Cell) (x : Src) (dis : Bool) (h : Heap) :
    run (roundP c d x dis) h = ((roundX c (x.val h) dis).2, h.set d (roundX c (x.val h) dis).1) := by
  unfold roundP roundX
  simp only [prog_run, run_roundFinP]
  bcases hf : ((x.val h).form != Form.finite) = true

theorem run_setAsNaNP (c : Ctx) (d : Cell) (x : Src) (y : Option Src) (h : Heap)
    (hn : shouldSetAsNaN (x.val h) (y.map (·.val h)) = true) :
    run (setAsNaNP c d x y) h =
      (((setAsNaN c (x.val h) (y.map (·.val h))).fl, (setAsNaN c (x.val h) (y.map (·.val h))).err),
       h.set d (setAsNaN c (x.val h) (y.map (·.val h))).d) := by
  unfold setAsNaNP setAsNaN
  unfold shouldSetAsNaN Dec.isNaN at hn
  cases y with
  | none =>
    simp only [prog_run, Option.map_none] at hn ⊢
    cases hxf : (x.val h).form <;> simp [hxf] at hn ⊢
  | some y =>
    simp only [prog_run, Option.map_some] at hn ⊢
    cases hxf : (x.val h).form <;> cases hyf : (y.val h).form <;> simp [hxf, hyf] at hn ⊢

def OpRun (p : Prog Res) (d : Cell) (h : Heap) (m : Out) : Prop :=
  ∃ fl aux v, run p h = ((fl, m.err, aux), h.set d v) ∧ (Delivered m.err → fl = m.fl ∧ aux = m.aux ∧ v = m.d)

/-- the contract of `OpRun` at a result pair (`OpRun p d h m` is `SRes (run p h) d h m` by unfolding) -/
def SRes (r : Res × Heap) (d : Cell) (h : Heap) (m : Out) : Prop :=
  ∃ fl aux v, r = ((fl, m.err, aux), h.set d v) ∧ (Delivered m.err → fl = m.fl ∧ aux = m.aux ∧ v = m.d)

theorem SRes.exact (d : Cell) (h : Heap) (m : Out) : SRes ((m.fl, m.err, m.aux), h.set d m.d) d h m :=
  ⟨_, _, _, rfl, fun _ => ⟨rfl, rfl, rfl⟩⟩

theorem SRes.of_special {d : Cell} {h : Heap} {o : Out} {v : Dec} (ha : o.aux = 0) (hv : Delivered o.err → v = o.d) :
    SRes ((o.fl, o.err, 0), h.set d v) d h o := ⟨_, _, _, rfl, fun hd => ⟨rfl, ha.symm, hv hd⟩⟩

theorem SRes.undelivered (d : Cell) (h : Heap) {e : ErrKind} (he : ¬ Delivered e) (fl : Cond) (aux : Int) :
    SRes ((fl, e, aux), h) d h (failWith e) := ⟨fl, aux, h d, by simp [failWith], fun hd => absurd hd he⟩

/-- close an `OpRun` goal whose two sides are syntactically the model's outcome -/
macro "op_exact" : tactic => `(tactic| exact ⟨_, _, _, rfl, fun _ => ⟨rfl, rfl, rfl⟩⟩)

/-- the statement of C05 / C06 for one run -/
def OpSpec (p : Prog Res) (d : Cell) (h : Heap) (m : Out) : Prop :=
  (run p h).1.2.1 = m.err ∧
  (Delivered (run p h).1.2.1 → (run p h).1.1 = m.fl ∧ (run p h).2 d = m.d ∧ (run p h).1.2.2 = m.aux) ∧
  ∀ cell, cell ≠ d → (run p h).2 cell = h cell

theorem OpRun.spec {p : Prog Res} {d : Cell} {h : Heap} {m : Out} (hr : OpRun p d h m) : OpSpec p d h m := by
  obtain ⟨fl, aux, v, hv, hd⟩ := hr
  unfold OpSpec
  rw [hv]
  refine ⟨rfl, fun hdel => ?_, fun cell hc => Heap.set_other _ _ hc⟩
  obtain ⟨h1, h2, h3⟩ := hd hdel
  simp [h1, h2, h3]

theorem not_delivered_sys : ¬ Delivered ErrKind.sys := by simp [Delivered]
theorem not_delivered_zeroPrec : ¬ Delivered ErrKind.zeroPrec := by simp [Delivered]

@[simp, prog_run] theorem run_retFlags (c : Ctx) (res : Cond) (h : Heap) :
    run (retFlags c res) h = ((res, goError c.traps res, 0), h) := rfl

@[simp] theorem setAsNaN_aux (c : Ctx) (x : Dec) (y : Option Dec) : (setAsNaN c x y).aux = 0 := by
  unfold setAsNaN; simp only [apply_ite Out.aux, ite_self]

theorem OpRun.nanPrologue (c : Ctx) (d : Cell) (x : Src) (y : Option Src) (h : Heap) {rest : Prog Res} {m : Out}
    (hrest : OpRun rest d h m) :
    OpRun (do
        let isn ← shouldSetAsNaNP x y
        if isn then do
          let r ← setAsNaNP c d x y
          pure (r.1, r.2, 0)
        else rest) d h
      (if shouldSetAsNaN (x.val h) (y.map (·.val h)) then setAsNaN c (x.val h) (y.map (·.val h)) else m) := by
  unfold OpRun at hrest ⊢
  simp only [prog_run]
  by_cases hn : shouldSetAsNaN (x.val h) (y.map (·.val h)) = true
  · simp only [hn, if_true, run_setAsNaNP c d x y h hn]
    exact ⟨_, _, _, rfl, fun _ => ⟨rfl, by simp, rfl⟩⟩
  · simp only [hn, if_false, Bool.false_eq_true]
    exact hrest

/-- the contract of a specials prologue (`quoSpecials`, `toIntegralSpecials`, …), `r` its run and `s` the model's
answer: no special case and nothing written, or the special outcome `o` returned and written to `d` (on the
undelivered exit of `quoSpecials` nothing is written) -/
def SpRun (r : Option (Cond × ErrKind) × Heap) (d : Cell) (h : Heap) (s : Option Out) : Prop :=
  (s = none ∧ r = (none, h)) ∨
  ∃ o v, s = some o ∧ r = (some (o.fl, o.err), h.set d v) ∧ (Delivered o.err → v = o.d) ∧ o.aux = 0

theorem OpRun.specials {sp : Prog (Option (Cond × ErrKind))} {rest : Prog Res} {d : Cell} {h : Heap}
    {s : Option Out} {m : Out} (hsp : SpRun (run sp h) d h s) (hrest : OpRun rest d h m) :
    OpRun (do
        let r ← sp
        match r with
        | some r => pure (r.1, r.2, 0)
        | none => rest) d h
      (match (generalizing := false) s with
       | some o => o
       | none => m) := by
  unfold OpRun
  rcases hsp with ⟨hs, hr⟩ | ⟨o, v, hs, hr, hd, ha⟩
  · simp only [run_bind, hr, hs]; exact hrest
  · simp only [run_bind, hr, hs, run_pure]
    exact SRes.of_special ha hd

theorem Src.proj_set {α : Type} (f : Dec → α) (s : Src) (d : Cell) (h : Heap) (v : Dec) (hv : f v = f (h d)) :
    f (s.val (h.set d v)) = f (s.val h) := by
  by_cases hs : s = .cell d
  · subst hs; simpa using hv
  · rw [Src.val_set_of_ne hs]

theorem Src.coeff_set (s : Src) (d : Cell) (h : Heap) (v : Dec) (hv : v.coeff = (h d).coeff) :
    (s.val (h.set d v)).coeff = (s.val h).coeff := Src.proj_set Dec.coeff s d h v hv
theorem Src.exp_set (s : Src) (d : Cell) (h : Heap) (v : Dec) (hv : v.exp = (h d).exp) :
    (s.val (h.set d v)).exp = (s.val h).exp := Src.proj_set Dec.exp s d h v hv
theorem Src.neg_set (s : Src) (d : Cell) (h : Heap) (v : Dec) (hv : v.neg = (h d).neg) :
    (s.val (h.set d v)).neg = (s.val h).neg := Src.proj_set Dec.neg s d h v hv
theorem Src.form_set (s : Src) (d : Cell) (h : Heap) (v : Dec) (hv : v.form = (h d).form) :
    (s.val (h.set d v)).form = (s.val h).form := Src.proj_set Dec.form s d h v hv

/-- `upscale` on operand pointers: the value-level `upscale`, returned as `*BigInt`s whose values stay right
as long as the operands' coefficients are not overwritten. -/
theorem run_upscaleP (a b : Src) (h : Heap) :
    (upscale (a.val h) (b.val h) = none ∧ run (upscaleP a b) h = (none, h)) ∨
    ∃ ra rb av bv s, upscale (a.val h) (b.val h) = some (av, bv, s) ∧
      run (upscaleP a b) h = (some (ra, rb, s), h) ∧
      (∀ h' : Heap, (a.val h').coeff = (a.val h).coeff → ra.get a b h' = av) ∧
      (∀ h' : Heap, (b.val h').coeff = (b.val h).coeff → rb.get a b h' = bv) := by
  unfold upscaleP upscale
  simp only [prog_run]
  bcases h1 : ((a.val h).exp == (b.val h).exp) = true
  · exact Or.inr ⟨_, _, _, _, _, rfl, rfl, fun h' e => e, fun h' e => e⟩
  bcases h2 : (a.val h).exp < (b.val h).exp
  · bcases h3 : (b.val h).exp - (a.val h).exp > MaxExponent
    · simp
    · exact Or.inr ⟨_, _, _, _, _, rfl, rfl, fun h' e => e, fun h' _ => rfl⟩
  · bcases h3 : (a.val h).exp - (b.val h).exp > MaxExponent
    · simp
    · exact Or.inr ⟨_, _, _, _, _, rfl, rfl, fun h' _ => rfl, fun h' e => e⟩

/-- the exact sum / difference formed by `Context.add` before rounding -/
def addCoreD (m : Mode) (xn yn : Bool) (a b : Nat) (s : Int) : Dec :=
  if xn == yn then { form := .finite, neg := xn, exp := s, coeff := a + b }
  else if a < b then { form := .finite, neg := !xn, exp := s, coeff := b - a }
  else if a == b then { form := .finite, neg := (m == .floor), exp := s, coeff := 0 }
  else { form := .finite, neg := xn, exp := s, coeff := a - b }

theorem run_addFiniteP (c : Ctx) (d : Cell) (x y : Src) (xn yn : Bool) (ra rb : BRef) (s : Int) (h : Heap)
    (a b : Nat)
    (ha : ∀ v : Dec, v.coeff = (h d).coeff → ra.get x y (h.set d v) = a)
    (hb : ∀ v : Dec, v.coeff = (h d).coeff → rb.get x y (h.set d v) = b) :
    run (addFiniteP c d x y xn yn (ra, rb, s)) h =
      (((ctxRound c (addCoreD c.mode xn yn a b s)).2, goError c.traps (ctxRound c (addCoreD c.mode xn yn a b s)).2, 0),
       h.set d (ctxRound c (addCoreD c.mode xn yn a b s)).1) := by
  have ha' := ha { h d with neg := xn } rfl
  have hb' := hb { h d with neg := xn } rfl
  unfold addFiniteP addCoreD ctxRound
  simp only [prog_run, ha', hb']
  bcases h1 : (xn == yn) = true
  · simp
  bcases h2 : a < b
  · simp
  bcases h3 : (a == b) = true
  · have : a - b = 0 := by have := eq_of_beq h3; omega
    simp [this]
  · have : ((a - b == 0) = true) = False := by
      have : a ≠ b := fun e => h3 (by simp [e])
      simp; omega
    simp [this]

theorem not_noSys_over : ¬ NoSys (cSysOverflow ||| cOverflow) := by
  intro h; exact absurd h.1 (by decide)
theorem not_noSys_under : ¬ NoSys (cSysUnderflow ||| cUnderflow) := by
  intro h; exact absurd h.2 (by decide)

theorem setExponent_exp (c : Ctx) (d : Dec) (e : Int) (res : Cond) (xs : List Int) :
    (setExponent c { d with exp := e } res xs).2 = (setExponent c d res xs).2 ∧
    (NoSys (setExponent c d res xs).2 →
      (setExponent c { d with exp := e } res xs).1 = (setExponent c d res xs).1) := by
  unfold setExponent
  cases hx : checkXs xs with
  | some fl =>
    simp only []
    refine ⟨trivial, fun hns => ?_⟩
    exact absurd hns (checkXs_some_exit hx).not_noSys
  | none =>
    simp only [Dec.isZero]
    bcases c1 : sumInts xs + ↑(ndigits d.coeff) - 1 > MaxExponent
    · exact ⟨trivial, fun hns => absurd hns not_noSys_over⟩
    bcases c2 : sumInts xs + ↑(ndigits d.coeff) - 1 < MinExponent
    · exact ⟨trivial, fun hns => absurd hns not_noSys_under⟩
    bcases c3 : sumInts xs + ↑(ndigits d.coeff) - 1 < c.emin
    · bcases c4 : sumInts xs < c.emin - (↑c.prec - 1)
      · exact ⟨rfl, fun _ => rfl⟩
      · exact ⟨rfl, fun _ => rfl⟩
    bcases c5 : sumInts xs + ↑(ndigits d.coeff) - 1 > c.emax
    · bcases c6 : (d.form == Form.finite && d.coeff == 0) = true
      · exact ⟨rfl, fun _ => rfl⟩
      · exact ⟨rfl, fun _ => rfl⟩
    · exact ⟨rfl, fun _ => rfl⟩

@[simp] theorem Cond.or_sysOverflow (a b : Cond) : (a ||| b).sysOverflow = (a.sysOverflow || b.sysOverflow) := rfl
@[simp] theorem Cond.or_sysUnderflow (a b : Cond) : (a ||| b).sysUnderflow = (a.sysUnderflow || b.sysUnderflow) := rfl

/-- end of `Mul` / `Quo`: `setExponent` runs on a destination whose exponent field is stale (`e`); the value-level
model uses exponent 0.  Only the system-limit exits can tell the difference, and they are not delivered, whatever the
rest `k` of the run does with `setExponent`'s pair, as long as it keeps the system flags. -/
theorem stale_exp_run (c : Ctx) (d : Cell) (h : Heap) (D : Dec) (e : Int) (res : Cond) (xs : List Int)
    (k : Dec × Cond → Dec × Cond) (hk : ∀ r : Dec × Cond, NoSys (k r).2 → NoSys r.2) :
    SRes (((k (setExponent c { D with exp := e } res xs)).2,
        goError c.traps (k (setExponent c { D with exp := e } res xs)).2, 0),
      h.set d (k (setExponent c { D with exp := e } res xs)).1) d h (finish c (k (setExponent c D res xs))) := by
  obtain ⟨e2, e1⟩ := setExponent_exp c D e res xs
  by_cases hns : NoSys (setExponent c D res xs).2
  · rw [Prod.ext (e1 hns) e2]; exact SRes.exact d h (finish c (k (setExponent c D res xs)))
  · unfold finish
    rw [(goError_sys_iff _ _).2 (mt (hk _) hns), (goError_sys_iff _ _).2 (mt (hk _) (e2 ▸ hns))]
    exact ⟨_, _, _, rfl, fun hd => absurd hd not_delivered_sys⟩

theorem stale_exp_tail (c : Ctx) (d : Cell) (h : Heap) (D : Dec) (e : Int) (res : Cond) (xs : List Int) :
    SRes ((res ||| (setExponent c { D with exp := e } res xs).2,
        goError c.traps (res ||| (setExponent c { D with exp := e } res xs).2), (0 : Int)),
        h.set d (setExponent c { D with exp := e } res xs).1) d h
      (finish c ((setExponent c D res xs).1, res ||| (setExponent c D res xs).2)) :=
  stale_exp_run c d h D e res xs (fun r => (r.1, res ||| r.2)) (fun _ hns => (NoSys.or_iff.1 hns).2)

theorem stale_exp_tail0 (c : Ctx) (d : Cell) (h : Heap) (D : Dec) (e : Int) (res : Cond) (xs : List Int) :
    ∃ fl aux v,
      (((setExponent c { D with exp := e } res xs).2,
        goError c.traps (setExponent c { D with exp := e } res xs).2, (0 : Int)),
        h.set d (setExponent c { D with exp := e } res xs).1) =
      ((fl, goError c.traps (setExponent c D res xs).2, aux), h.set d v) ∧
      (Delivered (goError c.traps (setExponent c D res xs).2) →
        fl = (setExponent c D res xs).2 ∧ aux = 0 ∧ v = (setExponent c D res xs).1) :=
  stale_exp_run c d h D e res xs id (fun _ hns => hns)

end Apd.Imp
