import ApdVerif.Lemmas.CbrtLemmas
/-!
# `Context.Cbrt`: the final rounding of the last iterate, against the specification

The last iterate `z` has `(z(1-τ))³ ≤ |x| ≤ (z(1+τ))³`, `τ = 3·10^(-2P)` (`Iter`; established by `CbrtL.prefix_iter`).
`Cbrt` rounds it half-even to `P` digits (`cH` the context of that rounding, `resD` the result) and compares the cube
of the result with the operand (`recheck`, `tail_eq`).  `final_agrees`: the result is the specification's rounding of
`z` (`C01_roundCore`); `tail_within`: it passes the oracle's test `cbrtWithinUlp`.
-/
namespace Apd.CbrtT
open Apd.Oracle Apd.RatSpec Apd.C20L Apd.SqrtL Apd.CbrtL Apd.C11Q

def cH (c : Ctx) : Ctx := { c with mode := .halfEven }

def resD (c : Ctx) (x z : Dec) : Dec :=
  ⟨(ctxRound (cH c) z).1.form, x.neg, (ctxRound (cH c) z).1.exp, (ctxRound (cH c) z).1.coeff⟩

/-- the exactness re-check: the cube of the result at `3·Precision` digits -/
def recheck (c : Ctx) (fl0 : Cond) (z d : Dec) : ED × Dec :=
  let e : ED := { c := nc3 c, fl := fl0, err := .none }
  let q1 := e.step z (fun cc => mulOp cc d d)
  q1.1.step q1.2 (fun cc => mulOp cc q1.2 d)

theorem tail_eq (c : Ctx) (x : Dec) (fl0 : Cond) (z : Dec) :
    tail c x fl0 z =
      if (recheck c fl0 z (resD c x z)).1.failed then failOut (recheck c fl0 z (resD c x z)).1.errOf else
      if x.cmp (recheck c fl0 z (resD c x z)).2 == 0 then { d := resD c x z }
      else { d := resD c x z, fl := (ctxRound (cH c) z).2, err := goError c.traps (ctxRound (cH c) z).2 } := rfl

theorem tail_ok (c : Ctx) (x : Dec) (fl0 : Cond) (z : Dec) (he : (tail c x fl0 z).err = .none) :
    (recheck c fl0 z (resD c x z)).1.failed = false ∧ (tail c x fl0 z).d = resD c x z := by
  rw [tail_eq] at he ⊢
  by_cases hf : (recheck c fl0 z (resD c x z)).1.failed = true
  · rw [if_pos hf] at he
    exact absurd he (ED.errOf_ne_none hf)
  · rw [if_neg hf]
    refine ⟨by simpa using hf, ?_⟩
    split_ifs <;> rfl

theorem cube_zpow (k : ℤ) : ((10 : ℚ) ^ k) ^ 3 = (10 : ℚ) ^ (3 * k) := by
  rw [← zpow_natCast, ← zpow_mul]; congr 1; ring

theorem tau_le (P : ℕ) (hP : 1 ≤ P) :
    0 < 3 * ((10 : ℚ) ^ (-(P : ℤ))) ^ 2 ∧ 3 * ((10 : ℚ) ^ (-(P : ℤ))) ^ 2 ≤ 3 / 100 := by
  have h1 := ten_negP P hP
  have h0 := tp (-(P : ℤ))
  constructor
  · positivity
  · nlinarith

theorem close_ranges (z X τ : ℚ) (a : ℤ) (hz : 0 < z) (hX1 : (10 : ℚ) ^ (3 * a) ≤ X)
    (hX2 : X < (10 : ℚ) ^ (3 * a + 3)) (hτ0 : 0 < τ) (hτ : τ ≤ 3 / 100) (c1 : (z * (1 - τ)) ^ 3 ≤ X)
    (c2 : X ≤ (z * (1 + τ)) ^ 3) :
    (10 : ℚ) ^ (a - 1) ≤ z ∧ z < (10 : ℚ) ^ (a + 2) ∧ z < 2 * (10 : ℚ) ^ (a + 1) := by
  have h1 : z * (1 - τ) < (10 : ℚ) ^ (a + 1) := by
    apply lt_of_pow_lt_pow_left₀ 3 (tp _).le
    rw [cube_zpow, show 3 * (a + 1) = 3 * a + 3 by ring]; exact lt_of_le_of_lt c1 hX2
  have h2 : (10 : ℚ) ^ a ≤ z * (1 + τ) := by
    apply le_of_pow_le_pow_left₀ (n := 3) (by norm_num) (mul_nonneg hz.le (by linarith))
    rw [cube_zpow]; exact le_trans hX1 c2
  have p0 := tp a
  have p1 : (10 : ℚ) ^ (a + 1) = (10 : ℚ) ^ a * 10 := zpow_add_one₀ ten_ne a
  have hzτ : z * τ ≤ z * (3 / 100) := mul_le_mul_of_nonneg_left hτ hz.le
  refine ⟨?_, ?_, ?_⟩
  · rw [zpow_sub_one₀ ten_ne]; linarith only [h2, hzτ, p0]
  · rw [show a + 2 = a + 1 + 1 by ring, zpow_add_one₀ ten_ne]; linarith only [h1, hzτ, p0, p1]
  · linarith only [h1, hzτ, p0, p1]

structure Iter (c : Ctx) (x z : Dec) : Prop where
  pos : Pos z
  nd : ndigits z.coeff ≤ c.prec * 2 + 2
  lo : (z.toRat * (1 - 3 * ((10 : ℚ) ^ (-(c.prec : ℤ))) ^ 2)) ^ 3 ≤ magQ x
  hi : magQ x ≤ (z.toRat * (1 + 3 * ((10 : ℚ) ^ (-(c.prec : ℤ))) ^ 2)) ^ 3

/-- the last iterate lies well inside the package's exponent range: `|x|` lies in the three decades from `10^(3a)`,
`a = ⌊adj x / 3⌋ ∈ [-33334, 33333]` -/
theorem Iter.exp_range {c : Ctx} {x z : Dec} (h : Iter c x z) (hc : c.WF) (hp : c.prec * 3 + 2 ≤ 100000)
    (h0 : x.coeff ≠ 0) (hw : x.WF) :
    -100000 ≤ z.exp ∧ z.exp + (ndigits z.coeff : ℤ) ≤ 33335 := by
  obtain ⟨b1, b2⟩ := magQ_isAdj x (Nat.pos_of_ne_zero h0)
  obtain ⟨t0, t1⟩ := tau_le c.prec hc.1
  obtain ⟨r1, r2, -⟩ := close_ranges z.toRat (magQ x) _ ((x.exp + (ndigits x.coeff : ℤ) - 1) / 3) h.pos.toRat_pos
    (le_trans (zpow_le_zpow_right₀ ten_gt.le (by omega)) b1)
    (lt_of_lt_of_le b2 (zpow_le_zpow_right₀ ten_gt.le (by omega))) t0 t1 h.lo h.hi
  have a1 := adj_gt h.pos r1
  have a2 := adj_le h.pos r2
  have := h.nd
  obtain ⟨w1, w2, w3, w4⟩ := hw
  constructor <;> omega

theorem final_agrees (c : Ctx) (hc : c.WF) (hp : c.prec * 3 + 2 ≤ 100000)
    (x : Dec) (h0 : x.coeff ≠ 0) (hw : x.WF) (z : Dec) (h : Iter c x z) :
    NoSys (ctxRound (cH c) z).2 ∧
    Agrees (cH c) (exactRound z) (ctxRound (cH c) z).1 (ctxRound (cH c) z).2 := by
  obtain ⟨e1, e2⟩ := h.exp_range hc hp h0 hw
  have hnp := ndigits_pos z.coeff
  have hcH : (cH c).WF := hc
  have hns : NoSys (ctxRound (cH c) z).2 :=
    round_noSys (cH c) hcH z h.pos.hf e1 (by omega) (by have := h.nd; omega) (by omega)
  exact ⟨hns, Props.C01_roundCore (cH c) hcH z h.pos.hf hns⟩

/-- `z·t < W ≤ Q ≤ U` with `t ≤ 1/10` gives `z·3t² ≤ 0.3·U`, and `|Dv - z| ≤ U/2`: the cubes of `Dv ∓ U` enclose `X` -/
theorem ulp_arith {z X Dv t U Q W : ℚ} (hz : 0 < z) (ht0 : 0 < t) (ht1 : t ≤ 1 / 10) (hW : 0 < W) (hWQ : W ≤ Q)
    (hQU : Q ≤ U) (h1 : z * t < W) (hr : |Dv - z| ≤ Q / 2)
    (c1 : (z * (1 - 3 * t ^ 2)) ^ 3 ≤ X) (c2 : X ≤ (z * (1 + 3 * t ^ 2)) ^ 3) :
    (0 ≤ Dv - U → (Dv - U) ^ 3 ≤ X) ∧ X ≤ (Dv + U) ^ 3 := by
  have h2 : z * (3 * t ^ 2) ≤ 3 / 10 * U := by
    have h3 : 3 * t * (z * t) ≤ 3 * t * W := mul_le_mul_of_nonneg_left h1.le (by positivity)
    have h4 : 3 * t * W ≤ 3 * (1 / 10) * W := mul_le_mul_of_nonneg_right (by linarith) hW.le
    calc z * (3 * t ^ 2) = 3 * t * (z * t) := by ring
      _ ≤ 3 / 10 * U := by linarith
  obtain ⟨r1, r2⟩ := abs_le.1 hr
  exact ⟨fun h0 => le_trans (pow_le_pow_left₀ h0 (by linarith) 3) c1,
    le_trans c2 (pow_le_pow_left₀ (by positivity) (by linarith) 3)⟩

/-- the arithmetic of "within one ulp": `Dv = M·10^u` is the rounding of `z` to a quantum `10^q ≤ 10^u`, and the
cube root of `X` is within `3·10^(-2P)·z` of `z` -/
theorem ulp_core (P : ℕ) (hP : 1 ≤ P) (z X Dv : ℚ) (a q u : ℤ) (M : ℕ) (hz : IsAdj z a)
    (hq : q ≤ u) (hqa : a - (P : ℤ) + 1 ≤ q) (hD : Dv = (M : ℚ) * (10 : ℚ) ^ u)
    (hr : |Dv - z| ≤ (10 : ℚ) ^ q / 2) (hX : 0 ≤ X)
    (c1 : (z * (1 - 3 * ((10 : ℚ) ^ (-(P : ℤ))) ^ 2)) ^ 3 ≤ X)
    (c2 : X ≤ (z * (1 + 3 * ((10 : ℚ) ^ (-(P : ℤ))) ^ 2)) ^ 3) :
    ((((M - 1 : ℕ) : ℕ) : ℚ) * (10 : ℚ) ^ u) ^ 3 ≤ X ∧ X ≤ (((M : ℚ) + 1) * (10 : ℚ) ^ u) ^ 3 := by
  have hU := tp u
  have ea : (10 : ℚ) ^ (a + 1) * (10 : ℚ) ^ (-(P : ℤ)) = (10 : ℚ) ^ (a - (P : ℤ) + 1) := by
    rw [← zpow_add₀ ten_ne]; congr 1; ring
  obtain ⟨k1, k2⟩ := ulp_arith (lt_of_lt_of_le (tp a) hz.1) (tp (-(P : ℤ))) (ten_negP P hP) (tp (a - (P : ℤ) + 1))
    (zpow_le_zpow_right₀ ten_gt.le hqa) (zpow_le_zpow_right₀ ten_gt.le hq)
    (by rw [← ea]; exact mul_lt_mul_of_pos_right hz.2 (tp _)) hr c1 c2
  rw [hD] at k1 k2
  constructor
  · rcases Nat.eq_zero_or_pos M with hM | hM
    · rw [hM]; simpa using hX
    · have hM1 : (1 : ℚ) ≤ (M : ℚ) := by exact_mod_cast hM
      rw [Nat.cast_sub hM, Nat.cast_one, sub_mul, one_mul]
      exact k1 (sub_nonneg.2 (le_mul_of_one_le_left hU.le hM1))
  · rw [add_mul, one_mul]; exact k2

theorem within_of_rat (c : Ctx) (x d : Dec) (u : ℤ) (M : ℕ)
    (hud : u = max ((ndigits d.coeff : Int) - 1 + d.exp - (c.prec : Int) + 1) (c.emin - (c.prec : Int) + 1))
    (hu : u ≤ d.exp) (hM : M = d.coeff * 10 ^ (d.exp - u).toNat)
    (h1 : ((((M - 1 : ℕ) : ℕ) : ℚ) * (10 : ℚ) ^ u) ^ 3 ≤ magQ x)
    (h2 : magQ x ≤ (((M : ℚ) + 1) * (10 : ℚ) ^ u) ^ 3) :
    cbrtWithinUlp c x d = true := by
  unfold cbrtWithinUlp
  dsimp only
  rw [← hud, if_neg (not_lt.2 hu), ← hM]
  unfold magQ at h1 h2
  rw [mul_pow, cube_zpow] at h1 h2
  have hp3 := tp (3 * u)
  have hpe := tp x.exp
  have e3 : (M - 1) * (M - 1) * (M - 1) = (M - 1) ^ 3 := by ring
  have e4 : (M + 1) * (M + 1) * (M + 1) = (M + 1) ^ 3 := by ring
  by_cases hs : x.exp - 3 * u ≥ 0
  · rw [if_pos hs]
    have e : (10 : ℚ) ^ x.exp = (10 : ℚ) ^ (x.exp - 3 * u) * (10 : ℚ) ^ (3 * u) := by
      rw [← zpow_add₀ ten_ne]; congr 1; ring
    rw [e, ← mul_assoc] at h1 h2
    have k1 := le_of_mul_le_mul_right h1 hp3
    have k2 := le_of_mul_le_mul_right h2 hp3
    rw [← zpow_toNat _ hs] at k1 k2
    simp only [Bool.and_eq_true, decide_eq_true_eq]
    rw [e3, e4]
    constructor
    · exact_mod_cast k1
    · exact_mod_cast k2
  · rw [if_neg hs]
    have hs' : 0 ≤ -(x.exp - 3 * u) := by omega
    have e : (10 : ℚ) ^ (3 * u) = (10 : ℚ) ^ (-(x.exp - 3 * u)) * (10 : ℚ) ^ x.exp := by
      rw [← zpow_add₀ ten_ne]; congr 1; ring
    rw [e, ← mul_assoc] at h1 h2
    have k1 := le_of_mul_le_mul_right h1 hpe
    have k2 := le_of_mul_le_mul_right h2 hpe
    rw [← zpow_toNat _ hs'] at k1 k2
    simp only [Bool.and_eq_true, decide_eq_true_eq]
    rw [e3, e4]
    constructor
    · exact_mod_cast k1
    · exact_mod_cast k2

theorem round_facts (c : Ctx) (hc : c.WF) (z : Dec) (hz : Pos z) (D : Dec) (fl : Cond)
    (hA : Agrees (cH c) (exactRound z) D fl) (hf : D.form = .finite) :
    ∃ (a q n : ℤ), a = (ndigits z.coeff : ℤ) - 1 + z.exp ∧
      q = max (a - (c.prec : ℤ) + 1) (c.emin - (c.prec : ℤ) + 1) ∧
      IsAdj z.toRat a ∧ 0 ≤ n ∧ D.toRat = (n : ℚ) * (10 : ℚ) ^ q ∧
      |(n : ℚ) - z.toRat / (10 : ℚ) ^ q| ≤ 1 / 2 ∧
      D.neg = false ∧ ndigits D.coeff ≤ c.prec ∧ (D.coeff ≠ 0 → c.emin - (c.prec : ℤ) + 1 ≤ D.exp) ∧
      D.toRat = roundedMag (cH c) false z.toRat a := by
  have hn : 0 < (exactRound z).num := hz.h0
  have hd : 0 < (exactRound z).den := Nat.one_pos
  have hneg : (exactRound z).neg = false := hz.hn
  have hmag : (exactRound z).mag = z.toRat := by
    unfold Exact.mag exactRound; rw [hz.toRat_eq]; simp
  have ha := mag_isAdj (exactRound z) hn hd
  have hadj : adjRat (exactRound z).num (exactRound z).den + (exactRound z).e10 =
      (ndigits z.coeff : ℤ) - 1 + z.exp := by
    show adjRat z.coeff 1 + z.exp = _
    rw [adjRat_one z.coeff hz.h0]
  rw [hadj] at ha
  obtain ⟨hval, -, -, -⟩ := Rat_agrees_finite (cH c) (exactRound z) D fl hn hd ha hA hf
  rw [hmag] at ha
  rw [hneg, hmag] at hval
  simp only [Bool.false_eq_true, if_false, one_mul] at hval
  have hzp := hz.toRat_pos
  have hq := tp (quantum (cH c) ((ndigits z.coeff : ℤ) - 1 + z.exp))
  refine ⟨_, quantum (cH c) ((ndigits z.coeff : ℤ) - 1 + z.exp),
    roundInt (cH c).mode false (z.toRat / (10 : ℚ) ^ (quantum (cH c) ((ndigits z.coeff : ℤ) - 1 + z.exp))),
    rfl, rfl, ha, roundInt_nonneg _ _ _ (by positivity), ?_, ?_, ?_, ?_, ?_, hval⟩
  · rw [hval]; rfl
  · exact Rat_roundInt_half_nearest _ (Or.inr (Or.inr rfl)) _ _
  · obtain ⟨-, h2, -⟩ := (Rat_matches_iff _ D hf).1 hA.1
    rw [h2, Rat_specRound_neg, hneg]
  · exact fits_digits (cH c) D hc.1 hf hA.2.2
  · intro h0
    have hfit := hA.2.2
    unfold fits at hfit
    rw [hf] at hfit
    simp only [Bool.and_eq_true, Bool.or_eq_true, beq_iff_eq, decide_eq_true_eq] at hfit
    have hp := hc.1
    have e1 : (cH c).prec = c.prec := rfl
    have e2 : (cH c).emin = c.emin := rfl
    rcases hfit.2 with (h | h) | h
    · omega
    · exact absurd h h0
    · rw [e1, e2] at h; exact h

theorem below_quantum {z : ℚ} {a q : ℤ} (hz : 0 < z) (ha : IsAdj z a)
    (h : |((0 : ℤ) : ℚ) - z / (10 : ℚ) ^ q| ≤ 1 / 2) : a < q := by
  have hq := tp q
  rw [Int.cast_zero, zero_sub, abs_neg, abs_of_pos (div_pos hz hq), div_le_iff₀ hq] at h
  exact ha.lt_of_lt (by linarith)

/-- a non-zero rounding `n·10^q` of a value `z ≥ 10^a` is at least `10^a`: for `q ≤ a` the bound is itself a
multiple of the quantum -/
theorem rounded_ge {z : ℚ} {a q n : ℤ} (ha : (10 : ℚ) ^ a ≤ z) (hn1 : 1 ≤ n)
    (hnear : |(n : ℚ) - z / (10 : ℚ) ^ q| ≤ 1 / 2) : (10 : ℚ) ^ a ≤ (n : ℚ) * (10 : ℚ) ^ q := by
  have hq := tp q
  by_cases hqa : q ≤ a
  · have hW : ((10 ^ (a - q).toNat : ℕ) : ℚ) = (10 : ℚ) ^ (a - q) := zpow_toNat _ (by omega)
    have e : (10 : ℚ) ^ a = (10 : ℚ) ^ (a - q) * (10 : ℚ) ^ q := by
      rw [← zpow_add₀ ten_ne, sub_add_cancel]
    have h1 : (10 : ℚ) ^ (a - q) ≤ z / (10 : ℚ) ^ q := by
      rw [le_div_iff₀ hq, ← e]; exact ha
    have h2 : (((10 ^ (a - q).toNat : ℕ) : ℤ) : ℚ) - 1 < (n : ℚ) := by
      rw [Int.cast_natCast, hW]; linarith [(abs_le.1 hnear).1]
    have h3 : ((10 ^ (a - q).toNat : ℕ) : ℤ) - 1 < n := by exact_mod_cast h2
    have h5 : (((10 ^ (a - q).toNat : ℕ) : ℤ) : ℚ) ≤ (n : ℚ) := by exact_mod_cast (show _ ≤ n by omega)
    rw [Int.cast_natCast, hW] at h5
    rw [e]
    exact mul_le_mul_of_nonneg_right h5 hq.le
  · calc (10 : ℚ) ^ a ≤ 1 * (10 : ℚ) ^ q := by
          rw [one_mul]; exact zpow_le_zpow_right₀ ten_gt.le (lt_of_not_ge hqa).le
      _ ≤ _ := mul_le_mul_of_nonneg_right (by exact_mod_cast hn1) hq.le

theorem rounded_le {z : ℚ} {q n : ℤ} (hn1 : 1 ≤ n) (hnear : |(n : ℚ) - z / (10 : ℚ) ^ q| ≤ 1 / 2) :
    (n : ℚ) * (10 : ℚ) ^ q ≤ 2 * z := by
  have hq := tp q
  have h1 : (1 : ℚ) ≤ (n : ℚ) := by exact_mod_cast hn1
  calc (n : ℚ) * (10 : ℚ) ^ q ≤ 2 * (z / (10 : ℚ) ^ q) * (10 : ℚ) ^ q :=
        mul_le_mul_of_nonneg_right (by linarith only [h1, (abs_le.1 hnear).2]) hq.le
    _ = 2 * z := by rw [mul_assoc, div_mul_cancel₀ _ hq.ne']

theorem Iter.rounded {c : Ctx} {x z : Dec} (h : Iter c x z) (hc : c.WF) (hp : c.prec * 3 + 2 ≤ 100000)
    (h0 : x.coeff ≠ 0) (hw : x.WF) (hf : (ctxRound (cH c) z).1.form = .finite) :
    ∃ (a q n : ℤ), a = (ndigits z.coeff : ℤ) - 1 + z.exp ∧
      q = max (a - (c.prec : ℤ) + 1) (c.emin - (c.prec : ℤ) + 1) ∧ IsAdj z.toRat a ∧
      (ctxRound (cH c) z).1.toRat = (n : ℚ) * (10 : ℚ) ^ q ∧ |(n : ℚ) - z.toRat / (10 : ℚ) ^ q| ≤ 1 / 2 ∧
      (ctxRound (cH c) z).1.neg = false ∧ ndigits (ctxRound (cH c) z).1.coeff ≤ c.prec ∧
      (((ctxRound (cH c) z).1.coeff = 0 ∧ a < q ∧ (ctxRound (cH c) z).1.exp = c.emin - (c.prec : ℤ) + 1) ∨
       (0 < (ctxRound (cH c) z).1.coeff ∧ c.emin - (c.prec : ℤ) + 1 ≤ (ctxRound (cH c) z).1.exp ∧
        (10 : ℚ) ^ a ≤ (ctxRound (cH c) z).1.toRat ∧ (ctxRound (cH c) z).1.toRat ≤ 2 * z.toRat)) := by
  obtain ⟨hns, hA⟩ := final_agrees c hc hp x h0 hw z h
  obtain ⟨e1, e2⟩ := h.exp_range hc hp h0 hw
  have ⟨hP1, hPe, hemax, hemin, hemin0⟩ := hc
  have hnz := ndigits_pos z.coeff
  obtain ⟨a, q, n, had, hqd, ha, hn0, hv, hnear, hneg, hnd, het, -⟩ := round_facts c hc z h.pos _ _ hA hf
  have hq := tp q
  refine ⟨a, q, n, had, hqd, ha, hv, hnear, hneg, hnd, ?_⟩
  have hn : (ctxRound (cH c) z).1.coeff = 0 ↔ n = 0 := by
    have hDv : (ctxRound (cH c) z).1.toRat = ((ctxRound (cH c) z).1.coeff : ℚ) * (10 : ℚ) ^ (ctxRound (cH c) z).1.exp := by
      unfold Dec.toRat; rw [hneg]; simp
    rw [hDv] at hv
    constructor
    · intro hD0
      rw [hD0, Nat.cast_zero, zero_mul] at hv
      exact_mod_cast (mul_eq_zero.1 hv.symm).resolve_right hq.ne'
    · intro hn
      rw [hn, Int.cast_zero, zero_mul] at hv
      exact_mod_cast (mul_eq_zero.1 hv).resolve_right (tp _).ne'
  by_cases hD0 : (ctxRound (cH c) z).1.coeff = 0
  · -- the iterate lies below the quantum, so its exponent is below `Etiny`
    left
    have hnear0 := hnear
    rw [hn.1 hD0] at hnear0
    have haq := below_quantum h.pos.toRat_pos ha hnear0
    exact ⟨hD0, haq, (round_sub_shape (cH c) z hP1 (by show c.emin ≤ 100000; omega) h.pos.hf
      (by have := h.pos.h0; omega) e1 (by omega) (by show _ < c.emin; omega) (by omega)
      (by show _ < c.emin - (c.prec : ℤ) + 1; omega)).2.2.2.1⟩
  · right
    have hn1 : 1 ≤ n := by
      have := mt hn.2 hD0
      omega
    rw [hv]
    exact ⟨Nat.pos_of_ne_zero hD0, het hD0, rounded_ge ha.1 hn1 hnear, rounded_le hn1 hnear⟩

theorem tail_within (c : Ctx) (hc : c.WF) (hp : c.prec * 3 + 2 ≤ 100000)
    (x : Dec) (h0 : x.coeff ≠ 0) (hw : x.WF) (z : Dec) (h : Iter c x z)
    (hf : (ctxRound (cH c) z).1.form = .finite) : cbrtWithinUlp c x (resD c x z) = true := by
  unfold resD
  obtain ⟨a, q, n, had, hqd, ha, hv, hnear, hneg, hnd, hcase⟩ := h.rounded hc hp h0 hw hf
  have hq := tp q
  generalize (ctxRound (cH c) z).1 = D at hf hv hneg hnd hcase ⊢
  have hDv : D.toRat = (D.coeff : ℚ) * (10 : ℚ) ^ D.exp := by
    unfold Dec.toRat; rw [hneg]; simp
  have hr : |D.toRat - z.toRat| ≤ (10 : ℚ) ^ q / 2 := by
    have e : (n : ℚ) * (10 : ℚ) ^ q - z.toRat = ((n : ℚ) - z.toRat / (10 : ℚ) ^ q) * (10 : ℚ) ^ q := by
      rw [sub_mul, div_mul_cancel₀ _ hq.ne']
    rw [hv, e, abs_mul, abs_of_pos hq]
    linarith [mul_le_mul_of_nonneg_right hnear hq.le]
  obtain ⟨u, hud⟩ : ∃ u : ℤ, u = max ((ndigits D.coeff : Int) - 1 + D.exp - (c.prec : Int) + 1)
      (c.emin - (c.prec : Int) + 1) := ⟨_, rfl⟩
  have hnpD := ndigits_pos D.coeff
  have huq : u ≤ D.exp ∧ q ≤ u := by
    rcases hcase with ⟨hD0, s1, s2⟩ | ⟨hD0, het, hge, -⟩
    · rw [hD0, ndigits_zero] at hud
      omega
    · have := adj_gt ⟨hf, hneg, hD0⟩ hge
      omega
  have hal := align D.coeff D.exp u huq.1
  have hcore := ulp_core c.prec hc.1 z.toRat (magQ x) D.toRat a q u (D.coeff * 10 ^ (D.exp - u).toNat) ha huq.2
    (by omega) (by rw [hDv, ← hal]) hr (magQ_pos x h0).le h.lo h.hi
  exact within_of_rat c x _ u _ hud huq.1 rfl hcore.1 hcore.2

end Apd.CbrtT

#print axioms Apd.CbrtT.tail_within
