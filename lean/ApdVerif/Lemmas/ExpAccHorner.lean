import ApdVerif.Lemmas.ExpAccMath
import ApdVerif.Lemmas.RelErr
/-!
# S2: one round of the perturbed Horner recurrence, and the invariants it preserves

One round of the Horner loop of `Context.Exp` ("Stage 4" in the comments of context.go) is `tmp = r/i`,
`sum = tmp·sum`, `sum = sum + 1`, each rounded: `ŝ_new = (1 + (r/i)(1+θ) ŝ)(1+δ)` with `1+θ = (1+δ₁)(1+δ₂)`.
With `u` the unit roundoff, `|θ| ≤ θb` (`= 2u+u²`, or `u` when the quotient is exact), `|δ| ≤ u`.
-/
namespace Apd.ExpAcc

theorem horner_step_abs (x s' sh e θ δ θb u : ℝ) (hθb : 0 ≤ θb)
    (hθ : |θ| ≤ θb) (hδ : |δ| ≤ u) (he : |sh - s'| ≤ e) :
    |(1 + x * (1 + θ) * sh) * (1 + δ) - (1 + x * s')| ≤
      (1 + u) * (|x| * (1 + θb) * e + θb * |x * s'|) + u * |1 + x * s'| := by
  have hp : |x * (1 + θ) * sh - x * s'| ≤ |x| * (1 + θb) * e + θb * |x * s'| := by
    refine mul_err.trans (add_le_add ?_ ?_)
    · rw [abs_mul]
      exact mul_le_mul (mul_le_mul_of_nonneg_left (abs_one_add_le hθ) (abs_nonneg _)) he (abs_nonneg _)
        (mul_nonneg (abs_nonneg _) (by linarith only [hθb]))
    · rw [show x * (1 + θ) - x = θ * x by ring, abs_mul, mul_assoc, ← abs_mul]
      exact mul_le_mul_of_nonneg_right hθ (abs_nonneg _)
  have := sum_err (F := (1 + x * (1 + θ) * sh) * (1 + δ)) (by rw [add_comm]) (add_comm 1 (x * s')) hp
    (b := 0) (by rw [sub_self, abs_zero]) hδ
  rwa [add_zero, mul_comm _ (1 + u)] at this

/-- One round with the sign of the multiplier known, `x = σ q`, `σ = ±1`: `|1 + x s'| = 1 + σ q s'`, so for
`σ = -1` the rounding error of the addition is taken of a sum smaller than `1`, which is what keeps the constant
for negative arguments small. -/
theorem horner_step_signed (x q σ s' sh θ δ θb u K1 K2 C t S : ℝ) (hσ : σ = 1 ∨ σ = -1) (hx : x = σ * q)
    (hq : 0 ≤ q) (hs0 : 0 ≤ s') (hs : s' ≤ S) (hqs : σ = -1 → q * s' ≤ 1) (hu : 0 ≤ u) (hθb : 0 ≤ θb)
    (hθ : |θ| ≤ θb) (hδ : |δ| ≤ u) (hK1 : (1 + u) * (1 + θb) ≤ K1) (hK2 : (1 + u) * θb + σ * u ≤ K2 * u)
    (hK20 : 0 ≤ K2) (he : |sh - s'| ≤ u * (1 + C * t)) :
    |(1 + x * (1 + θ) * sh) * (1 + δ) - (1 + x * s')| ≤ u * (1 + (K1 * (1 + C * t) + S * K2) * q) := by
  have step := horner_step_abs x s' sh _ θ δ θb u hθb hθ hδ he
  have hqs0 : 0 ≤ q * s' := mul_nonneg hq hs0
  have a1 : |x| = q := by
    rw [hx, abs_mul, abs_of_nonneg hq]
    rcases hσ with rfl | rfl
    · rw [abs_one, one_mul]
    · rw [abs_neg, abs_one, one_mul]
  have a2 : |x * s'| = q * s' := by rw [abs_mul, a1, abs_of_nonneg hs0]
  have a3 : |1 + x * s'| = 1 + σ * (q * s') := by
    rw [hx, mul_assoc]
    apply abs_of_nonneg
    rcases hσ with rfl | rfl
    · linarith only [hqs0]
    · linarith only [hqs rfl]
  rw [a1, a2, a3] at step
  refine step.trans ?_
  have E0 : 0 ≤ u * (1 + C * t) := (abs_nonneg _).trans he
  have t1 : q * ((1 + u) * (1 + θb) * (u * (1 + C * t))) ≤ q * (K1 * (u * (1 + C * t))) :=
    mul_le_mul_of_nonneg_left (mul_le_mul_of_nonneg_right hK1 E0) hq
  have t2 : q * s' * ((1 + u) * θb + σ * u) ≤ q * S * (K2 * u) :=
    (mul_le_mul_of_nonneg_left hK2 hqs0).trans
      (mul_le_mul_of_nonneg_right (mul_le_mul_of_nonneg_left hs hq) (mul_nonneg hK20 hu))
  calc (1 + u) * (q * (1 + θb) * (u * (1 + C * t)) + θb * (q * s')) + u * (1 + σ * (q * s'))
      = q * ((1 + u) * (1 + θb) * (u * (1 + C * t))) + q * s' * ((1 + u) * θb + σ * u) + u := by ring
    _ ≤ q * (K1 * (u * (1 + C * t))) + q * S * (K2 * u) + u := add_le_add (add_le_add t1 t2) le_rfl
    _ = u * (1 + (K1 * (1 + C * t) + S * K2) * q) := by ring

theorem amplification_bounds (u θb : ℝ) (hu : 0 ≤ u) (hu1 : u ≤ 1 / 200) (hθ0 : 0 ≤ θb) (hθb : θb ≤ 401 / 200 * u) :
    (1 + u) * (1 + θb) ≤ 10151 / 10000 ∧ (1 + u) * θb ≤ 2016 / 1000 * u := by
  have h1 : 1 + u ≤ 1 + 1 / 200 := add_le_add_right hu1 1
  have h2 : θb ≤ 401 / 200 * (1 / 200) := hθb.trans (mul_le_mul_of_nonneg_left hu1 (by norm_num))
  constructor
  · calc (1 + u) * (1 + θb) ≤ (1 + 1 / 200) * (1 + 401 / 200 * (1 / 200)) :=
          mul_le_mul h1 (add_le_add_right h2 1) (add_nonneg zero_le_one hθ0) (by norm_num)
      _ ≤ 10151 / 10000 := by norm_num
  · calc (1 + u) * θb ≤ (1 + 1 / 200) * (401 / 200 * u) := mul_le_mul h1 hθb hθ0 (by norm_num)
      _ = (1 + 1 / 200) * (401 / 200) * u := (mul_assoc _ _ _).symm
      _ ≤ 2016 / 1000 * u := mul_le_mul_of_nonneg_right (by norm_num) hu

/-- `hC`: the constant `C` absorbs the amplified incoming error and the new one, with `a/(i+1) ≤ 1/3` -/
theorem horner_inv (r σ a C τ s' sh θ δ θb u : ℝ) (i : ℕ) (hi : 2 ≤ i) (hσ : σ = 1 ∨ σ = -1) (hr : r = σ * a)
    (ha0 : 0 ≤ a) (ha1 : a ≤ 1) (hu : 0 ≤ u) (hu1 : u ≤ 1 / 200) (hθ0 : 0 ≤ θb) (hθb : θb ≤ 401 / 200 * u)
    (hθ : |θ| ≤ θb) (hδ : |δ| ≤ u) (hs0 : 0 ≤ s') (hs : s' ≤ 1 + τ * (a / ((i + 1 : ℕ) : ℝ)))
    (hτ0 : 0 ≤ τ) (hτ : σ = -1 → τ = 0) (hC0 : 0 ≤ C)
    (hC : 10151 / 10000 * (1 + C * (1 / 3)) + (1 + τ * (1 / 3)) * (2016 / 1000 + σ) ≤ C)
    (he : |sh - s'| ≤ u * (1 + C * (a / ((i + 1 : ℕ) : ℝ)))) :
    |(1 + r / (i : ℝ) * (1 + θ) * sh) * (1 + δ) - (1 + r / (i : ℝ) * s')| ≤ u * (1 + C * (a / (i : ℝ))) := by
  have hi' : (2 : ℝ) ≤ i := by exact_mod_cast hi
  have hipos : (0 : ℝ) < i := by linarith only [hi']
  have hi1pos : (0 : ℝ) < ((i + 1 : ℕ) : ℝ) := by push_cast; linarith only [hi']
  obtain ⟨k1, k2⟩ := amplification_bounds u θb hu hu1 hθ0 hθb
  have hq0 : 0 ≤ a / (i : ℝ) := div_nonneg ha0 hipos.le
  have hq2 : a / (i : ℝ) ≤ 1 / 2 := by rw [div_le_iff₀ hipos]; linarith only [ha1, hi']
  have ht : a / ((i + 1 : ℕ) : ℝ) ≤ 1 / 3 := by
    rw [div_le_iff₀ hi1pos]; push_cast; linarith only [ha1, hi']
  have hσ0 : 0 ≤ 2016 / 1000 + σ := by rcases hσ with rfl | rfl <;> norm_num
  have hqs : σ = -1 → a / (i : ℝ) * s' ≤ 1 := fun h => by
    rw [hτ h, zero_mul, add_zero] at hs
    exact (mul_le_mul hq2 hs hs0 (by norm_num)).trans (by norm_num)
  refine (horner_step_signed (r / i) (a / i) σ s' sh θ δ θb u (10151 / 10000) (2016 / 1000 + σ) C _ _ hσ
    (by rw [hr, mul_div_assoc]) hq0 hs0 hs hqs hu hθ0 hθ hδ k1
    (by rw [add_mul (2016 / 1000) σ u]; exact add_le_add_left k2 _) hσ0 he).trans ?_
  have hX := (add_le_add
    (mul_le_mul_of_nonneg_left (add_le_add_right (mul_le_mul_of_nonneg_left ht hC0) 1) (by norm_num))
    (mul_le_mul_of_nonneg_right (add_le_add_right (mul_le_mul_of_nonneg_left ht hτ0) 1) hσ0)).trans hC
  exact mul_le_mul_of_nonneg_left (add_le_add_right (mul_le_mul_of_nonneg_right hX hq0) 1) hu

/-- S2, the last round (`i = 1`: the quotient `r/1` is exact, so `|θ| ≤ u`) -/
theorem horner_fin (r σ a C τ c1 c2 s' sh θ δ u : ℝ) (hσ : σ = 1 ∨ σ = -1) (hr : r = σ * a)
    (ha0 : 0 ≤ a) (ha1 : a ≤ 1) (hu : 0 ≤ u) (hu1 : u ≤ 1 / 200) (hθ : |θ| ≤ u) (hδ : |δ| ≤ u)
    (hs0 : 0 ≤ s') (hs : s' ≤ 1 + τ * (a / 2)) (hτ : σ = -1 → τ = 0)
    (hc1 : (201 / 200) ^ 2 + (201 / 200 + σ) ≤ c1)
    (hc2 : (201 / 200) ^ 2 * (C * (1 / 2)) + τ * (1 / 2) * (201 / 200 + σ) ≤ c2)
    (he : |sh - s'| ≤ u * (1 + C * (a / 2))) :
    |(1 + r * (1 + θ) * sh) * (1 + δ) - (1 + r * s')| ≤ u * (1 + c1 * a + c2 * a ^ 2) := by
  have hσ0 : 0 ≤ 201 / 200 + σ := by rcases hσ with rfl | rfl <;> norm_num
  have hqs : σ = -1 → a * s' ≤ 1 := fun h => by
    rw [hτ h, zero_mul, add_zero] at hs
    exact (mul_le_mul ha1 hs hs0 zero_le_one).trans_eq (one_mul 1)
  have hu2 : 1 + u ≤ 1 + 1 / 200 := add_le_add_right hu1 1
  have hK1 : (1 + u) * (1 + u) ≤ (201 / 200) ^ 2 :=
    (mul_le_mul hu2 hu2 (add_nonneg zero_le_one hu) (by norm_num)).trans (by norm_num)
  have hK2 : (1 + u) * u + σ * u ≤ (201 / 200 + σ) * u := by
    rw [add_mul (201 / 200) σ u]
    exact add_le_add_left (mul_le_mul_of_nonneg_right (hu2.trans (by norm_num)) hu) _
  refine (horner_step_signed r a σ s' sh θ δ u u ((201 / 200) ^ 2) (201 / 200 + σ) C _ _ hσ hr
    ha0 hs0 hs hqs hu hu hθ hδ hK1 hK2 hσ0 he).trans (mul_le_mul_of_nonneg_left ?_ hu)
  have e1 := mul_le_mul_of_nonneg_right hc1 ha0
  have e2 := mul_le_mul_of_nonneg_right hc2 (sq_nonneg a)
  calc 1 + ((201 / 200) ^ 2 * (1 + C * (a / 2)) + (1 + τ * (a / 2)) * (201 / 200 + σ)) * a
      = 1 + ((201 / 200) ^ 2 + (201 / 200 + σ)) * a
          + ((201 / 200) ^ 2 * (C * (1 / 2)) + τ * (1 / 2) * (201 / 200 + σ)) * a ^ 2 := by ring
    _ ≤ 1 + c1 * a + c2 * a ^ 2 := add_le_add (add_le_add_right e1 1) e2

/-- bound on the accumulated relative perturbation of quotient and product: `u` when the quotient is
exact (`i = 0`, division by one), `2u + u²` otherwise -/
noncomputable def thetaB (u : ℝ) (i : Nat) : ℝ := if i = 0 then u else 2 * u + u ^ 2

/-- The loop invariant `u (1 + C|ρ|/j)`: distance of the running sum from the exact partial sum before the round
at index `j-1`.  `C` solves `1.0151 (1 + C/3) + (1 + τ/3)(2.016 + σ) ≤ C` (`hC` of `horner_inv`; `1.0151` and
`2.016` from `amplification_bounds`): `3.1` for `ρ ≤ 0` (`σ = -1`, partial sums `≤ 1`, `τ = 0`), `10` for
`ρ > 0` (`σ = 1`, partial sums `≤ 1 + 2ρ/j`, `τ = 2`).  `u ≤ 1/200` throughout is "at least 3 digits"
(`uR_small`). -/
noncomputable def HB (ρ u : ℝ) (j : ℕ) : ℝ :=
  if ρ ≤ 0 then u * (1 + 31 / 10 * (-ρ) / (j : ℝ)) else u * (1 + 10 * ρ / (j : ℝ))

/-- the distance after the last round, `u (1 + c₁|ρ| + c₂ρ²)` with `c₁ = 1.005² + 1.005 + σ` and
`c₂ = 1.005²·C/2 + τ/2·(1.005 + σ)` rounded up (`hc1`, `hc2` of `horner_fin`) -/
noncomputable def HF (ρ u : ℝ) : ℝ :=
  if ρ ≤ 0 then u * (1 + 10151 / 10000 * (-ρ) + 15656 / 10000 * (-ρ) ^ 2)
  else u * (1 + 30151 / 10000 * ρ + 70552 / 10000 * ρ ^ 2)

theorem HB_of_nonpos {ρ : ℝ} (h : ρ ≤ 0) (u : ℝ) (j : ℕ) : HB ρ u j = u * (1 + 31 / 10 * (-ρ / (j : ℝ))) := by
  rw [HB, if_pos h, mul_div_assoc]

theorem HB_of_pos {ρ : ℝ} (h : ¬ ρ ≤ 0) (u : ℝ) (j : ℕ) : HB ρ u j = u * (1 + 10 * (ρ / (j : ℝ))) := by
  rw [HB, if_neg h, mul_div_assoc]

theorem HF_of_nonpos {ρ : ℝ} (h : ρ ≤ 0) (u : ℝ) :
    HF ρ u = u * (1 + 10151 / 10000 * (-ρ) + 15656 / 10000 * (-ρ) ^ 2) := if_pos h

theorem HF_of_pos {ρ : ℝ} (h : ¬ ρ ≤ 0) (u : ℝ) :
    HF ρ u = u * (1 + 30151 / 10000 * ρ + 70552 / 10000 * ρ ^ 2) := if_neg h

theorem HB_bounds (ρ u : ℝ) (j : ℕ) (hρ : |ρ| ≤ 1) (hu : 0 ≤ u) (hj : 2 ≤ j) :
    0 ≤ HB ρ u j ∧ HB ρ u j ≤ 6 * u := by
  obtain ⟨h1, h2⟩ := abs_le.1 hρ
  have hj' : (2 : ℝ) ≤ j := by exact_mod_cast hj
  have hjpos : (0 : ℝ) < j := by linarith only [hj']
  have key : ∀ C a : ℝ, 0 ≤ C → C ≤ 10 → 0 ≤ a → a ≤ 1 →
      0 ≤ u * (1 + C * (a / (j : ℝ))) ∧ u * (1 + C * (a / (j : ℝ))) ≤ 6 * u := by
    intro C a hC0 hC ha0 ha1
    have q0 : 0 ≤ a / (j : ℝ) := div_nonneg ha0 hjpos.le
    have q1 : a / (j : ℝ) ≤ 1 / 2 := by rw [div_le_iff₀ hjpos]; linarith only [ha1, hj']
    have p0 := mul_nonneg hC0 q0
    have p1 := mul_le_mul hC q1 q0 (by norm_num)
    exact ⟨mul_nonneg hu (by linarith only [p0]),
      (mul_le_mul_of_nonneg_left (by linarith only [p1]) hu).trans_eq (mul_comm _ _)⟩
  by_cases h : ρ ≤ 0
  · rw [HB_of_nonpos h]
    exact key _ _ (by norm_num) (by norm_num) (by linarith only [h]) (by linarith only [h1])
  · rw [HB_of_pos h]
    exact key _ _ (by norm_num) le_rfl (by linarith only [h]) h2

theorem HF_bounds (ρ u : ℝ) (hρ : |ρ| ≤ 1) (hu : 0 ≤ u) : 0 ≤ HF ρ u ∧ HF ρ u ≤ 12 * u := by
  obtain ⟨h1, h2⟩ := abs_le.1 hρ
  have key : ∀ c1 c2 a : ℝ, 0 ≤ c1 → 0 ≤ c2 → 1 + c1 + c2 ≤ 12 → 0 ≤ a → a ≤ 1 →
      0 ≤ u * (1 + c1 * a + c2 * a ^ 2) ∧ u * (1 + c1 * a + c2 * a ^ 2) ≤ 12 * u := by
    intro c1 c2 a hc1 hc2 hc ha0 ha1
    have p1 := mul_nonneg hc1 ha0
    have p2 := mul_nonneg hc2 (sq_nonneg a)
    have q1 := mul_le_mul_of_nonneg_left ha1 hc1
    have q2 := mul_le_mul_of_nonneg_left (pow_le_one₀ ha0 ha1 (n := 2)) hc2
    exact ⟨mul_nonneg hu (by linarith only [p1, p2]),
      (mul_le_mul_of_nonneg_left (by linarith only [q1, q2, hc]) hu).trans_eq (mul_comm _ _)⟩
  by_cases h : ρ ≤ 0
  · rw [HF_of_nonpos h]
    exact key _ _ _ (by norm_num) (by norm_num) (by norm_num) (by linarith only [h]) (by linarith only [h1])
  · rw [HF_of_pos h]
    exact key _ _ _ (by norm_num) (by norm_num) (by norm_num) (by linarith only [h]) h2

theorem thetaB_bounds (u : ℝ) (i : ℕ) (hu : 0 ≤ u) (hu1 : u ≤ 1 / 200) :
    u ≤ thetaB u i ∧ thetaB u i ≤ 401 / 200 * u := by
  have h2 : u ^ 2 ≤ 1 / 200 * u := by rw [sq]; exact mul_le_mul_of_nonneg_right hu1 hu
  unfold thetaB
  split_ifs
  · exact ⟨le_rfl, by linarith only [hu]⟩
  · exact ⟨by linarith only [hu, sq_nonneg u], by linarith only [h2]⟩

theorem hornerT_range (ρ : ℝ) (hρ : |ρ| ≤ 1) (j m : ℕ) (hj : 2 ≤ j) :
    1 / 2 ≤ hornerT ρ j m ∧ hornerT ρ j m ≤ 2 := by
  obtain ⟨h1, h2⟩ := abs_le.1 hρ
  have hj' : (2 : ℝ) ≤ j := by exact_mod_cast hj
  have hjpos : (0 : ℝ) < j := by linarith only [hj']
  by_cases h : ρ ≤ 0
  · obtain ⟨b1, b2⟩ := hornerT_bounds_neg ρ h h1 m j (by omega)
    have : -(1 / 2) ≤ ρ / (j : ℝ) := by rw [le_div_iff₀ hjpos]; linarith only [h1, hj']
    exact ⟨by linarith only [b1, this], by linarith only [b2]⟩
  · obtain ⟨b1, b2⟩ := hornerT_bounds_pos ρ (le_of_not_ge h) h2 m j (by omega)
    have : ρ / (j : ℝ) ≤ 1 / 2 := by rw [div_le_iff₀ hjpos]; linarith only [h2, hj']
    exact ⟨by linarith only [b1], by linarith only [b2, this]⟩

theorem horner_round (ρ u sh θ δ : ℝ) (i m : ℕ) (hρ : |ρ| ≤ 1) (hu : 0 ≤ u) (hu1 : u ≤ 1 / 200)
    (he : |sh - hornerT ρ (i + 2) m| ≤ HB ρ u (i + 2))
    (hθ : |θ| ≤ thetaB u i) (hδ : |δ| ≤ u) :
    |(1 + ρ / ((i + 1 : ℕ) : ℝ) * (1 + θ) * sh) * (1 + δ) - hornerT ρ (i + 1) (m + 1)| ≤
      (if i = 0 then HF ρ u else HB ρ u (i + 1)) := by
  obtain ⟨h1, h2⟩ := abs_le.1 hρ
  rw [hornerT_succ]
  obtain ⟨tb1, tb2⟩ := thetaB_bounds u i hu hu1
  have s0 : 0 ≤ hornerT ρ (i + 2) m :=
    le_trans (by norm_num) (hornerT_range ρ hρ (i + 2) m (by omega)).1
  -- the sign `σ`, `a = |ρ|`, the constant `C` of `HB` and the upper bound `1 + τ a/(i+2)` of the partial sum
  have sign : ∃ σ a C τ : ℝ, (σ = 1 ∨ σ = -1) ∧ ρ = σ * a ∧ 0 ≤ a ∧ a ≤ 1 ∧ 0 ≤ τ ∧ (σ = -1 → τ = 0) ∧
      0 ≤ C ∧ 10151 / 10000 * (1 + C * (1 / 3)) + (1 + τ * (1 / 3)) * (2016 / 1000 + σ) ≤ C ∧
      (∀ j, HB ρ u j = u * (1 + C * (a / (j : ℝ)))) ∧
      hornerT ρ (i + 2) m ≤ 1 + τ * (a / ((i + 2 : ℕ) : ℝ)) ∧
      ∃ c1 c2 : ℝ, (201 / 200) ^ 2 + (201 / 200 + σ) ≤ c1 ∧
        (201 / 200) ^ 2 * (C * (1 / 2)) + τ * (1 / 2) * (201 / 200 + σ) ≤ c2 ∧
        HF ρ u = u * (1 + c1 * a + c2 * a ^ 2) := by
    by_cases hneg : ρ ≤ 0
    · exact ⟨-1, -ρ, 31 / 10, 0, Or.inr rfl, by ring, by linarith only [hneg], by linarith only [h1], le_rfl,
        fun _ => rfl, by norm_num, by norm_num, HB_of_nonpos hneg u,
        by rw [zero_mul, add_zero]; exact (hornerT_bounds_neg ρ hneg h1 m (i + 2) (by omega)).2,
        _, _, by norm_num, by norm_num, HF_of_nonpos hneg u⟩
    · exact ⟨1, ρ, 10, 2, Or.inl rfl, (one_mul ρ).symm, le_of_not_ge hneg, h2, by norm_num,
        fun h => absurd h (by norm_num), by norm_num, by norm_num, HB_of_pos hneg u,
        (hornerT_bounds_pos ρ (le_of_not_ge hneg) h2 m (i + 2) (by omega)).2,
        _, _, by norm_num, by norm_num, HF_of_pos hneg u⟩
  obtain ⟨σ, a, C, τ, hσ, hr, ha0, ha1, hτ0, hτ, hC0, hC, hHB, hs, c1, c2, hc1, hc2, hHF⟩ := sign
  rw [hHB] at he
  by_cases hi0 : i = 0
  · have e1 : ((i + 1 : ℕ) : ℝ) = 1 := by rw [hi0, Nat.zero_add, Nat.cast_one]
    have e2 : ((i + 2 : ℕ) : ℝ) = 2 := by rw [hi0, Nat.zero_add, Nat.cast_ofNat]
    rw [thetaB, if_pos hi0] at hθ
    rw [e2] at he hs
    rw [if_pos hi0, hHF, e1, div_one]
    exact horner_fin ρ σ a C τ c1 c2 _ sh θ δ u hσ hr ha0 ha1 hu hu1 hθ hδ s0 hs hτ hc1 hc2 he
  · rw [if_neg hi0, hHB]
    exact horner_inv ρ σ a C τ _ sh θ δ (thetaB u i) u (i + 1) (by omega) hσ hr ha0 ha1 hu hu1
      (hu.trans tb1) tb2 hθ hδ s0 hs hτ0 hτ hC0 hC he

end Apd.ExpAcc
