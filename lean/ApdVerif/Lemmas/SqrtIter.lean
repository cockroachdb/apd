import ApdVerif.Lemmas.SqrtDefs
import ApdVerif.Lemmas.SqrtNewton
import ApdVerif.Lemmas.SqrtIterLemmas
/-!
# The Newton iterate of `Context.Sqrt` is close to the root

Ties the model's loop (`SqrtD.iter`: `mulOp`/`addOp`/`quoOp` through the `ErrDecimal`) to the real-number
analysis of `Lemmas/SqrtNewton.lean`: each operation returns the exact result rounded once (`Lemmas/RoundedOp.lean`,
`OpOk`), which bounds every rounding by a relative error `5·10^(-p)` (`Lemmas/SqrtIterLemmas.lean`); the loop is
followed by `SqrtD.iter_ind`.

The conclusion is stated WITHOUT square roots, on rationals: with `A` the iterate, `F` the scaled operand
and `δ = 10^(-workp-3)`, `(A-δ)² < F < (A+δ)²` — i.e. `|A - √F| < δ`.
-/
namespace Apd.SqrtI
open Apd.SqrtD Apd.SqrtL

structure Inv (c : Ctx) (x : Dec) (e : ED) (A : Dec) (p : Nat) : Prop where
  ed : EDok e
  pos : Pos A
  nd : ndigits A.coeff ≤ workp c x + 5
  p3 : 3 ≤ p
  pm : p ≤ workp c x + 5
  close : |((A.toRat : ℚ) : ℝ) - Real.sqrt (((f x).toRat : ℚ) : ℝ)| ≤
    (10 : ℝ) ^ (2 - (p : ℤ)) * Real.sqrt (((f x).toRat : ℚ) : ℝ)

theorem cast_eps {e : ℚ} {n : ℤ} (h : |e| ≤ 5 * (10 : ℚ) ^ n) : |((e : ℚ) : ℝ)| ≤ 5 * (10 : ℝ) ^ n := by
  have : ((|e| : ℚ) : ℝ) ≤ ((5 * (10 : ℚ) ^ n : ℚ) : ℝ) := by exact_mod_cast h
  push_cast at this
  exact this

theorem castR_le {a b : ℚ} (h : a ≤ b) : (a : ℝ) ≤ (b : ℝ) := Rat.cast_le.2 h
theorem castR_lt {a b : ℚ} (h : a < b) : (a : ℝ) < (b : ℝ) := Rat.cast_lt.2 h
theorem of_castR_le {a b : ℚ} (h : (a : ℝ) ≤ (b : ℝ)) : a ≤ b := Rat.cast_le.1 h
theorem of_castR_lt {a b : ℚ} (h : (a : ℝ) < (b : ℝ)) : a < b := Rat.cast_lt.1 h

theorem F_range (c : Ctx) (x : Dec) (h : Dom c x) : 1 / 100 ≤ (f x).toRat ∧ (f x).toRat < 1 := by
  obtain ⟨f1, f2, f3, f4, f5, f6⟩ := f_facts c x h
  cases he : even x
  · obtain ⟨g1, g2⟩ := f6 he; exact ⟨g1, by linarith⟩
  · obtain ⟨g1, g2⟩ := f5 he; exact ⟨by linarith, g2⟩

theorem inv_init (c : Ctx) (x : Dec) (h : Dom c x) : Inv c x (init c x).1 (init c x).2 3 := by
  obtain ⟨w1, w2, w3⟩ := workp_facts c x
  obtain ⟨i1, i2, i3, i4, e1, e2, he1, he2, hv⟩ := init_ok c x h
  obtain ⟨f1, f2, f3, f4, f5, f6⟩ := f_facts c x h
  have hpw : 5 * (10 : ℝ) ^ (-(workp c x : ℤ)) ≤ 1 / 1000000 := by
    have : (10 : ℝ) ^ (-(workp c x : ℤ)) ≤ (10 : ℝ) ^ (-7 : ℤ) := zpow_le_zpow_right₀ (by norm_num) (by omega)
    have h7 : (10 : ℝ) ^ (-7 : ℤ) = 1 / 10000000 := by norm_num
    rw [h7] at this; linarith
  have hE1 := (cast_eps he1).trans hpw
  have hE2 := (cast_eps he2).trans hpw
  refine ⟨i1, i3, by omega, by omega, by omega, ?_⟩
  have h3 : (10 : ℝ) ^ (2 - ((3 : ℕ) : ℤ)) = 1 / 10 := by norm_num
  rw [h3, hv, a0_toRat, k0_toRat]
  cases he : even x
  · obtain ⟨g1, g2⟩ := f6 he
    have := SqrtN.init_odd _ _ _ (by simpa using castR_le g1) (by simpa using castR_le g2.le) hE1 hE2
    simp only [Bool.false_eq_true, if_false]
    push_cast
    exact this
  · obtain ⟨g1, g2⟩ := f5 he
    have := SqrtN.init_even _ _ _ (by simpa using castR_le g1) (by simpa using castR_le g2.le) hE1 hE2
    simp only [if_true]
    push_cast
    exact this

/-- what the invariant says about the iterate over `ℚ`, in the form `round1_ok` asks for -/
theorem Inv.bounds {c : Ctx} {x : Dec} {e : ED} {A : Dec} {p : Nat} (hI : Inv c x e A p) (h : Dom c x) :
    9 / 100 ≤ A.toRat ∧ A.toRat ≤ 11 / 10 ∧ A.toRat ≤ 11 * (f x).toRat ∧ (f x).toRat ≤ 2 * A.toRat := by
  obtain ⟨F1, F2⟩ := F_range c x h
  obtain ⟨c1, c2, c3, c4, -, -⟩ := SqrtN.close_bounds _ _ _ (by simpa using castR_le F1)
    (by simpa using castR_le F2.le) (SqrtN.H_le p hI.p3) hI.close
  exact ⟨of_castR_le (by push_cast; exact c1), of_castR_le (by push_cast; exact c2),
    of_castR_le (by push_cast; exact c3), of_castR_le (by push_cast; exact c4)⟩

theorem nextP_facts (p maxp : Nat) (hp : 3 ≤ p) (hm : 12 ≤ maxp) :
    4 ≤ nextP p maxp ∧ nextP p maxp ≤ 2 * p - 2 ∧ nextP p maxp ≤ maxp := by
  unfold nextP; split_ifs <;> omega

/-- one round under the invariant, at any precision `P` the loop may move to from `p`.  The first two clauses are there
for the sharp analysis (`SqrtX.sinv_step`), which starts from them. -/
theorem inv_round (c : Ctx) (x : Dec) (h : Dom c x) (e : ED) (A : Dec) (p P : Nat) (hI : Inv c x e A p)
    (hP4 : 4 ≤ P) (hPp : P ≤ 2 * p - 2) (hPm : P ≤ workp c x + 5) :
    (∃ qh sh : ℚ, SqrtX.Rd P (f x).toRat A.toRat qh sh (round1 e (f x) A P).2.toRat) ∧
    ndigits (round1 e (f x) A P).2.coeff ≤ P ∧ Inv c x (round1 e (f x) A P).1 (round1 e (f x) A P).2 P := by
  have hd := h.hd
  obtain ⟨f1, f2, f3, f4, -, -⟩ := f_facts c x h
  obtain ⟨q1, q2, q3, q4⟩ := hI.bounds h
  obtain ⟨r1, r2, r3, r4, qh, sh, hq0, hs0, R⟩ :=
    round1_ok e hI.ed (f x) A P hP4 (by omega) f1 (by omega) (by omega) (by omega) hI.pos (by have := hI.nd; omega)
      q1 q2 q3 q4
  refine ⟨⟨qh, sh, R⟩, r4, r1, r3, by omega, by omega, hPm, ?_⟩
  obtain ⟨R1, R2, R3⟩ := R
  -- the three roundings as relative errors
  have hApos := hI.pos.toRat_pos
  obtain ⟨e1, he1, hv1⟩ := rel_of_val (div_pos f1.toRat_pos hApos) R1.rel
  obtain ⟨e2, he2, hv2⟩ := rel_of_val (add_pos hq0 hApos) R2.rel
  obtain ⟨e3, he3, hv3⟩ := rel_of_val (by linarith) R3.rel
  rw [hv3, hv2, hv1]
  push_cast
  have hε1 : 5 * (10 : ℝ) ^ (-(P : ℤ)) ≤ 1 / 2000 := by simpa using castR_le (eps_le P hP4)
  refine le_trans (SqrtN.newton_step _ _ _ _ _ _ _ (by exact_mod_cast f1.toRat_pos) (by positivity)
    (SqrtN.H_le p hI.p3) (by positivity) hε1 hI.close (cast_eps he1) (cast_eps he2) (cast_eps he3)) ?_
  exact mul_le_mul_of_nonneg_right (SqrtN.bound_step p P hI.p3 hPp) (Real.sqrt_nonneg _)

theorem inv_step (c : Ctx) (x : Dec) (h : Dom c x) (e : ED) (A : Dec) (p : Nat) (hI : Inv c x e A p) :
    Inv c x (round1 e (f x) A (nextP p (workp c x + 5))).1 (round1 e (f x) A (nextP p (workp c x + 5))).2
      (nextP p (workp c x + 5)) := by
  obtain ⟨w1, -, -⟩ := workp_facts c x
  obtain ⟨n1, n2, n3⟩ := nextP_facts p (workp c x + 5) hI.p3 (by omega)
  exact (inv_round c x h e A p _ hI n1 n2 n3).2.2

/-- The domain needs `workp + 5 ≤ 99999` (`Dom.hd : workp c x + 6 ≤ 100000`).  With `workp + 5 = 100000` the
statement is FALSE: for `c = { prec := 99994, emax := 100000, emin := -100000 }`, `x = { coeff := 2 }`
(`workp = 99995`) `#eval` gives `(iter c x).1.failed = true`, `(iter c x).1.fl.sysUnderflow = true`,
`(iter c x).1.err = .sys`, the iterate having exponent `-100001`: in the last round the sum `f/a + a` has
100000 digits and a value below 1, hence exponent `-100000`; `mulOp` by `0.5` makes it `-100001` and
`Rounder.Round` passes that exponent to `setExponent`, whose summand check rejects everything below
`MinExponent = -100000` — `Context.Sqrt` returns "exponent out of range". -/
theorem iter_close (c : Ctx) (x : Dec) (h : Dom c x) :
    let it := iter c x
    let A : ℚ := it.2.toRat
    let F : ℚ := (f x).toRat
    let δ : ℚ := (10 : ℚ) ^ (-(workp c x : ℤ) - 3)
    it.1.failed = false ∧ it.2.form = .finite ∧ it.2.neg = false ∧
    ndigits it.2.coeff ≤ workp c x + 5 ∧
    9 / 100 ≤ A ∧ A ≤ 11 / 10 ∧ 1 / 100 ≤ F ∧ F < 1 ∧
    (A - δ) ^ 2 < F ∧ F < (A + δ) ^ 2 := by
  intro it
  dsimp only
  obtain ⟨w1, w2, w3⟩ := workp_facts c x
  have hd := h.hd
  have hI : Inv c x it.1 it.2 (workp c x + 5) :=
    iter_ind c x (Inv c x) (by omega) (inv_init c x h) (fun e A p hI _ _ => inv_step c x h e A p hI)
  obtain ⟨F1, F2⟩ := F_range c x h
  obtain ⟨q1, q2, -, -⟩ := hI.bounds h
  have hclose := hI.close
  have hexp : (2 - ((workp c x + 5 : ℕ) : ℤ)) = -(workp c x : ℤ) - 3 := by push_cast; ring
  rw [hexp] at hclose
  have hF0 : (0 : ℝ) < (((f x).toRat : ℚ) : ℝ) := by simpa using castR_lt (lt_of_lt_of_le (by norm_num) F1)
  have hs0 : 0 < Real.sqrt (((f x).toRat : ℚ) : ℝ) := Real.sqrt_pos.2 hF0
  have hs1 : Real.sqrt (((f x).toRat : ℚ) : ℝ) < 1 :=
    (Real.sqrt_lt' one_pos).2 (by rw [one_pow]; simpa using castR_lt F2)
  have hδpos : (0 : ℝ) < (10 : ℝ) ^ (-(workp c x : ℤ) - 3) := by positivity
  have hδ1 : (10 : ℝ) ^ (-(workp c x : ℤ) - 3) ≤ 9 / 100 := by
    have : (10 : ℝ) ^ (-(workp c x : ℤ) - 3) ≤ (10 : ℝ) ^ (-2 : ℤ) := zpow_le_zpow_right₀ (by norm_num) (by omega)
    have e : (10 : ℝ) ^ (-2 : ℤ) = 1 / 100 := by norm_num
    rw [e] at this; linarith
  have hlt : |((it.2.toRat : ℚ) : ℝ) - Real.sqrt (((f x).toRat : ℚ) : ℝ)| < (10 : ℝ) ^ (-(workp c x : ℤ) - 3) :=
    lt_of_le_of_lt hclose (by simpa using mul_lt_mul_of_pos_left hs1 hδpos)
  obtain ⟨s1, s2⟩ := SqrtN.close_to_squares _ _ _ hF0 hδpos hlt
    (hδ1.trans (by simpa using castR_le q1))
  exact ⟨hI.ed.not_failed, hI.pos.hf, hI.pos.hn, hI.nd, q1, q2, F1, F2, of_castR_lt (by push_cast; exact s1), of_castR_lt (by push_cast; exact s2)⟩

end Apd.SqrtI

#print axioms Apd.SqrtI.iter_close
