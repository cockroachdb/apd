import Mathlib.Tactic.Linarith
import Mathlib.Tactic.Ring
import Mathlib.Tactic.FieldSimp
import Mathlib.Tactic.Positivity
/-!
# One exact step of Newton's iteration for the square root, over an ordered field

`a ↦ ½·(a + r²/a)` overshoots the root `r` by `(a - r)²/(2a)` (`newton_id`); with the quotient, the sum and the half
each perturbed, the three perturbations add to that (`round_err`).  Used over `ℝ` (relative error analysis,
`Lemmas/SqrtNewton.lean`) and over `ℚ` (absolute error analysis, `Lemmas/SqrtExactMath.lean`).
-/
namespace Apd.SqrtN
variable {K : Type*} [Field K] [LinearOrder K] [IsStrictOrderedRing K]

omit [LinearOrder K] [IsStrictOrderedRing K] in
theorem newton_id (r a : K) (ha : a ≠ 0) : r ^ 2 / a + a - 2 * r = (a - r) ^ 2 / a := by
  field_simp; ring

theorem newton_term_le (r a E κ : K) (hκ : 0 < κ * r) (ha : κ * r ≤ a) (hd : |a - r| ≤ E) :
    (a - r) ^ 2 / a ≤ E ^ 2 / (κ * r) :=
  div_le_div₀ (sq_nonneg E) (sq_le_sq' (neg_le_of_abs_le hd) (le_of_abs_le hd)) hκ ha

theorem newton_term_nonneg (r a : K) (ha : 0 < a) : 0 ≤ (a - r) ^ 2 / a :=
  div_nonneg (sq_nonneg _) ha.le

theorem quo_le (r a : K) (hr : 0 < r) (h : 9 / 10 * r ≤ a) : r ^ 2 / a ≤ 10 / 9 * r := by
  rw [div_le_iff₀ (by linarith)]
  linarith [mul_le_mul_of_nonneg_left h hr.le]

theorem round_err {r A qh sh A' u1 u2 u3 : K} (hA : 0 < A) (h1 : |qh - r ^ 2 / A| ≤ u1)
    (h2 : |sh - (qh + A)| ≤ u2) (h3 : |A' - sh * (1 / 2)| ≤ u3) :
    |A' - r| ≤ (A - r) ^ 2 / A / 2 + ((u1 + u2) / 2 + u3) := by
  have e : A' - r = ((A - r) ^ 2 / A + (qh - r ^ 2 / A) + (sh - (qh + A))) / 2 + (A' - sh * (1 / 2)) := by
    rw [← newton_id r A hA.ne']; ring
  have hθ := newton_term_nonneg r A hA
  obtain ⟨a1, a2⟩ := abs_le.1 h1
  obtain ⟨b1, b2⟩ := abs_le.1 h2
  obtain ⟨c1, c2⟩ := abs_le.1 h3
  rw [e, abs_le]
  exact ⟨by linarith only [a1, b1, c1, hθ], by linarith only [a2, b2, c2, hθ]⟩

end Apd.SqrtN
