import ApdVerif.Spec.Defs
import ApdVerif.Model.Round
/-!
# The algebra of condition flags and of `goError` (core Lean only)

`goError traps flags` is `.sys` exactly when a system flag is set, whatever the traps, and `.none` exactly when there is
no system flag and no trapped one, which distributes over `|||`; so an error without traps is an error under every trap
set.
-/
namespace Apd
namespace Cond
@[simp] theorem or_sysOverflow (a b : Cond) : (a ||| b).sysOverflow = (a.sysOverflow || b.sysOverflow) := rfl
@[simp] theorem or_sysUnderflow (a b : Cond) : (a ||| b).sysUnderflow = (a.sysUnderflow || b.sysUnderflow) := rfl
@[simp] theorem or_overflow (a b : Cond) : (a ||| b).overflow = (a.overflow || b.overflow) := rfl
@[simp] theorem or_underflow (a b : Cond) : (a ||| b).underflow = (a.underflow || b.underflow) := rfl
@[simp] theorem or_inexact (a b : Cond) : (a ||| b).inexact = (a.inexact || b.inexact) := rfl
@[simp] theorem or_subnormal (a b : Cond) : (a ||| b).subnormal = (a.subnormal || b.subnormal) := rfl
@[simp] theorem or_rounded (a b : Cond) : (a ||| b).rounded = (a.rounded || b.rounded) := rfl
@[simp] theorem or_divUndefined (a b : Cond) : (a ||| b).divUndefined = (a.divUndefined || b.divUndefined) := rfl
@[simp] theorem or_divByZero (a b : Cond) : (a ||| b).divByZero = (a.divByZero || b.divByZero) := rfl
@[simp] theorem or_divImpossible (a b : Cond) : (a ||| b).divImpossible = (a.divImpossible || b.divImpossible) := rfl
@[simp] theorem or_invalidOp (a b : Cond) : (a ||| b).invalidOp = (a.invalidOp || b.invalidOp) := rfl
@[simp] theorem or_clamped (a b : Cond) : (a ||| b).clamped = (a.clamped || b.clamped) := rfl

theorem empty_or (a : Cond) : ({} : Cond) ||| a = a := by
  cases a; simp [HOr.hOr, OrOp.or, Cond.or]
theorem or_empty (a : Cond) : a ||| ({} : Cond) = a := by
  cases a; simp [HOr.hOr, OrOp.or, Cond.or]
theorem or_self (a : Cond) : a ||| a = a := by
  cases a; simp [HOr.hOr, OrOp.or, Cond.or]
end Cond

theorem cond_and_self (a : Cond) : (a &&& a) = a := by
  show Cond.and a a = a
  cases a; simp [Cond.and]

theorem cond_or_and_left (a b : Cond) : ((a ||| b) &&& a) = a := by
  show Cond.and (Cond.or a b) a = a
  have key : ∀ p q : Bool, ((p || q) && p) = p := by decide
  cases a; cases b; simp only [Cond.and, Cond.or, key]

theorem NoSys.or_iff {a b : Cond} : NoSys (a ||| b) ↔ NoSys a ∧ NoSys b := by
  simp only [NoSys, Cond.or_sysOverflow, Cond.or_sysUnderflow, Bool.or_eq_false_iff]
  exact ⟨fun ⟨⟨a, b⟩, c, d⟩ => ⟨⟨a, c⟩, b, d⟩, fun ⟨⟨a, c⟩, b, d⟩ => ⟨⟨a, b⟩, c, d⟩⟩

theorem NoSys.or {a b : Cond} (ha : NoSys a) (hb : NoSys b) : NoSys (a ||| b) := NoSys.or_iff.2 ⟨ha, hb⟩

theorem goError_sys_iff (t fl : Cond) : goError t fl = .sys ↔ ¬ NoSys fl := by
  unfold goError NoSys
  cases fl.sysOverflow <;> cases fl.sysUnderflow <;> cases (fl &&& t).any <;> simp

theorem goError_none_iff (t fl : Cond) : goError t fl = .none ↔ NoSys fl ∧ (fl &&& t).any = false := by
  unfold goError NoSys
  cases fl.sysOverflow <;> cases fl.sysUnderflow <;> cases (fl &&& t).any <;> simp

theorem delivered_goError_iff (t fl : Cond) : Delivered (goError t fl) ↔ NoSys fl := by
  unfold Delivered goError NoSys
  cases fl.sysOverflow <;> cases fl.sysUnderflow <;> cases (fl &&& t).any <;> simp

theorem noSys_of_delivered (t fl : Cond) (h : Delivered (goError t fl)) : NoSys fl := (delivered_goError_iff t fl).1 h

theorem any_or_and (a b t : Cond) :
    ((a ||| b) &&& t).any = false ↔ (a &&& t).any = false ∧ (b &&& t).any = false := by
  have key : ∀ p q r : Bool, ((p || q) && r) = false ↔ (p && r) = false ∧ (q && r) = false := by decide
  show (Cond.and (Cond.or a b) t).any = false ↔ (Cond.and a t).any = false ∧ (Cond.and b t).any = false
  simp only [Cond.and, Cond.or, Cond.any, Bool.or_eq_false_iff, key]
  constructor <;> intro h <;> simp only [h, and_self]

theorem goError_or_none (t a b : Cond) :
    goError t (a ||| b) = .none ↔ goError t a = .none ∧ goError t b = .none := by
  rw [goError_none_iff, goError_none_iff, goError_none_iff, NoSys.or_iff, any_or_and]
  exact ⟨fun ⟨⟨a, b⟩, c, d⟩ => ⟨⟨a, c⟩, b, d⟩, fun ⟨⟨a, c⟩, b, d⟩ => ⟨⟨a, b⟩, c, d⟩⟩

theorem and_noTraps_any (fl : Cond) : (fl &&& ({} : Cond)).any = false := by
  show (Cond.and fl {}).any = false
  simp [Cond.and, Cond.any]

theorem goError_noTraps (fl : Cond) : goError {} fl = if fl.sysOverflow || fl.sysUnderflow then .sys else .none := by
  unfold goError
  rw [and_noTraps_any]
  rfl

theorem goError_noFlags (t : Cond) : goError t {} = .none := by
  cases t; rfl

theorem goError_of_empty_ne (t fl : Cond) (h : goError {} fl ≠ .none) : goError t fl = goError {} fl := by
  have hs : ¬ NoSys fl := fun hn => h ((goError_none_iff _ _).2 ⟨hn, and_noTraps_any fl⟩)
  rw [(goError_sys_iff t fl).2 hs, (goError_sys_iff {} fl).2 hs]

theorem goError_none_empty (t fl : Cond) (h : goError t fl = .none) : goError {} fl = .none :=
  (goError_none_iff _ _).2 ⟨((goError_none_iff t fl).1 h).1, and_noTraps_any fl⟩

end Apd
