import ApdVerif.Lemmas.SqrtExactInv
import ApdVerif.Lemmas.SqrtIter
import Mathlib.Data.Nat.Prime.Basic
/-!
# The Sqrt loop locks onto a terminating decimal root

`root_grid`: a decimal root of the scaled operand is `m·10^(-g)` with `2g + 4 ≤ workp + 5`; `SInv`: the sharp
invariant on top of `SqrtI.Inv`, kept by every round (`sinv_step`); `iter_root`: the loop ends on the root.
-/
namespace Apd.SqrtX
open Apd.C20L Apd.SqrtD Apd.SqrtL Apd.SqrtI

theorem strip10 : ∀ n : ℕ, 0 < n → ∃ j m : ℕ, n = m * 10 ^ j ∧ ¬ 10 ∣ m := by
  intro n
  induction n using Nat.strong_induction_on with
  | _ n ih =>
    intro hn
    by_cases h : 10 ∣ n
    · obtain ⟨t, ht⟩ := h
      have ht0 : 0 < t := by omega
      obtain ⟨j, m, e, hm⟩ := ih t (by omega) ht0
      exact ⟨j + 1, m, by rw [ht, e, pow_succ]; ring, hm⟩
    · exact ⟨0, n, by simp, h⟩

theorem ten_dvd_of_sq (m : ℕ) (h : 10 ∣ m ^ 2) : 10 ∣ m := by
  have h2 : 2 ∣ m := Nat.prime_two.dvd_of_dvd_pow (dvd_trans (by norm_num) h)
  have h5 : 5 ∣ m := Nat.prime_five.dvd_of_dvd_pow (dvd_trans (by norm_num) h)
  omega

theorem sq_exp (X m g : ℕ) (ex : ℤ) (hm : ¬ 10 ∣ m)
    (h : (X : ℚ) * (10 : ℚ) ^ ex = ((m : ℚ) * (10 : ℚ) ^ (-(g : ℤ))) ^ 2) : ex ≤ -(2 * g : ℤ) := by
  by_contra hc
  rw [not_le] at hc
  obtain ⟨n, hn⟩ : ∃ n : ℕ, ex = -(2 * g : ℤ) + (n + 1 : ℕ) := ⟨(ex + 2 * g - 1).toNat, by omega⟩
  have h1 : (X : ℚ) * (10 : ℚ) ^ (n + 1) = (m : ℚ) ^ 2 := by
    have e : ((m : ℚ) * (10 : ℚ) ^ (-(g : ℤ))) ^ 2 = (m : ℚ) ^ 2 * (10 : ℚ) ^ (-(2 * g : ℤ)) := by
      have e2 : ((10 : ℚ) ^ (-(g : ℤ))) ^ 2 = (10 : ℚ) ^ (-(2 * g : ℤ)) := by
        rw [← zpow_natCast, ← zpow_mul]; congr 1; push_cast; ring
      rw [mul_pow, e2]
    rw [e, hn, zpow_add₀ ten_ne, zpow_natCast] at h
    have hp := tp (-(2 * g : ℤ))
    have : (X : ℚ) * (10 : ℚ) ^ (n + 1) * (10 : ℚ) ^ (-(2 * g : ℤ)) = (m : ℚ) ^ 2 * (10 : ℚ) ^ (-(2 * g : ℤ)) := by
      rw [← h]; ring
    exact mul_right_cancel₀ hp.ne' this
  have h2 : X * 10 ^ (n + 1) = m ^ 2 := by exact_mod_cast h1
  apply hm
  apply ten_dvd_of_sq
  rw [← h2, pow_succ]
  exact ⟨X * 10 ^ n, by ring⟩

/-- `2g + 4 ≤ workp + 5` because the operand itself has at least `2g - 1` digits -/
theorem root_grid (c : Ctx) (x : Dec) (h : Dom c x) (R : ℕ) (k : ℤ)
    (hsq : (f x).toRat = ((R : ℚ) * (10 : ℚ) ^ k) ^ 2) :
    ∃ g m : ℕ, (R : ℚ) * (10 : ℚ) ^ k = (m : ℚ) * (10 : ℚ) ^ (-(g : ℤ)) ∧ 2 * g + 4 ≤ workp c x + 5 ∧
      1 / 10 ≤ (R : ℚ) * (10 : ℚ) ^ k ∧ (R : ℚ) * (10 : ℚ) ^ k < 1 := by
  obtain ⟨F1, F2⟩ := F_range c x h
  obtain ⟨f1, f2, f3, f4, f5, f6⟩ := f_facts c x h
  obtain ⟨w1, w2, w3⟩ := SqrtL.workp_facts c x
  have hk := tp k
  have hR : 0 < R := by
    rcases Nat.eq_zero_or_pos R with h0 | h0
    · rw [h0] at hsq; simp at hsq; rw [hsq] at F1; norm_num at F1
    · exact h0
  have hRq : (0 : ℚ) < R := by exact_mod_cast hR
  have hr0 : 0 < (R : ℚ) * (10 : ℚ) ^ k := by positivity
  rw [hsq] at F1 F2
  have hr1 : 1 / 10 ≤ (R : ℚ) * (10 : ℚ) ^ k :=
    (pow_le_pow_iff_left₀ (by norm_num) hr0.le two_ne_zero).1 (le_trans (by norm_num) F1)
  have hr2 : (R : ℚ) * (10 : ℚ) ^ k < 1 :=
    (pow_lt_pow_iff_left₀ hr0.le zero_le_one two_ne_zero).1 (by rwa [one_pow])
  obtain ⟨j, m, hjm, hm⟩ := strip10 R hR
  have hm0 : 0 < m := by
    rcases Nat.eq_zero_or_pos m with h0 | h0
    · exact absurd (h0 ▸ dvd_zero 10) hm
    · exact h0
  have hm1 : (1 : ℚ) ≤ m := by exact_mod_cast hm0
  have e1 : (R : ℚ) * (10 : ℚ) ^ k = (m : ℚ) * (10 : ℚ) ^ ((j : ℤ) + k) := by
    rw [hjm, zpow_add₀ ten_ne, zpow_natCast]; push_cast; ring
  have ht : (j : ℤ) + k < 0 := by
    by_contra hc
    rw [not_lt] at hc
    have := one_le_mul_of_one_le_of_one_le hm1 (one_le_zpow₀ ten_ge hc)
    rw [← e1] at this; exact absurd hr2 (not_lt.2 this)
  obtain ⟨g, hg⟩ : ∃ g : ℕ, (j : ℤ) + k = -(g : ℤ) := ⟨(-((j : ℤ) + k)).toNat, by omega⟩
  rw [hg] at e1
  refine ⟨g, m, e1, ?_, hr1, hr2⟩
  rw [e1, f1.toRat_eq] at hsq
  have := sq_exp _ m g _ hm hsq
  obtain ⟨-, -, -, hs⟩ := scale_norm x
  omega

theorem inv_rat (c : Ctx) (x : Dec) (e : ED) (A : Dec) (p : ℕ) (hI : Inv c x e A p) (r : ℚ) (hr : 0 ≤ r)
    (hF : (f x).toRat = r ^ 2) : |A.toRat - r| ≤ 1 / 10 * r := by
  have hs : Real.sqrt (((f x).toRat : ℚ) : ℝ) = (r : ℝ) := by
    rw [hF]; push_cast; exact Real.sqrt_sq (by exact_mod_cast hr)
  have hc := hI.close
  rw [hs] at hc
  have := hc.trans (mul_le_mul_of_nonneg_right (SqrtN.H_le p hI.p3) (by exact_mod_cast hr))
  rw [← Rat.cast_le (K := ℝ)]
  push_cast
  exact this

/-- the sharp invariant at precision `p`: `pv` is the precision schedule (`nextP_stage`, `nextP_last` step along it),
`nd` puts the iterate on the grid of the next round (`dec_grid`), `fin` is the lock-in: at the last precision the
iterate is the root -/
structure SInv (c : Ctx) (x : Dec) (r : ℚ) (g : ℕ) (e : ED) (A : Dec) (p : ℕ) : Prop where
  inv : Inv c x e A p
  sharp : |A.toRat - r| ≤ Bd r g p * (10 : ℚ) ^ (-(p : ℤ))
  nd : 4 ≤ p → ndigits A.coeff ≤ p
  pv : p = 3 ∨ p = 4 ∨ p = 6 ∨ 10 ≤ p
  fin : p = workp c x + 5 → A.toRat = r

structure Root (c : Ctx) (x : Dec) (r : ℚ) (g : ℕ) : Prop where
  dom : Dom c x
  hF : (f x).toRat = r ^ 2
  hr1 : 1 / 10 ≤ r
  hr2 : r < 1
  grid : ∃ m : ℤ, r = (m : ℚ) * (10 : ℚ) ^ (-(g : ℤ))
  hg : 2 * g + 4 ≤ workp c x + 5

theorem sinv_init (c : Ctx) (x : Dec) (r : ℚ) (g : ℕ) (hR : Root c x r g) :
    SInv c x r g (init c x).1 (init c x).2 3 := by
  have hI := inv_init c x hR.dom
  obtain ⟨w1, w2, w3⟩ := SqrtL.workp_facts c x
  refine ⟨hI, ?_, by omega, Or.inl rfl, by omega⟩
  have := inv_rat c x _ _ 3 hI r (by linarith only [hR.hr1]) hR.hF
  have e : Bd r g 3 * (10 : ℚ) ^ (-((3 : ℕ) : ℤ)) = 1 / 10 * r := by
    have : Bd r g 3 = 100 * r := by
      unfold Bd; rw [if_neg (show ¬ (10 ≤ 3 ∧ g + 3 ≤ 3) by omega)]; split_ifs <;> rfl
    rw [this]; norm_num; ring
  rw [e]; exact this

theorem dec_grid (A : Dec) (hA : Pos A) (n P : ℕ) (hn : ndigits A.coeff ≤ n) (hlo : 9 / 100 ≤ A.toRat)
    (hP : n + 1 ≤ P) : ∃ m : ℤ, A.toRat = (m : ℚ) * (10 : ℚ) ^ (-(P : ℤ)) := by
  have h1 := adj_gt hA (k := -2) (by rw [tm2]; linarith)
  obtain ⟨t, ht⟩ : ∃ t : ℕ, A.exp = -(P : ℤ) + (t : ℤ) := ⟨(A.exp + P).toNat, by omega⟩
  refine ⟨A.coeff * 10 ^ t, ?_⟩
  rw [hA.toRat_eq, ht, zpow_add₀ ten_ne, zpow_natCast]; push_cast; ring

theorem nextP_stage (p maxp : ℕ) (pv : p = 3 ∨ p = 4 ∨ p = 6 ∨ 10 ≤ p) (hm : 12 ≤ maxp) (hlt : p < maxp) :
    stage (nextP p maxp) = min (stage p + 1) 3 ∧
      (nextP p maxp = 3 ∨ nextP p maxp = 4 ∨ nextP p maxp = 6 ∨ 10 ≤ nextP p maxp) := by
  rcases pv with rfl | rfl | rfl | h10
  · have : nextP 3 maxp = 4 := by unfold nextP; rw [if_neg (by omega)]
    rw [this]; exact ⟨by decide, by omega⟩
  · have : nextP 4 maxp = 6 := by unfold nextP; rw [if_neg (by omega)]
    rw [this]; exact ⟨by decide, by omega⟩
  · have : nextP 6 maxp = 10 := by unfold nextP; rw [if_neg (by omega)]
    rw [this]; exact ⟨by decide, by omega⟩
  · have : 10 ≤ nextP p maxp := by unfold nextP; split <;> omega
    rw [stage_of_ge10 this, stage_of_ge10 h10]; exact ⟨rfl, by omega⟩

/-- the point of the lock-in: `2g + 4 ≤ maxp` forces the round before the last to have `p ≥ max 10 (g + 3)` -/
theorem nextP_last (p maxp g : ℕ) (pv : p = 3 ∨ p = 4 ∨ p = 6 ∨ 10 ≤ p) (hm : 12 ≤ maxp) (hlt : p < maxp)
    (hg : 2 * g + 4 ≤ maxp) : p < nextP p maxp ∧ (nextP p maxp = maxp → 10 ≤ p ∧ g + 3 ≤ p) := by
  unfold nextP; split <;> omega

theorem sinv_step (c : Ctx) (x : Dec) (r : ℚ) (g : ℕ) (hR : Root c x r g) (e : ED) (A : Dec) (p : ℕ)
    (hS : SInv c x r g e A p) (hlt : p < workp c x + 5) :
    SInv c x r g (round1 e (f x) A (nextP p (workp c x + 5))).1 (round1 e (f x) A (nextP p (workp c x + 5))).2
      (nextP p (workp c x + 5)) := by
  have hI := hS.inv
  obtain ⟨w1, -, -⟩ := SqrtL.workp_facts c x
  have hd := hR.dom.hd
  obtain ⟨n1, n2, n3⟩ := nextP_facts p (workp c x + 5) hI.p3 (by omega)
  have hr1 := hR.hr1
  obtain ⟨c1, c2⟩ := abs_le.1 (inv_rat c x e A p hI r (by linarith only [hr1]) hR.hF)
  obtain ⟨l1, l2⟩ := nextP_stage p (workp c x + 5) hS.pv (by omega) hlt
  have l3 := nextP_last p (workp c x + 5) g hS.pv (by omega) hlt hR.hg
  generalize nextP p (workp c x + 5) = P at *
  obtain ⟨⟨qh, sh, R⟩, r4, hInext⟩ := inv_round c x hR.dom e A p P hI n1 n2 n3
  rw [hR.hF] at R
  have hSt : StepHyp r g p P A.toRat qh sh (round1 e (f x) A P).2.toRat :=
    ⟨hr1, hR.hr2, hI.p3, l3.1, n2, l1, by linarith only [c1], by linarith only [c2], R, hS.sharp⟩
  obtain ⟨m, hm⟩ := hR.grid
  refine ⟨hInext, hSt.step m hm, fun _ => r4, l2, fun hfin => ?_⟩
  obtain ⟨p10, pg⟩ := l3.2 hfin
  obtain ⟨mA, hmA⟩ := dec_grid A hI.pos p P (hS.nd (by omega)) (hI.bounds hR.dom).1 (by omega)
  exact hSt.lock m hm p10 pg mA hmA

theorem iter_root (c : Ctx) (x : Dec) (r : ℚ) (g : ℕ) (hR : Root c x r g) : (iter c x).2.toRat = r := by
  have hd := hR.dom.hd
  have hS : SInv c x r g (iter c x).1 (iter c x).2 (workp c x + 5) :=
    iter_ind c x (SInv c x r g) (by omega) (sinv_init c x r g hR)
      (fun e A p hS _ hlt => sinv_step c x r g hR e A p hS hlt)
  exact hS.fin rfl

end Apd.SqrtX

#print axioms Apd.SqrtX.iter_root
