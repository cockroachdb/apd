import ApdVerif.Lemmas.LnAccSeries
import ApdVerif.Lemmas.ExpAccLog
import ApdVerif.Lemmas.ExpAccUnits
/-!
# Real analysis of Halley's iteration in `Ln`: the last round `a' = a - 2(E - z)/(E + z)`, `E ≈ exp a`, and the stopping rule

Only the LAST round matters: the stopping rule `|a - a'| ≤ 10^-P |a'|` forces the correction `c` to be tiny,
hence (the correction being `2 tanh(g/2)`, `g = ln(E/z)`) `g` is tiny, hence `a'` is within the error of `Exp`
plus one rounding of `ln z` — whatever the earlier iterates and the starting estimate were.  `omegaE p` is the
log-scale error of that inner `Exp`, `halB p a` the resulting bound on the last iterate.
-/
namespace Apd.LnAcc
open Real Apd.ExpAcc Apd.C12IL

/-- log-scale size of the error of `Exp` in a wide context at precision `p`: the budget `13.4551·10^-cp/20` of `exp_main_path` (series and power)
at `cp ≥ p`, plus the final rounding -/
noncomputable def omegaE (p : Nat) : ℝ := 134551 / 10000 * ((10 : ℝ) ^ (-(p : ℤ)) / 20) + uL p

/-- the bound on the last Halley iterate `a` (`halley_stop`): the inner `Exp`, then in units of `u`
`1.00503 ≥ 1/(1-u)` for the rounding of the iterate itself, `266 ≥ 64.8·4.1` for the four perturbations of the
correction, `23300 ≥ (2·32.4³/3)·1.027` for the cubic term of `2 atanh` -/
noncomputable def halB (p : Nat) (a : ℝ) : ℝ :=
  omegaE p + uR p * (100503 / 100000 * |a| + 266 * uR p + 23300 * uR p ^ 2)

theorem uL_le_omegaE (p : Nat) : uL p ≤ omegaE p :=
  le_add_of_nonneg_left (by positivity)

theorem log_ratio_eq_L2 (E z : ℝ) (hE : 0 < E) (hz : 0 < z) :
    log (E / z) = L2 ((E - z) / (E + z)) := by
  have := log_eq_L2 (E / z) (div_pos hE hz)
  rw [this]; congr 1
  field_simp

theorem L2_sub_two (t : ℝ) (ht : |t| < 1) : |L2 t - 2 * t| ≤ 2 * |t| ^ 3 / 3 * (1 - t ^ 2)⁻¹ := by
  have h := lsum_remainder t ht 1
  rwa [lsum_one, abs_lterm, show ((2 * 1 + 1 : ℕ) : ℝ) = 3 by norm_num] at h

/-- the four roundings of Halley's correction: `e^{4v} - 1 ≤ 4.1u` -/
theorem theta4 (δ1 δ2 δ3 δ4 u : ℝ) (hu : 0 ≤ u) (hu1 : u ≤ 1 / 200)
    (h1 : |δ1| ≤ u) (h2 : |δ2| ≤ u) (h3 : |δ3| ≤ u) (h4 : |δ4| ≤ u) :
    |(1 + δ1) * (1 + δ2) * (1 + δ4) / (1 + δ3) - 1| ≤ 41 / 10 * u := by
  have hlt : u < 1 := hu1.trans_lt (by norm_num)
  have r := (((RelW.one_add δ1 u h1 hlt).mul (RelW.one_add δ2 u h2 hlt)).mul (RelW.one_add δ4 u h4 hlt)).div
    (RelW.one_add δ3 u h3 hlt)
  rw [show (1 : ℝ) * 1 * 1 / 1 = 1 by norm_num,
    show u / (1 - u) + u / (1 - u) + u / (1 - u) + u / (1 - u) = 4 * (u / (1 - u)) by ring] at r
  exact r.abs_sub_one_le.trans (gamma_le 4 _ u (by norm_num) (by norm_num) hu hu1 (by norm_num))

theorem cube_bound (t u : ℝ) (hu : 0 ≤ u) (hu1 : u ≤ 1 / 200) (ht : |t| ≤ 3240 / 100 * u) :
    2 * |t| ^ 3 / 3 * (1 - t ^ 2)⁻¹ ≤ 23300 * u ^ 3 := by
  have hsq : t ^ 2 ≤ (162 / 1000) ^ 2 := by
    rw [← sq_abs]; exact pow_le_pow_left₀ (abs_nonneg _) (by linarith only [ht, hu1]) 2
  have hpos : 0 < 1 - t ^ 2 := by norm_num at hsq; linarith only [hsq]
  have hinv : (1 - t ^ 2)⁻¹ ≤ 1027 / 1000 := by
    rw [inv_le_comm₀ hpos (by norm_num)]
    norm_num at hsq ⊢; linarith only [hsq]
  have hcube : |t| ^ 3 ≤ (3240 / 100 * u) ^ 3 := pow_le_pow_left₀ (abs_nonneg _) ht 3
  calc 2 * |t| ^ 3 / 3 * (1 - t ^ 2)⁻¹ ≤ 2 * (3240 / 100 * u) ^ 3 / 3 * (1027 / 1000) :=
        mul_le_mul (by linarith only [hcube]) hinv (inv_nonneg.2 hpos.le) (by positivity)
    _ ≤ 23300 * u ^ 3 := by linarith only [pow_nonneg hu 3]

theorem halley_hq_small (a u hq Θ c a' δ5 δ6 : ℝ) (hu : 0 ≤ u) (hu1 : u ≤ 1 / 200)
    (hθ : |Θ - 1| ≤ 41 / 10 * u)
    (hc : c = hq * Θ) (ha' : a' = (a - c) * (1 + δ5)) (h5 : |δ5| ≤ u) (h6 : |δ6| ≤ u)
    (hstop : |(a - a') * (1 + δ6)| ≤ 20 * u * |a'|) (hbound : |a'| ≤ 3) :
    |δ5 * (a - c)| ≤ 100503 / 100000 * u * |a'| ∧ |hq| ≤ 6480 / 100 * u := by
  have hu1' : u ≤ 1 := hu1.trans (by norm_num)
  have hua3 : u * |a'| ≤ u * 3 := mul_le_mul_of_nonneg_left hbound hu
  -- `|a - c|(1-u) ≤ |a'|`, and `1/(1-u) ≤ 1.00503`
  have hac_abs : |δ5 * (a - c)| ≤ 100503 / 100000 * u * |a'| := by
    have h1 := (abs_le_of_rounded h5 hu1' ha').1
    have h2 : |a - c| ≤ 100503 / 100000 * |a'| := by
      linarith only [h1, mul_le_mul_of_nonneg_right hu1 (abs_nonneg (a - c)), abs_nonneg a']
    rw [abs_mul]
    exact (mul_le_mul h5 h2 (abs_nonneg _) hu).trans_eq (by ring)
  refine ⟨hac_abs, ?_⟩
  -- `|a - a'|(1-u) ≤ 20u|a'|`
  have hdiff := (abs_le_of_rounded h6 hu1' rfl).1.trans hstop
  have hdiff' : |a - a'| ≤ 12000 / 199 * u := by
    linarith only [mul_le_mul_of_nonneg_right hu1 (abs_nonneg (a - a')), hdiff, hua3]
  -- `c = (a - a') + δ5(a - c)`
  have hc_abs : |c| ≤ 634 / 10 * u := by
    have := abs_add_le (a - a') (δ5 * (a - c))
    rw [show a - a' + δ5 * (a - c) = c by rw [ha']; ring] at this
    linarith only [this, hdiff', hac_abs, hua3, hu]
  have h1' := (abs_le_of_rounded hθ (by linarith only [hu1])
    (show c = hq * (1 + (Θ - 1)) by rw [hc]; ring)).1.trans hc_abs
  linarith only [mul_le_mul_of_nonneg_right hu1 (abs_nonneg hq), h1', hu]

theorem abs_log_sub_of_logNear {ω a E : ℝ} (h : LogNear ω (exp a) E) : |log E - a| ≤ ω := by
  have hE : 0 < E := h.pos (exp_pos a)
  obtain ⟨l, r⟩ := h
  rw [← exp_add] at l r
  exact abs_le.2 ⟨by linarith only [(Real.le_log_iff_exp_le hE).2 l], by linarith only [(Real.log_le_iff_le_exp hE).2 r]⟩

theorem halley_core (z a E ω u hq Θ c a' δ5 δ6 : ℝ) (hz : 0 < z) (hEpos : 0 < E) (hu : 0 ≤ u) (hu1 : u ≤ 1 / 200)
    (hlogE : |log E - a| ≤ ω) (hhq : hq = 2 * ((E - z) / (E + z))) (hθ : |Θ - 1| ≤ 41 / 10 * u)
    (hc : c = hq * Θ) (ha' : a' = (a - c) * (1 + δ5)) (h5 : |δ5| ≤ u) (h6 : |δ6| ≤ u)
    (hstop : |(a - a') * (1 + δ6)| ≤ 20 * u * |a'|) (hbound : |a'| ≤ 3) :
    |a' - log z| ≤ ω + u * (100503 / 100000 * |a'| + 266 * u + 23300 * u ^ 2) := by
  obtain ⟨hac_abs, hhq_abs⟩ := halley_hq_small a u hq Θ c a' δ5 δ6 hu hu1 hθ hc ha' h5 h6 hstop hbound
  have hg : log (E / z) = L2 (hq / 2) := by
    rw [log_ratio_eq_L2 E z hEpos hz, hhq]; congr 1; ring
  have ht_abs : |hq / 2| ≤ 3240 / 100 * u := by
    rw [abs_div, abs_two]; linarith only [hhq_abs]
  have hL2 := L2_sub_two (hq / 2) (by linarith only [ht_abs, hu1])
  have e2 : 2 * (hq / 2) = hq := by ring
  rw [e2] at hL2
  have hghq : |log (E / z) - hq| ≤ 23300 * u ^ 3 := by
    rw [hg]; exact le_trans hL2 (cube_bound (hq / 2) u hu hu1 ht_abs)
  have hlogdiv : log (E / z) = log E - log z := Real.log_div hEpos.ne' hz.ne'
  have hterm3 : |hq * (Θ - 1)| ≤ 266 * u ^ 2 := by
    rw [abs_mul]
    calc |hq| * |Θ - 1| ≤ (6480 / 100 * u) * (41 / 10 * u) := mul_le_mul hhq_abs hθ (abs_nonneg _) (by positivity)
      _ ≤ 266 * u ^ 2 := by linarith only [sq_nonneg u]
  have id : a' - log z = (log (E / z) - hq) - (log E - a) + (-(hq * (Θ - 1))) + δ5 * (a - c) := by
    rw [ha', hc, hlogdiv]; ring
  rw [id]
  calc _ ≤ |log (E / z) - hq - (log E - a)| + |-(hq * (Θ - 1))| + |δ5 * (a - c)| := abs_add_three _ _ _
    _ ≤ (23300 * u ^ 3 + ω) + 266 * u ^ 2 + 100503 / 100000 * u * |a'| :=
        add_le_add (add_le_add ((abs_sub _ _).trans (add_le_add hghq hlogE)) (by rw [abs_neg]; exact hterm3)) hac_abs
    _ = _ := by ring

/-- The last Halley round under the stopping rule: `hE` is the inner `Exp`, `δ1`…`δ5` perturb the five operations of
the round, `hstop` is the stopping test `|rnd(a - a')| ≤ 10^-P |a'|`, `10^-P = 20u`. -/
theorem halley_stop (z a E ω δ1 δ2 δ3 δ4 δ5 δ6 u : ℝ) (hz : 0 < z) (hu : 0 ≤ u) (hu1 : u ≤ 1 / 200)
    (hE : LogNear ω (exp a) E)
    (h1 : |δ1| ≤ u) (h2 : |δ2| ≤ u) (h3 : |δ3| ≤ u) (h4 : |δ4| ≤ u) (h5 : |δ5| ≤ u) (h6 : |δ6| ≤ u)
    (a' : ℝ)
    (ha' : a' = (a - ((E - z) * (1 + δ1) + (E - z) * (1 + δ1)) * (1 + δ2) / ((E + z) * (1 + δ3)) * (1 + δ4)) * (1 + δ5))
    (hstop : |(a - a') * (1 + δ6)| ≤ 20 * u * |a'|) (hbound : |a'| ≤ 3) :
    |a' - log z| ≤ ω + u * (100503 / 100000 * |a'| + 266 * u + 23300 * u ^ 2) := by
  have hEpos : 0 < E := hE.pos (exp_pos a)
  rw [show ((E - z) * (1 + δ1) + (E - z) * (1 + δ1)) * (1 + δ2) / ((E + z) * (1 + δ3)) * (1 + δ4) =
      (2 * ((E - z) / (E + z))) * ((1 + δ1) * (1 + δ2) * (1 + δ4) / (1 + δ3)) by
    rw [div_mul_eq_mul_div, mul_div_assoc' 2, div_mul_div_comm]; congr 1; ring] at ha'
  exact halley_core z a E ω u _ _ _ a' δ5 δ6 hz hEpos hu hu1 (abs_log_sub_of_logNear hE) rfl
    (theta4 δ1 δ2 δ3 δ4 u hu hu1 h1 h2 h3 h4) rfl ha' h5 h6 hstop hbound

end Apd.LnAcc
