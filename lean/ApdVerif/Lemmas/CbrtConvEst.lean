import ApdVerif.Lemmas.CbrtConvMain
import ApdVerif.Lemmas.CbrtConvIter
/-!
# `Context.Cbrt` converges — the first iterate (estimate and scaling back), and the Newton loop from it
-/
namespace Apd.CbrtC
open Apd.C20L Apd.SqrtL Apd.CbrtL Apd.CbrtR

/-- the first iterate `z0`: no operation fails, and `z0³` is within `[0.97³/65, 1.03³·65]` of `|x|`.  While the estimate
is scaled back, every intermediate value lies between the estimate — within `[9/20, 1]`, up to the roundings so far — and
the last value, whose cube is close to `|x|` (`chain_cube`), so that it lies in `[10^(a-1), 10^(a+2))`. -/
theorem stage_est (cc : Ctx) (P : ℕ) (ax : Dec) (A a : ℤ) (S : Side P ax A a) (hw : NCtx cc (P * 2 + 2))
    (hax : Pos ax) (ed2 : ED) (z1 z2 : Dec) (d u : ℕ) (he2 : EDg cc ed2) (hz2 : Pos z2)
    (hd2 : z2 = ax ∨ ndigits z2.coeff ≤ P * 2 + 2) (hN : d + u ≤ 2 * A.natAbs + 2)
    (hb1 : Upto (eps (P * 2 + 2)) d (ax.toRat * 8 ^ d) z1.toRat)
    (hb2 : Upto (eps (P * 2 + 2)) u (z1.toRat * (1 / 8) ^ u) z2.toRat)
    (hlo : 1249 / 10000 ≤ z2.toRat) (hhi : z2.toRat ≤ 1) :
    EDg cc (est ed2 z2 d u).1 ∧ Pos (est ed2 z2 d u).2 ∧ ndigits (est ed2 z2 d u).2.coeff ≤ P * 2 + 2 ∧
    (97 / 100) ^ 3 * (1 / 65) * ax.toRat ≤ (est ed2 z2 d u).2.toRat ^ 3 ∧
    (est ed2 z2 d u).2.toRat ^ 3 ≤ (103 / 100) ^ 3 * 65 * ax.toRat := by
  have hp4 : 4 ≤ P * 2 + 2 := by have := S.hP; omega
  have hP2 := S.hP2
  obtain ⟨hε0, hε⟩ := S.eps_le
  have hε1 : eps (P * 2 + 2) ≤ 1 := hε.trans (by norm_num)
  have h1e : 0 < 1 - eps (P * 2 + 2) := by linarith only [hε]
  have h1e' : 1 - eps (P * 2 + 2) ≤ 1 + eps (P * 2 + 2) := by linarith only [hε0]
  obtain ⟨r1, r2, r3, r4, r5, r6⟩ := S.ranges
  obtain ⟨hXA, hX3⟩ := S.X_rng hax
  have hX0 := hXA.pos
  have hH1 := S.H1
  have hH2 := S.H2
  have hc := (hb1.mul_right (by positivity : (0 : ℚ) ≤ (1 / 8) ^ u)).trans hb2 hε0 hε1
  rw [mul_assoc] at hc
  -- the operand of the estimate
  have hz2r : Rng z2.toRat (-1) 1 := ⟨by rw [tm1]; linarith only [hlo], by rw [t1]; linarith only [hhi]⟩
  have hz2e : -100000 + ((P * 2 + 2 : ℕ) : ℤ) ≤ z2.exp ∧ -99992 ≤ z2.exp ∧ ndigits z2.coeff ≤ 99990 := by
    rcases hd2 with h | h
    · rw [h]; have := S.S1; have := S.hnd; have := S.hP; refine ⟨?_, ?_, ?_⟩ <;> omega
    · have := (hz2r.exp hz2 h).1
      refine ⟨?_, ?_, ?_⟩ <;> omega
  obtain ⟨g1, g2, g3, g4⟩ := est4_fw cc (P * 2 + 2) hw hp4 (by omega) ed2 z2 he2 hz2 hz2e.2.2 hz2e.1 hz2e.2.1 hlo hhi
  obtain ⟨pc1, pc2⟩ := pc_range z2.toRat hlo hhi
  unfold est
  generalize est4 ed2 z2 = r4 at g1 g2 g3 g4 ⊢
  have hy0 := g2.toRat_pos
  obtain ⟨hylo, hyhi⟩ := g4.near (by linarith only [pc1]) (by norm_num) hε0 hε
  have hy1 : r4.2.toRat ≤ 1 := by linarith only [hyhi, pc2]
  have hy2 : 9 / 20 ≤ r4.2.toRat := by linarith only [hylo, pc1]
  -- all the roundings together cost at most a factor 65
  have pb := fun k (hk : k ≤ 8 * A.natAbs + 20) =>
    pow_bounds_wide (eps (P * 2 + 2)) (8 * A.natAbs + 20) k hε0 hε S.hK hk
  have hXlo : (10 : ℚ) ^ (3 * a - 3) ≤ (97 / 100) ^ 3 * (1 / 65) * ax.toRat := by
    rw [zpow_sub₀ ten_ne, show (10 : ℚ) ^ (3 : ℤ) = 1000 by norm_num]
    linarith only [hX3.1, tp (3 * a)]
  have hXhi : (103 / 100) ^ 3 * 65 * ax.toRat < (10 : ℚ) ^ (3 * a + 6) := by
    rw [show 3 * a + 6 = 3 * a + 3 + 3 by ring, zpow_add₀ ten_ne, show (10 : ℚ) ^ (3 : ℤ) = 1000 by norm_num]
    linarith only [hX3.2, tp (3 * a + 3)]
  -- the scaling back, `M = |d - u|` times by `k = 0.5` or `2`
  have back : ∀ (k : Dec) (M : ℕ), Dg 1 k (-1) 1 → -1 ≤ k.exp ∧ k.exp ≤ 0 →
      (k.toRat ^ M) ^ 3 * (8 ^ d * (1 / 8) ^ u) = 1 → M ≤ d + u →
      EDg cc (mulN k M r4.1 r4.2).1 ∧ Pos (mulN k M r4.1 r4.2).2 ∧ ndigits (mulN k M r4.1 r4.2).2.coeff ≤ P * 2 + 2 ∧
      (97 / 100) ^ 3 * (1 / 65) * ax.toRat ≤ (mulN k M r4.1 r4.2).2.toRat ^ 3 ∧
      (mulN k M r4.1 r4.2).2.toRat ^ 3 ≤ (103 / 100) ^ 3 * 65 * ax.toRat := by
    intro k M K hke hST hM
    have hk0 := K.pos.toRat_pos
    obtain ⟨hKM1, hKM2, -, -⟩ := pb (d + u + 12 + 3 * M) (by omega)
    have cube := fun (w : ℚ) (h : Upto (eps (P * 2 + 2)) M (r4.2.toRat * k.toRat ^ M) w) =>
      chain_cube ax.toRat z2.toRat r4.2.toRat w (eps (P * 2 + 2)) (8 ^ d * (1 / 8) ^ u) (k.toRat ^ M)
        (1 / 65) 65 (d + u) M hX0 (by positivity) hST hε0 hε hKM1 hKM2 hc hlo hhi g4 h
    -- the two ends of the last value: their cubes are close to `|x|`, so they lie in `[10^(a-1), 10^(a+2))`
    have hpw := mul_le_mul_of_nonneg_left (pow_le_pow_left₀ h1e.le h1e' M)
      (show 0 ≤ r4.2.toRat * k.toRat ^ M by positivity)
    have hwl := ge_of_cube _ a (show 0 < r4.2.toRat * k.toRat ^ M * (1 - eps (P * 2 + 2)) ^ M by
      have := pow_pos h1e M; positivity) (hXlo.trans (cube _ ⟨le_refl _, hpw⟩).1)
    have hwu := lt_of_cube _ a (lt_of_le_of_lt (cube _ ⟨hpw, le_refl _⟩).2 hXhi)
    obtain ⟨f1, f2, f3, f4⟩ := mulN_fw cc (P * 2 + 2) hw hp4 k K.pos M r4.1 r4.2 g1 g2 g3
      (fun z j hj hz hzd hb => by
        -- an intermediate value lies between the start, within `[9/20, 1]`, and the last value
        obtain ⟨q1, q2, -, -⟩ := pb j (by omega)
        obtain ⟨b1, b2⟩ := hb.range (by positivity) q1 q2
        have hzr : Rng z.toRat (min (a - 1) (-3)) (max (a + 2) 2) := by
          rcases le_total k.toRat 1 with hk1 | hk1
          · have b3 : r4.2.toRat * k.toRat ^ j * 65 ≤ 1 * 1 * 65 :=
              mul_le_mul_of_nonneg_right (mul_le_mul hy1 (pow_le_one₀ hk0.le hk1) (by positivity) (by norm_num))
                (by norm_num)
            exact ⟨(zpow_le_zpow_right₀ ten_ge (min_le_left _ _)).trans
                (hwl.trans (hb.chain_ge (M := M) hj.le hy0.le hk0.le hk1 hε0 hε1)),
              lt_of_lt_of_le (by rw [t2]; linarith only [b2, b3]) (zpow_le_zpow_right₀ ten_ge (le_max_right _ _))⟩
          · have b3 : 9 / 20 * 1 * (1 / 65) ≤ r4.2.toRat * k.toRat ^ j * (1 / 65) :=
              mul_le_mul_of_nonneg_right (mul_le_mul hy2 (one_le_pow₀ hk1) (by norm_num) hy0.le) (by norm_num)
            exact ⟨(zpow_le_zpow_right₀ ten_ge (min_le_right _ _)).trans (by rw [t3]; linarith only [b1, b3]),
              lt_of_lt_of_le (lt_of_le_of_lt (hb.chain_le (M := M) hj.le hy0.le hk1 hε0) hwu)
                (zpow_le_zpow_right₀ ten_ge (le_max_left _ _))⟩
        have Z : Dg (P * 2 + 2) z _ _ := ⟨hz, hzd, hzr⟩
        obtain ⟨x1, x2⟩ := Z.exp
        exact fun e he => (Dg.mul_fw (cur := z) hw hp4 he Z K (by omega)).1.nf)
    exact ⟨f1, f2, f3, cube _ f4⟩
  split_ifs with hdu
  · exact back decHalf (d - u)
      ⟨decHalf_pos, by decide, by rw [tm1]; norm_num [decHalf_toRat], by rw [t1]; norm_num [decHalf_toRat]⟩ (by decide)
      (by rw [decHalf_toRat]; exact scale_id1 d u (by omega)) (by omega)
  · exact back decTwo (u - d)
      ⟨decTwo_pos, by decide, by rw [tm1]; norm_num [decTwo_toRat], by rw [t1]; norm_num [decTwo_toRat]⟩ (by decide)
      (by rw [decTwo_toRat]; exact scale_id2 d u (by omega)) (by omega)

theorem real_root (X : ℚ) (a : ℤ) (hX : Rng X (3 * a) (3 * a + 3)) :
    ∃ r : ℝ, 0 < r ∧ (X : ℝ) = r ^ 3 ∧ (10 : ℝ) ^ a ≤ r ∧ r < (10 : ℝ) ^ (a + 1) := by
  have hXr : (0 : ℝ) < (X : ℝ) := by exact_mod_cast hX.pos
  obtain ⟨r, hr0, hr3⟩ := CbrtN.exists_cube_root hXr
  have h1 : ((10 : ℝ) ^ a) ^ 3 ≤ (X : ℝ) := by
    have : (((10 : ℚ) ^ (3 * a) : ℚ) : ℝ) ≤ (X : ℝ) := by exact_mod_cast hX.1
    push_cast at this
    rw [← zpow_natCast, ← zpow_mul]
    convert this using 2
    push_cast; ring
  have h2 : (X : ℝ) < ((10 : ℝ) ^ (a + 1)) ^ 3 := by
    have : (X : ℝ) < (((10 : ℚ) ^ (3 * a + 3) : ℚ) : ℝ) := by exact_mod_cast hX.2
    push_cast at this
    rw [← zpow_natCast, ← zpow_mul]
    convert this using 2
    push_cast; ring
  have p1 : (0 : ℝ) < (10 : ℝ) ^ a := zpow_pos (by norm_num) a
  have p2 : (0 : ℝ) < (10 : ℝ) ^ (a + 1) := zpow_pos (by norm_num) _
  refine ⟨r, hr0, hr3, ?_, ?_⟩
  · rw [hr3] at h1
    exact le_of_pow_le_pow_left₀ (by norm_num) hr0.le h1
  · rw [hr3] at h2
    exact lt_of_pow_lt_pow_left₀ 3 p2.le h2

theorem stage_iter (cc : Ctx) (P : ℕ) (ax : Dec) (A a : ℤ) (S : Side P ax A a) (hw : NCtx cc (P * 2 + 2))
    (hax : Pos ax) (e : ED) (z0 : Dec) (he : EDg cc e) (hz0 : Pos z0) (hnd : ndigits z0.coeff ≤ P * 2 + 2)
    (hlo : (97 / 100) ^ 3 * (1 / 65) * ax.toRat ≤ z0.toRat ^ 3)
    (hhi : z0.toRat ^ 3 ≤ (103 / 100) ^ 3 * 65 * ax.toRat) (er : ErrKind) :
    cbrtIter cc ((P : ℤ) + 1) (10 + (P + 1)) ax (10 + (P + 1) + 2) e z0 {} ≠ some (.inl er) := by
  obtain ⟨r1, r2, r3, r4, r5, r6⟩ := S.ranges
  obtain ⟨hXA, hX3⟩ := S.X_rng hax
  obtain ⟨r, hr0, hr3, hr1, hr2⟩ := real_root ax.toRat a hX3
  have hnp := ndigits_pos ax.coeff
  have hA := S.hA
  have Su : Setup cc P ax a r :=
    { hw := hw, hP := S.hP, hp2 := by have := S.hP2; omega, hax := hax, haxd := by have := S.hnd; omega
      H1 := by have := S.H1; push_cast; omega
      H2 := by have := S.H2; omega
      H3 := S.H3
      H4 := by have := S.H2; have := S.hP2; push_cast; omega
      hX := hX3, hr := hr0, hr3 := hr3, hr1 := hr1, hr2 := hr2 }
  obtain ⟨w1, w2⟩ := start_wide z0.toRat ax.toRat r hr0 hr3 hz0.toRat_pos hlo hhi
  exact iter_fw Su (10 + (P + 1)) (by omega) _ e z0 he ⟨hz0, hnd, (near_lt (by norm_num)).2 ⟨w1, w2⟩⟩ er

end Apd.CbrtC

#print axioms Apd.CbrtC.stage_est
#print axioms Apd.CbrtC.stage_iter
