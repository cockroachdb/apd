import ApdVerif.Props.RoundCore
import ApdVerif.Lemmas.QuoLemmas
import ApdVerif.Lemmas.C03Lemmas
import ApdVerif.Lemmas.CbrtCheck
import ApdVerif.Lemmas.CbrtRules
/-!
# Cbrt and the integer path of Pow: the caller's traps and range act at the end only

The caller's trap set does nothing but re-trap the outcome (`retrap`; `cbrtOp_wt`, `cbrt_traps`).  A delivered finite
result fits the caller's context (`tail_fits`, `cbrt_fits`, `powInt_fits`): an iterate has at most `2·Precision+2` digits,
being a quotient by three under the working context (`round_digits`), and when the final rounding hits a system limit and
the re-check still passes, the result fits all the same (`round_sys_cube`).
-/
namespace Apd.C07R
open Apd Apd.Oracle Apd.Props Apd.C03L Apd.CbrtL Cond

theorem retrap_failOut (t : Cond) (e : ErrKind) : retrap t (failOut e) = failOut e := by
  unfold retrap failOut
  by_cases h : e = .none
  · subst h; simp [goError_noFlags]
  · simp [h]

theorem tail_wt (c : Ctx) (t : Cond) (x z : Dec) (fl : Cond) :
    tail (wt c t) x fl z = retrap t (tail (wt c {}) x fl z) := by
  have hr : ∀ t, ctxRound { wt c t with mode := .halfEven } z = ctxRound { c with mode := .halfEven } z :=
    fun t => ctxRound_wt { c with mode := .halfEven } t z
  have hn : ∀ t, nc (wt c t) = nc c := fun _ => rfl
  unfold tail
  rw [hr, hr]
  simp only [hn, wt_prec, wt_traps]
  split_ifs
  · exact (retrap_failOut _ _).symm
  · exact (plain_retrap _ _).symm
  · exact (retrap_mk_goError _ _ _ _).symm

theorem cbrtOp_wt (c : Ctx) (t : Cond) (x : Dec) :
    cbrtOp (wt c t) x = (cbrtOp (wt c {}) x).map (retrap t) := by
  have hs := rootSpecials_wt c t x 3
  rw [C11_cbrt_obs_factor, C11_cbrt_obs_factor, cbrtTail_eq]
  cases h : rootSpecials (wt c {}) x 3 with
  | some o =>
    rw [h] at hs
    unfold cbrtPrefix
    rw [h, hs]; rfl
  | none =>
    rw [h] at hs
    rw [prefix_congr (wt c {}) (wt c t) x rfl h hs]
    cases hp : cbrtPrefix (wt c {}) x with
    | none => rfl
    | some s =>
      rcases prefix_some _ x s h hp with ⟨er, -, rfl⟩ | ⟨_, _, _, _, _, _, _, -, -, -, rfl⟩
      · exact congrArg some (retrap_failOut t er).symm
      · exact congrArg some (tail_wt c t x _ _)

theorem cbrt_traps (c : Ctx) (t : Cond) (x : Dec) :
    match cbrtOp c x, cbrtOp { c with traps := t } x with
    | some o, some o' => (o.err = .none → o'.err = .none → o'.d = o.d ∧ o'.fl = o.fl) ∧
                         (o.err = .none → o'.err ≠ .none → (o.fl &&& t).any = true ∨ o'.err = .sys ∨ o'.err = .other)
    | none, none => True
    | _, _ => False := by
  have h1 : cbrtOp c x = (cbrtOp (wt c {}) x).map (retrap c.traps) := cbrtOp_wt c c.traps x
  have h2 : cbrtOp { c with traps := t } x = (cbrtOp (wt c {}) x).map (retrap t) := cbrtOp_wt c t x
  rw [h1, h2]
  cases cbrtOp (wt c {}) x with
  | none => trivial
  | some o =>
    simp only [Option.map_some, retrap_d, retrap_fl, retrap_err]
    refine ⟨fun _ _ => ⟨trivial, trivial⟩, ?_⟩
    intro ha hb
    by_cases h0 : o.err = .none
    · simp only [h0, ne_eq, not_true_eq_false, if_false] at ha hb ⊢
      rcases (goError_iff t o.fl).1 hb with h | h | h
      · right; left; unfold goError; simp [h]
      · right; left; unfold goError; simp [h]
      · left; exact h
    · simp only [ne_eq, h0, not_false_eq_true, if_true] at ha

theorem mulN_c (k : Dec) : ∀ (n : Nat) (e : ED) (z : Dec), (mulN k n e z).1.c = e.c := by
  intro n
  induction n with
  | zero => intro e z; rfl
  | succ n ih => intro e z; simp only [mulN]; rw [ih, ED.step_c]

theorem est_c (ed : ED) (z : Dec) (down up : Nat) : (est ed z down up).1.c = ed.c := by
  unfold est est4
  simp only []
  split_ifs <;> simp only [mulN_c, ED.step_c]

/-- a quotient delivered finite, without a system flag and without Subnormal has at most `prec` digits: `setExponent`
kept the coefficient, and the sticky digit is handed over only below `emin` -/
theorem quo_digits (c : Ctx) (hp : 1 ≤ c.prec) (a y : Dec) (hy : y.form = .finite) (hy0 : y.coeff ≠ 0)
    (hf : (quoOp c a y).d.form = .finite) (hns : NoSys (quoOp c a y).fl)
    (hsub : (quoOp c a y).fl.subnormal = false) :
    ndigits (quoOp c a y).d.coeff ≤ c.prec := by
  by_cases ha : a.form = .finite
  · by_cases ha0 : a.coeff = 0
    · rw [QuoL.quoOp_zero c a y ha hy hy0 (by omega) ha0] at hns ⊢
      obtain ⟨_, z2, _⟩ := Apd.setExponent_zero c _ {} _ rfl rfl Apd.benign_empty hns
      show ndigits (setExponent _ _ _ _).1.coeff ≤ _
      rw [z2]; exact hp
    · obtain ⟨cf, δ, res, e, hres, -, hcf0, hsh⟩ := QuoL.quoOp_shape c a y ha hy hy0 hp ha0
      rw [e] at hns hf hsub ⊢
      simp only [finish, QuoL.quoFin, Cond.or_subnormal, hres, Bool.false_or] at hns hf hsub ⊢
      obtain ⟨k1, k2⟩ := setExponent_nosub c _ res _ (QuoL.sumInts_quo _ _ _ _) hcf0 (NoSys.or_iff.1 hns).2 hf hsub
      rw [k1]
      rcases hsh with h | ⟨h1, h2, h3⟩
      · exact h.1.le
      · exfalso; simp only [h1, h2] at k2; push_cast at k2; omega
  · exfalso
    revert hf
    cases hform : a.form <;> simp [hform] at ha <;>
      simp [quoOp, quoSpecials, shouldSetAsNaN, Dec.isNaN, hform, hy, setAsNaN, decInf]

theorem round_c (ax : Dec) (e : ED) (z : Dec) : (round ax e z).1.c = e.c := by
  unfold CbrtL.round
  simp only [ED.step_c]

theorem round_last (ax : Dec) (e : ED) (z : Dec) :
    ∃ r4 : ED × Dec, r4.1.c = e.c ∧ round ax e z = r4.1.step r4.2 (fun c => quoOp c r4.2 decThree) :=
  ⟨_, by simp only [ED.step_c], rfl⟩

theorem round_digits (c : Ctx) (ax : Dec) (e : ED) (z : Dec) (hc : e.c = nc c)
    (hnf : (round ax e z).1.failed = false) (hfin : (round ax e z).2.form = .finite) :
    ndigits (round ax e z).2.coeff ≤ c.prec * 2 + 2 := by
  obtain ⟨r4, hc4, hr⟩ := round_last ax e z
  rw [hr] at hnf hfin ⊢
  obtain ⟨hf, -, hfl⟩ := (ED.step_ok_iff _ _ _).1 hnf
  rw [ED.step_val hf] at hfin ⊢
  rw [hc4, hc] at hfl hfin ⊢
  obtain ⟨k1, -, -, k2, -⟩ := goError_default _ hfl
  exact quo_digits (nc c) (by show 1 ≤ c.prec * 2 + 2; omega) r4.2 decThree rfl (by decide) hfin k1 k2

/-- The exactness check of Cbrt passed (both multiplications ran without a system flag) although the final
rounding of the iterate `z` hit a system limit: the (partially updated) result fits the context all the same. -/
theorem round_sys_cube (c : Ctx) (hc : c.WF) (z : Dec) (neg : Bool) (hz : z.form = .finite)
    (hzd : ndigits z.coeff ≤ c.prec * 2 + 2)
    (hsys : ¬ NoSys (ctxRound c z).2)
    (h1 : NoSys (mulOp (nc3 c) { (ctxRound c z).1 with neg := neg } { (ctxRound c z).1 with neg := neg }).fl)
    (h2 : NoSys (mulOp (nc3 c)
      (mulOp (nc3 c) { (ctxRound c z).1 with neg := neg } { (ctxRound c z).1 with neg := neg }).d
      { (ctxRound c z).1 with neg := neg }).fl) :
    fits c (ctxRound c z).1 = true := by
  obtain ⟨hp1, hpe, hemax, hemin, hemin0⟩ := hc
  have hnp := ndigits_pos z.coeff
  have hp3 : 1 ≤ (nc3 c).prec := by show 1 ≤ c.prec * 3; omega
  have hemin3 : (nc3 c).emin = -100000 := rfl
  have hprec3 : (nc3 c).prec = c.prec * 3 := rfl
  rcases ctxRound_exits c hp1 hemin (by omega) (by omega) z hz with
    ⟨hns, -⟩ | ⟨e1, fl, -, hex⟩ | ⟨hl, y1, d1, res, fl, s1, s2, s3, s4, e, -, hex⟩
  · exact absurd hns hsys
  · -- the destination is `z` itself: its square could not have been formed
    exfalso
    rw [e1] at h1
    obtain ⟨⟨⟨f1, f2⟩, -, f5, f6⟩, f7⟩ :=
      mulOp_noSys_inv (nc3 c) rfl rfl (by omega) { z with neg := neg } { z with neg := neg } hz hz h1
    rw [f7, ctxRound_finite _ _ rfl] at h1
    simp only [] at f1 f2 f5 f6
    have hcase : 100000 < z.exp ∨ 100000 < z.exp + (ndigits z.coeff : Int) - 1 ∨
        100000 < (ndigits z.coeff : Int) - (c.prec : Int) ∨ z.exp < -100000 := by
      rcases hex with ⟨-, h⟩ | ⟨-, h⟩ <;> omega
    have hz0 : z.coeff ≠ 0 := by
      intro h0; rw [h0, ndigits_zero] at hcase; omega
    have hpos : 0 < z.coeff := Nat.pos_of_ne_zero hz0
    have hge := ndigits_mul_ge z.coeff z.coeff hpos hpos
    rcases hcase with h | h | h | h
    · omega
    · omega
    · rw [ctxRoundFin, roundX_toobig (nc3 c) _ true rfl (prec_pos_enabled _ true hp3)
        (fun k => by have := k.2; rw [hemin3] at this; dsimp only [Dec.prod] at this; omega)
        (by rw [hprec3]; dsimp only [Dec.prod]; push_cast; omega)] at h1
      cases h1.1
    · omega
  · -- the coefficient was rounded to `prec` digits, the exponent was not set: the cube bounds the exponent
    rw [e] at h1 h2 ⊢
    simp only [] at h1 h2 ⊢
    have hwf : ({ form := z.form, neg := neg, exp := z.exp, coeff := y1 } : Dec).form = .finite := hz
    obtain ⟨W1, -⟩ := mulOp_noSys_inv (nc3 c) rfl rfl (by omega) _ _ hwf hwf h1
    have hge2 := ndigits_mul_ge y1 y1 s1 s1
    have hle2 := ndigits_mul_le y1 y1 s1 s1
    have hpos2 : 0 < y1 * y1 := Nat.mul_pos s1 s1
    -- the square has at most `2·prec` digits: it was not rounded
    rw [mulOp_exact (nc3 c) hp3 rfl rfl _ _ hwf hwf (by rw [hprec3]; dsimp only; omega) W1] at h2
    obtain ⟨⟨-, -, g5, g6⟩, -⟩ := mulOp_noSys_inv (nc3 c) rfl rfl (by omega) _ _ rfl hwf h2
    obtain ⟨⟨f1, f2⟩, -, f5, f6⟩ := W1
    simp only [Dec.prod_exp, Dec.prod_coeff] at f1 f2 f5 f6 g5 g6
    have hge3 := ndigits_mul_ge (y1 * y1) y1 hpos2 s1
    have hfit : z.exp + (ndigits y1 : Int) - 1 ≤ c.emax ∧ z.exp ≥ c.emin - (c.prec : Int) + 1 := by
      rw [s2]
      rcases hex with ⟨-, h⟩ | ⟨-, h⟩ <;> constructor <;> omega
    obtain ⟨t2, t3⟩ := hfit
    simp only [fits, hz]
    simp only [Bool.and_eq_true, Bool.or_eq_true, decide_eq_true_eq, beq_iff_eq]
    exact ⟨⟨Or.inr (by rw [s2]), t2⟩, Or.inr t3⟩

theorem step_noSys (e : ED) (cur : Dec) (op : Ctx → Out) (hnf : (e.step cur op).1.failed = false) :
    e.failed = false ∧ NoSys (op e.c).fl ∧ (e.step cur op).2 = (op e.c).d :=
  have h := (ED.step_ok_iff e cur op).1 hnf
  ⟨h.1, ((goError_none_iff _ _).1 h.2.2).1, ED.step_val h.1 cur op⟩

theorem fits_failOut (c : Ctx) (hc : c.WF) (e : ErrKind) : fits c (failOut e).d = true := by
  obtain ⟨hp1, hpe, _, _, _⟩ := hc
  have hnd0 : ndigits 0 = 1 := rfl
  simp [failOut, fits, hnd0]
  omega

theorem fits_congr (c c' : Ctx) (d d' : Dec) (hp : c'.prec = c.prec) (hx : c'.emax = c.emax) (hn : c'.emin = c.emin)
    (hf : d'.form = d.form) (he : d'.exp = d.exp) (hc : d'.coeff = d.coeff) : fits c' d' = fits c d := by
  unfold fits; rw [hp, hx, hn, hf, he, hc]

theorem fits_neg (c c' : Ctx) (d : Dec) (n : Bool) (hp : c'.prec = c.prec) (hx : c'.emax = c.emax) (hn : c'.emin = c.emin) :
    fits c { d with neg := n } = fits c' d :=
  fits_congr c' c _ _ hp.symm hx.symm hn.symm rfl rfl rfl

theorem tail_fits (c : Ctx) (hc : c.WF) (x z : Dec) (fl5 : Cond)
    (hzd : z.form = .finite → ndigits z.coeff ≤ c.prec * 2 + 2)
    (he : (tail c x fl5 z).err = .none ∨ (tail c x fl5 z).err = .trap)
    (hf : (tail c x fl5 z).d.form = .finite) :
    fits c (tail c x fl5 z).d = true := by
  have hc' : ({ c with mode := .halfEven } : Ctx).WF := hc
  unfold tail at he hf ⊢
  generalize hcc : ({ c with mode := .halfEven } : Ctx) = c' at *
  have hpp : c'.prec = c.prec := by rw [← hcc]
  have hpx : c'.emax = c.emax := by rw [← hcc]
  have hpn : c'.emin = c.emin := by rw [← hcc]
  simp only [] at he hf ⊢
  split_ifs at he hf ⊢ with hq hcmp
  · exact fits_failOut c hc _
  · -- the exact branch drops the flags of the rounding: `he` says nothing about them
    simp only [] at hf ⊢
    have zfin : z.form = .finite := by
      by_contra hnf
      rw [ctxRound_nonfinite c' z hnf] at hf
      exact hnf hf
    rw [fits_neg c c' _ x.neg hpp hpx hpn]
    by_cases hns : NoSys (ctxRound c' z).2
    · exact (C01_roundCore c' hc' z zfin hns).2.2
    · have hq' := Bool.eq_false_iff.2 hq
      obtain ⟨a1, a2, a3⟩ := step_noSys _ _ _ hq'
      obtain ⟨b1, b2, b3⟩ := step_noSys _ _ _ a1
      rw [ED.step_c, b3] at a2
      have h3 : nc3 c' = nc3 c := by unfold nc3 nc; rw [hpp]
      apply round_sys_cube c' hc' z x.neg zfin (by rw [hpp]; exact hzd zfin) hns
      · rw [h3]; exact b2
      · rw [h3]; exact a2
  · simp only [] at he hf ⊢
    have zfin : z.form = .finite := by
      by_contra hnf
      rw [ctxRound_nonfinite c' z hnf] at hf
      exact hnf hf
    rw [fits_neg c c' _ x.neg hpp hpx hpn]
    exact (C01_roundCore c' hc' z zfin (Apd.noSys_of_delivered _ _ he)).2.2

theorem cbrt_fits (c : Ctx) (hc : c.WF) (x : Dec) (o : Out) (ho : cbrtOp c x = some o)
    (he : o.err = .none ∨ o.err = .trap) (hf : o.d.form = .finite) (hx : x.form = .finite) (h0 : x.coeff ≠ 0) :
    fits c o.d = true := by
  rcases cbrtOp_some c x o (rootSpecials_none c x hx h0) ho with
    ⟨er, -, rfl⟩ | ⟨ed1, z1, down, ed2, z2, up, zf, h1, h2, h3, rfl⟩
  · exact fits_failOut c hc er
  · -- a step never changes the context the `ErrDecimal` carries
    have c1 : ed1.c = nc c := (scaleLoop_rule _ _ (fun e _ _ => e.c = nc c)
      (fun e z n h _ _ => (ED.step_c _ _ _).trans h) _ _ _ _ _ h1 rfl).1
    have c2 : ed2.c = nc c := (scaleLoop_rule _ _ (fun e _ _ => e.c = nc c)
      (fun e z n h _ _ => (ED.step_c _ _ _).trans h) _ _ _ _ _ h2 c1).1
    obtain ⟨e0, z0, l0, hc0, hnf, rfl, -⟩ := cbrtIter_rule _ _ _ _ (fun e _ _ => e.c = nc c)
      (fun e z l l' hI _ _ => (round_c _ e z).trans hI) _ _ _ _ _ h3 ((est_c _ _ _ _).trans c2)
    exact tail_fits c hc x _ _ (round_digits c _ e0 z0 hc0 hnf) he hf

theorem powInt_fits (c : Ctx) (hc : c.WF) (x y : Dec) (o : Out) (ho : powIntOp c x y = some o)
    (hs : powSpecials c x y = none)
    (he : o.err = .none ∨ (o.err = .trap ∧ (o.fl &&& c.traps).any = true)) (hf : o.d.form = .finite) :
    fits c o.d = true := by
  unfold powIntOp at ho
  rw [hs] at ho
  simp only [] at ho
  generalize (integerPower _ x _) = ip at ho
  generalize (quantizeCore c (modf y).1 0).2 = qf at ho
  split_ifs at ho with h1 h2
  · injection ho with ho; subst ho; simp [decNaN] at hf
  · injection ho with ho; subst ho
    simp only [finish] at he hf ⊢
    have hd : Delivered (goError c.traps (qf ||| ip.2.1 ||| (ctxRound c ip.1).2)) := by
      rcases he with h | h
      · exact Or.inl h
      · exact Or.inr h.1
    have hns := (Apd.NoSys.or_iff.1 (Apd.noSys_of_delivered _ _ hd)).2
    by_cases hfin : ip.1.form = .finite
    · exact (C01_roundCore c hc ip.1 hfin hns).2.2
    · rw [ctxRound_nonfinite c ip.1 hfin] at hf
      exact absurd hf hfin

end Apd.C07R
