import ApdVerif.Lemmas.CbrtConvLoop
/-!
# `Context.Cbrt` converges — one round of the Newton iteration and the stopping test, forwards

The Newton loop of the model has no error exit, `loop.done` saying yes in round `P + 9` at the latest (`iter_fw`).
-/
namespace Apd.CbrtC
open Apd.C20L Apd.SqrtL Apd.CbrtL Apd.CbrtR

theorem round_nstep (cc : Ctx) (p : Nat) (hw : NCtx cc p) (hp4 : 4 ≤ p)
    (ax : Dec) (hax : Pos ax) (e : ED) (z : Dec) (he : EDg cc e) (hz : Pos z)
    (hnf : (CbrtL.round ax e z).1.failed = false) :
    EDg cc (CbrtL.round ax e z).1 ∧ Pos (CbrtL.round ax e z).2 ∧ ndigits (CbrtL.round ax e z).2.coeff ≤ p ∧
    CbrtN.NStep (5 * (10 : ℚ) ^ (-(p : ℤ))) ax.toRat z.toRat (CbrtL.round ax e z).2.toRat := by
  unfold CbrtL.round at hnf ⊢
  dsimp only at hnf ⊢
  generalize h1' : e.step z (fun c => mulOp c z z) = r1 at hnf ⊢
  generalize h2' : r1.1.step r1.2 (fun c => quoOp c ax r1.2) = r2 at hnf ⊢
  generalize h3' : r2.1.step r2.2 (fun c => addOp c r2.2 z false) = r3 at hnf ⊢
  generalize h4' : r3.1.step r3.2 (fun c => addOp c r3.2 z false) = r4 at hnf ⊢
  generalize h5' : r4.1.step r4.2 (fun c => quoOp c r4.2 decThree) = r5 at hnf ⊢
  have f4 := EDg.nf_back h5' hnf
  have f3 := EDg.nf_back h4' f4
  have f2 := EDg.nf_back h3' f3
  have f1 := EDg.nf_back h2' f2
  have hzp := hz.toRat_pos
  have haxp := hax.toRat_pos
  obtain ⟨E1, o1⟩ := he.mul_back hw.work h1' f1 hz.hf hz.hf
  have P1 := o1.pos (mul_pos hzp hzp)
  obtain ⟨E2, o2⟩ := E1.quo_back hw.work h2' f2 hax.hf P1.hf P1.h0.ne'
  have P2 := o2.pos (div_pos haxp P1.toRat_pos)
  obtain ⟨E3, o3⟩ := E2.add_back hw.work h3' f3 P2.hf hz.hf
  rw [if_neg Bool.false_ne_true] at o3
  have P3 := o3.pos (add_pos P2.toRat_pos hzp)
  obtain ⟨E4, o4⟩ := E3.add_back hw.work h4' f4 P3.hf hz.hf
  rw [if_neg Bool.false_ne_true] at o4
  have P4 := o4.pos (add_pos P3.toRat_pos hzp)
  obtain ⟨E5, o5⟩ := E4.quo_back hw.work h5' hnf P4.hf rfl (by decide)
  rw [decThree_toRat] at o5
  obtain ⟨e1, he1, q1⟩ := o1.rel
  obtain ⟨e2, he2, q2⟩ := o2.rel
  obtain ⟨e3, he3, q3⟩ := o3.rel
  obtain ⟨e4, he4, q4⟩ := o4.rel
  obtain ⟨e5, he5, q5⟩ := o5.rel
  exact ⟨E5, o5.pos (by have := P4.toRat_pos; positivity), o5.nd,
    CbrtN.five_ops haxp hzp (eps_le p hp4) he1 he2 he3 he4 he5 q1 q2 q3 q4 q5⟩

theorem dg_three : Dg 1 decThree 0 1 :=
  ⟨decThree_pos, by decide, by rw [decThree_toRat]; constructor <;> norm_num⟩

theorem round_fw (cc : Ctx) (p : Nat) (hw : NCtx cc p) (hp4 : 4 ≤ p) (hp2 : p ≤ 50000)
    (ax : Dec) (hax : Pos ax) (haxd : ndigits ax.coeff ≤ 100000) (a : ℤ)
    (H1 : -50000 ≤ a - (p : ℤ)) (H2 : a ≤ 33333)
    (H3 : -100000 ≤ ax.exp - 2 * a - 4) (H4 : ax.exp - 2 * a + (p : ℤ) + 2 ≤ 100000)
    (hX : Rng ax.toRat (3 * a) (3 * a + 3))
    (e : ED) (z : Dec) (he : EDg cc e) (Z : Dg p z (a - 1) (a + 2)) :
    EDg cc (CbrtL.round ax e z).1 := by
  have X : Dg (ndigits ax.coeff) ax (3 * a) (3 * a + 3) := ⟨hax, le_refl _, hX⟩
  have hze := Z.exp
  unfold CbrtL.round
  dsimp only
  obtain ⟨g1, D1, -⟩ := Dg.mul_fw (cur := z) hw hp4 he Z Z (by omega)
  generalize e.step z (fun c => mulOp c z z) = s1 at g1 D1 ⊢
  have E1 := D1.exp
  obtain ⟨g2, D2, -⟩ := Dg.quo_fw (cur := s1.2) hw hp4 g1 X D1 (by omega)
  generalize s1.1.step s1.2 (fun c => quoOp c ax s1.2) = s2 at g2 D2 ⊢
  have E2 := D2.exp
  obtain ⟨g3, D3, -⟩ := Dg.add_fw (cur := s2.2) hw hp4 g2 D2 Z (a + 7) (by omega)
  generalize s2.1.step s2.2 (fun c => addOp c s2.2 z false) = s3 at g3 D3 ⊢
  have E3 := D3.exp
  obtain ⟨g4, D4, -⟩ := Dg.add_fw (cur := s3.2) hw hp4 g3 D3 Z (a + 9) (by omega)
  generalize s3.1.step s3.2 (fun c => addOp c s3.2 z false) = s4 at g4 D4 ⊢
  have E4 := D4.exp
  have c3e : decThree.exp = 0 := rfl
  exact (Dg.quo_fw (cur := s4.2) hw hp4 g4 D4 dg_three (by omega)).1

theorem loopDone_done (cc : Ctx) (p P : Nat) (hp4 : 4 ≤ p)
    (maxIter : Nat) (l : LoopSt) (z : Dec) (hz : Pos z)
    (F : OpOk cc.traps p (l.prevZ.toRat + -z.toRat) (addOp cc l.prevZ z true))
    (hsmall : |l.prevZ.toRat - z.toRat| * (2001 / 2000) ≤ z.toRat * ((10 : ℚ) ^ (-(P : ℤ)) / 10)) :
    loopDone cc ((P : ℤ) + 1) maxIter l z = .done := by
  rw [loopDone_eq, if_neg (not_not_intro F.err), if_pos]
  rw [stop_iff _ z _ F.r.fin,
    show -((P : ℤ) + 1) + (ndigits z.coeff : ℤ) + z.exp = -(P : ℤ) + (z.exp + (ndigits z.coeff : ℤ)) + (-1) by ring,
    zpow_add₀ ten_ne, zpow_add₀ ten_ne, tm1]
  have hv := F.r.val
  rw [← sub_eq_add_neg] at hv
  generalize l.prevZ.toRat - z.toRat = v at hv hsmall
  have h2 : |(addOp cc l.prevZ z true).d.toRat| ≤ |v| + |(addOp cc l.prevZ z true).d.toRat - v| := by
    have := abs_add_le v ((addOp cc l.prevZ z true).d.toRat - v)
    rwa [add_sub_cancel] at this
  have hb := mul_le_mul_of_nonneg_right (eps_le p hp4) (abs_nonneg v)
  have h3 := mul_le_mul_of_nonneg_left (toRat_bounds hz).2.le (tp (-(P : ℤ))).le
  linarith

theorem nstep_near (X z0 z t : ℚ) (r : ℝ) (hr : 0 < r) (hr3 : (X : ℝ) = r ^ 3) (hz0 : 0 < z0) (ht : 0 < t)
    (ht1 : t ≤ 1 / 10) (hN : CbrtN.NStep (t ^ 2 / 20) X z0 z) (k : ℕ) (hinv : Near k (t : ℝ) ((z0 : ℝ) / r)) :
    Near (k + 1) (t : ℝ) ((z : ℝ) / r) := by
  have hq := (Rat.cast_le (K := ℝ)).2 hN
  have ht1r := (Rat.cast_le (K := ℝ)).2 ht1
  push_cast at hq ht1r
  exact near_step k (t : ℝ) _ _ _ (by exact_mod_cast ht.le) ht1r hinv (CbrtN.newton_norm hr hr3 (by exact_mod_cast hz0))
    (CbrtN.rel_div hr (hq.trans_eq (show _ = 251 / 1000 * (t : ℝ) ^ 2 * _ by ring)))

theorem rng_of_real (z : ℚ) (r : ℝ) (a : ℤ) (hr1 : (10 : ℝ) ^ a ≤ r) (hr2 : r < (10 : ℝ) ^ (a + 1))
    (h1 : 24 / 100 ≤ (z : ℝ) / r) (h2 : (z : ℝ) / r ≤ 5963 / 1000) : Rng z (a - 1) (a + 2) := by
  have hr : 0 < r := lt_of_lt_of_le (zpow_pos (by norm_num) a) hr1
  have l' : (24 / 100) * r ≤ (z : ℝ) := by rwa [le_div_iff₀ hr] at h1
  have u' : (z : ℝ) ≤ (5963 / 1000) * r := by rwa [div_le_iff₀ hr] at h2
  have ha : (0 : ℝ) < (10 : ℝ) ^ a := zpow_pos (by norm_num) a
  have e1 : (10 : ℝ) ^ (a - 1) = (10 : ℝ) ^ a / 10 := by rw [zpow_sub_one₀ (by norm_num)]; ring
  have e2 : (10 : ℝ) ^ (a + 2) = (10 : ℝ) ^ (a + 1) * 10 := by
    rw [show a + 2 = a + 1 + 1 by ring, zpow_add_one₀ (by norm_num)]
  have e3 : (10 : ℝ) ^ (a + 1) = (10 : ℝ) ^ a * 10 := zpow_add_one₀ (by norm_num) a
  constructor
  · have : (10 : ℝ) ^ (a - 1) ≤ (z : ℝ) := by rw [e1]; linarith
    have h2 : (((10 : ℚ) ^ (a - 1) : ℚ) : ℝ) ≤ (z : ℝ) := by push_cast; exact this
    exact_mod_cast h2
  · have : (z : ℝ) < (10 : ℝ) ^ (a + 2) := by rw [e2]; rw [e3] at hr2 ⊢; linarith
    have h2 : (z : ℝ) < (((10 : ℚ) ^ (a + 2) : ℚ) : ℝ) := by push_cast; exact this
    exact_mod_cast h2

theorem stop_real (z0 z tq : ℚ) (r : ℝ) (hr : 0 < r) (P k : ℕ) (hP : 1 ≤ P) (hk : P + 1 ≤ k)
    (htq : tq = (10 : ℚ) ^ (-(P : ℤ)))
    (ha : |(z0 : ℝ) / r - 1| ≤ Ebound k (tq : ℝ))
    (hw : |(z : ℝ) / r - 1| ≤ Ebound (k + 1) (tq : ℝ)) :
    |z0 - z| * (2001 / 2000) ≤ z * (tq / 10) := by
  have ht0 : (0 : ℝ) < (tq : ℝ) := by rw [htq]; exact_mod_cast tp (-(P : ℤ))
  have ht1 : (tq : ℝ) ≤ 1 / 10 := by
    have := ten_negP P hP
    rw [← htq] at this
    have : ((tq : ℚ) : ℝ) ≤ ((1 / 10 : ℚ) : ℝ) := by exact_mod_cast this
    simpa using this
  have hs : ((1 : ℝ) / 10) ^ k ≤ (tq : ℝ) / 10 := by
    have h1 : ((1 : ℝ) / 10) ^ k ≤ ((1 : ℝ) / 10) ^ (P + 1) :=
      pow_le_pow_of_le_one (by norm_num) (by norm_num) hk
    have h2 : ((1 : ℝ) / 10) ^ (P + 1) = (tq : ℝ) / 10 := by
      rw [htq]
      push_cast
      rw [zpow_neg, zpow_natCast, pow_succ, one_div, inv_pow]
      ring
    linarith
  unfold Ebound at ha hw
  rw [pow_succ] at hw
  have := stop_ok ((z0 : ℝ) / r) ((z : ℝ) / r) (tq : ℝ) (((1 : ℝ) / 10) ^ k) ht0 ht1 (by positivity) hs ha hw
  have e : (z0 : ℝ) / r - (z : ℝ) / r = ((z0 : ℝ) - z) / r := by ring
  rw [e, abs_div, abs_of_pos hr] at this
  have h3 : |(z0 : ℝ) - z| * (2001 / 2000) ≤ (z : ℝ) * ((tq : ℝ) / 10) := by
    have h4 := mul_le_mul_of_nonneg_right this hr.le
    have e1 : |(z0 : ℝ) - z| / r * (2001 / 2000) * r = |(z0 : ℝ) - z| * (2001 / 2000) := by field_simp
    have e2 : (z : ℝ) / r * ((tq : ℝ) / 10) * r = (z : ℝ) * ((tq : ℝ) / 10) := by field_simp
    rw [e1, e2] at h4; exact h4
  have h5 : (((|z0 - z| * (2001 / 2000) : ℚ)) : ℝ) ≤ ((z * (tq / 10) : ℚ) : ℝ) := by
    push_cast; exact h3
  exact_mod_cast h5

/-- what the loop needs to know about the working context, the operand `ax = |x|` and its real cube root `r` -/
structure Setup (cc : Ctx) (P : ℕ) (ax : Dec) (a : ℤ) (r : ℝ) : Prop where
  hw : NCtx cc (P * 2 + 2)
  hP : 1 ≤ P
  hp2 : P * 2 + 2 ≤ 50000
  hax : Pos ax
  haxd : ndigits ax.coeff ≤ 100000
  H1 : -50000 ≤ a - ((P * 2 + 2 : ℕ) : ℤ)
  H2 : a ≤ 33333
  H3 : -100000 ≤ ax.exp - 2 * a - 4
  H4 : ax.exp - 2 * a + ((P * 2 + 2 : ℕ) : ℤ) + 2 ≤ 100000
  hX : Rng ax.toRat (3 * a) (3 * a + 3)
  hr : 0 < r
  hr3 : (ax.toRat : ℝ) = r ^ 3
  hr1 : (10 : ℝ) ^ a ≤ r
  hr2 : r < (10 : ℝ) ^ (a + 1)

structure Inv (P : ℕ) (r : ℝ) (k : ℕ) (z : Dec) : Prop where
  pos : Pos z
  nd : ndigits z.coeff ≤ P * 2 + 2
  err : Near k (((10 : ℚ) ^ (-(P : ℤ)) : ℚ) : ℝ) ((z.toRat : ℝ) / r)

theorem tq_facts (P : ℕ) (hP : 1 ≤ P) :
    (0 : ℝ) ≤ (((10 : ℚ) ^ (-(P : ℤ)) : ℚ) : ℝ) ∧ (((10 : ℚ) ^ (-(P : ℤ)) : ℚ) : ℝ) ≤ 1 / 10 := by
  constructor
  · exact_mod_cast (tp (-(P : ℤ))).le
  · have := ten_negP P hP
    have : (((10 : ℚ) ^ (-(P : ℤ)) : ℚ) : ℝ) ≤ ((1 / 10 : ℚ) : ℝ) := by exact_mod_cast this
    simpa using this

theorem Inv.dg {cc : Ctx} {P : ℕ} {ax : Dec} {a : ℤ} {r : ℝ} {k : ℕ} {z : Dec} (S : Setup cc P ax a r)
    (h : Inv P r k z) : Dg (P * 2 + 2) z (a - 1) (a + 2) := by
  obtain ⟨t0, t1⟩ := tq_facts P S.hP
  obtain ⟨n1, n2⟩ := near_range k _ _ t0 t1 h.err
  exact ⟨h.pos, h.nd, rng_of_real z.toRat r a S.hr1 S.hr2 n1 n2⟩

/-- the subtraction of `loop.done` -/
theorem sub_fw (cc : Ctx) (p : Nat) (hw : NCtx cc p) (hp4 : 4 ≤ p) (hp2 : p ≤ 50000) (a : ℤ)
    (H1 : -50000 ≤ a - (p : ℤ)) (H2 : a ≤ 33333)
    (prev z : Dec) (hpf : prev.form = .finite) (pe1 : -50000 ≤ prev.exp) (pe2 : prev.exp ≤ 33335)
    (pv0 : 0 ≤ prev.toRat) (pv1 : prev.toRat < (10 : ℚ) ^ (a + 2))
    (Z : Dg p z (a - 1) (a + 2)) :
    OpOk cc.traps p (prev.toRat + -z.toRat) (addOp cc prev z true) := by
  obtain ⟨ze1, ze2⟩ := Z.exp
  have := addOp_ok cc hw.work hw.traps prev z true hpf Z.pos.hf (by omega) (by omega) (by omega) (by omega)
    (by omega) (by omega) (a + 2) (by omega) (by omega) (by omega)
    (by
      simp only [if_true]
      have := Z.rng.pos
      have := Z.rng.2
      rw [abs_lt]; constructor <;> linarith)
  simpa only [if_true] using this

theorem Inv.prevOK {cc : Ctx} {P : ℕ} {ax : Dec} {a : ℤ} {r : ℝ} {k : ℕ} {z : Dec} (S : Setup cc P ax a r)
    (h : Inv P r k z) : z.form = .finite ∧ -50000 ≤ z.exp ∧ z.exp ≤ 33335 ∧ 0 ≤ z.toRat ∧
      z.toRat < (10 : ℚ) ^ (a + 2) := by
  have D := h.dg S
  obtain ⟨e1, e2⟩ := D.exp
  have := S.H1
  have := S.H2
  exact ⟨h.pos.hf, by omega, by omega, D.rng.pos.le, D.rng.2⟩

theorem empty_prevOK (a : ℤ) : ({} : Dec).form = .finite ∧ -50000 ≤ ({} : Dec).exp ∧ ({} : Dec).exp ≤ 33335 ∧
    0 ≤ ({} : Dec).toRat ∧ ({} : Dec).toRat < (10 : ℚ) ^ (a + 2) := by
  have h0 : ({} : Dec).toRat = 0 := by simp [Dec.toRat]
  refine ⟨rfl, by decide, by decide, by rw [h0], by rw [h0]; exact tp _⟩

/-- **the Newton loop has no error exit**: a round from an iterate in the `i`-th interval of `Near`, `i ≤ P + 8`, does
not fail and lands in the next interval (`round_fw`, `round_nstep`, `nstep_near`); the subtraction of `loop.done` does
not fail; and in round `P + 9` of the `P + 11` allowed, at the latest, the stopping rule fires (`stop_real`) -/
theorem iter_fw {cc : Ctx} {P : ℕ} {ax : Dec} {a : ℤ} {r : ℝ} (S : Setup cc P ax a r) (maxIter : ℕ)
    (hmax : P + 9 < maxIter) (fuel : ℕ) (e : ED) (z : Dec) (he : EDg cc e) (hinv : Inv P r 0 z) (er : ErrKind) :
    cbrtIter cc ((P : ℤ) + 1) maxIter ax fuel e z {} ≠ some (.inl er) := by
  have hp4 : 4 ≤ P * 2 + 2 := by have := S.hP; omega
  -- one round from a state of the invariant: it does not fail, and `loop.done` says yes or goes on to such a state
  have key : ∀ (e : ED) (z : Dec) (l : LoopSt), EDg cc e → Inv P r l.i z → l.i ≤ P + 8 →
      (l.prevZ = z ∨ (l.i = 0 ∧ l.prevZ = {})) →
      (CbrtL.round ax e z).1.failed = false ∧
      (loopDone cc ((P : ℤ) + 1) maxIter l (CbrtL.round ax e z).2 = .done ∨
        (loopDone cc ((P : ℤ) + 1) maxIter l (CbrtL.round ax e z).2 =
            .continue { i := l.i + 1, prevZ := (CbrtL.round ax e z).2 } ∧
          EDg cc (CbrtL.round ax e z).1 ∧ Inv P r (l.i + 1) (CbrtL.round ax e z).2 ∧ l.i + 1 ≤ P + 8)) := by
    intro e z l he hinv hi hprev
    have g := round_fw cc (P * 2 + 2) S.hw hp4 S.hp2 ax S.hax S.haxd a S.H1 S.H2 S.H3 S.H4 S.hX e z he (hinv.dg S)
    have hnf := g.nf
    obtain ⟨-, P5, n5, hN⟩ := round_nstep cc _ S.hw hp4 ax S.hax e z he hinv.pos hnf
    rw [eps_eq] at hN
    have hinv' : Inv P r (l.i + 1) (CbrtL.round ax e z).2 :=
      ⟨P5, n5, nstep_near ax.toRat z.toRat _ ((10 : ℚ) ^ (-(P : ℤ))) r S.hr S.hr3 hinv.pos.toRat_pos (tp _)
        (ten_negP P S.hP) hN l.i hinv.err⟩
    -- the subtraction in `loop.done`
    obtain ⟨q1, q2, q3, q4, q5⟩ : l.prevZ.form = .finite ∧ -50000 ≤ l.prevZ.exp ∧ l.prevZ.exp ≤ 33335 ∧
        0 ≤ l.prevZ.toRat ∧ l.prevZ.toRat < (10 : ℚ) ^ (a + 2) := by
      rcases hprev with h | ⟨-, h⟩
      · rw [h]; exact hinv.prevOK S
      · rw [h]; exact empty_prevOK a
    have F := sub_fw cc (P * 2 + 2) S.hw hp4 S.hp2 a S.H1 S.H2 l.prevZ _ q1 q2 q3 q4 q5 (hinv'.dg S)
    refine ⟨hnf, ?_⟩
    by_cases hlast : l.i = P + 8
    · -- the stopping rule must fire
      have hpz : l.prevZ = z := by
        rcases hprev with h | ⟨h, -⟩
        · exact h
        · omega
      have hE1 := (near_ge (by omega)).1 hinv.err
      have hE2 := (near_ge (by omega)).1 hinv'.err
      rw [show l.i + 1 - 7 = l.i - 7 + 1 by omega] at hE2
      have hsmall := stop_real z.toRat (CbrtL.round ax e z).2.toRat ((10 : ℚ) ^ (-(P : ℤ))) r S.hr P (l.i - 7) S.hP
        (by omega) rfl hE1 hE2
      exact Or.inl (loopDone_done cc (P * 2 + 2) P hp4 maxIter l _ hinv'.pos F (by rw [hpz]; exact hsmall))
    · rw [loopDone_eq, if_neg (not_not_intro F.err), if_neg (by omega : ¬ l.i + 1 = maxIter)]
      split_ifs
      · exact Or.inl rfl
      · exact Or.inr ⟨rfl, g, hinv', by omega⟩
  intro h
  obtain ⟨e0, z0, l0, ⟨he0, hinv0, hi0, hp0⟩, hcase⟩ := cbrtIter_rule cc _ maxIter ax
    (fun e z l => EDg cc e ∧ Inv P r l.i z ∧ l.i ≤ P + 8 ∧ (l.prevZ = z ∨ (l.i = 0 ∧ l.prevZ = {})))
    (fun e z l l' ⟨he, hinv, hi, hp⟩ _ hd => by
      have hk := (key e z l he hinv hi hp).2
      -- (with the round left as it is the unifier unfolds it)
      generalize CbrtL.round ax e z = rr at hk hd ⊢
      rcases hk with h | ⟨h, g, hinv', hi'⟩
      · rw [h] at hd; cases hd
      · obtain rfl := LoopRes.continue.inj (h.symm.trans hd)
        exact ⟨g, hinv', hi', Or.inl rfl⟩)
    fuel e z {} _ h ⟨he, hinv, Nat.zero_le _, Or.inr ⟨rfl, rfl⟩⟩
  obtain ⟨hnf, hd⟩ := key e0 z0 l0 he0 hinv0 hi0 hp0
  rcases hcase with ⟨hf, -⟩ | ⟨-, hE⟩
  · rw [hnf] at hf; cases hf
  · rcases hd with hd | ⟨hd, -⟩ <;> rw [hd] at hE <;> cases hE

end Apd.CbrtC

#print axioms Apd.CbrtC.iter_fw
