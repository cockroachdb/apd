import ApdVerif.Lemmas.C11SqrtLemmas
/-!
# The tail of `Context.Sqrt` when the iterate is exactly the root
-/
namespace Apd.SqrtX
open Apd.Oracle Apd.RatSpec Apd.C20L Apd.C11Q

theorem round_grid_exact {cc : Ctx} {d : Dec} (H : RHyp cc d) (M : ℕ)
    (hM : magQ d = (M : ℚ) * (10 : ℚ) ^ (qdOf cc d)) : (ctxRound cc d).2.inexact = false := by
  by_cases h : qdOf cc d ≤ d.exp
  · exact (shape_exact H h).2.1
  · rw [not_le] at h
    obtain ⟨-, -, -, -, s5, -, -⟩ := shape_round H h
    rw [s5]
    obtain ⟨k, hk⟩ : ∃ k : ℕ, qdOf cc d = d.exp + (k : ℤ) := ⟨(qdOf cc d - d.exp).toNat, by omega⟩
    have hk' : (qdOf cc d - d.exp).toNat = k := by omega
    rw [hk']
    unfold magQ at hM
    rw [hk, zpow_add₀ ten_ne, zpow_natCast] at hM
    have h1 : (d.coeff : ℚ) * (10 : ℚ) ^ d.exp = ((M : ℚ) * (10 : ℚ) ^ k) * (10 : ℚ) ^ d.exp := by rw [hM]; ring
    have h2 := mul_right_cancel₀ (tp d.exp).ne' h1
    have h3 : d.coeff = M * 10 ^ k := by exact_mod_cast h2
    rw [h3, Nat.mul_mod_left]
    rfl

theorem exact_root_facts (c : Ctx) (x d : Dec) (h : Int) (δ : ℚ) (H : DHyp c x d h δ)
    (hroot : (magQ d) ^ 2 = magQ x) (hsE : sExact c x = true) :
    magQ d = (sM c x : ℚ) * (10 : ℚ) ^ (sQ c x) ∧ qdOf (ncw c) d = sQ c x ∧
      d.exp + (ndigits d.coeff : ℤ) - 1 = h - 1 := by
  obtain ⟨hf, hneg, hn, hnd, he, hh, hq, hX1, hX2, hδ0, hδ, hDδ, hlo, hhi, hD1, hD2⟩ := H
  have hpos : 0 < d.coeff := Nat.pos_of_ne_zero hn
  have hd0 : 0 < magQ d := magQ_pos d hn
  have hu := tp (sQ c x)
  obtain ⟨-, hex⟩ := sM_facts c x
  have hsm := hex.1 hsE
  have hsq : ((sM c x : ℚ) * (10 : ℚ) ^ (sQ c x)) ^ 2 = (magQ d) ^ 2 := by
    rw [mul_pow, hsm, hroot]; field_simp
  have hm0 : (0 : ℚ) ≤ (sM c x : ℚ) * (10 : ℚ) ^ (sQ c x) := by positivity
  have hval : magQ d = (sM c x : ℚ) * (10 : ℚ) ^ (sQ c x) := by
    have := (pow_left_inj₀ hm0 hd0.le (by norm_num : (2 : ℕ) ≠ 0)).1 hsq
    exact this.symm
  -- the decade of d
  have h1 : (10 : ℚ) ^ (h - 1) ≤ magQ d := by
    rw [← hroot] at hX1
    exact (pow_le_pow_iff_left₀ (tp _).le hd0.le (by norm_num : (2 : ℕ) ≠ 0)).1 hX1
  have h2 : magQ d < (10 : ℚ) ^ h := by
    rw [← hroot] at hX2
    exact (pow_lt_pow_iff_left₀ hd0.le (tp _).le (by norm_num : (2 : ℕ) ≠ 0)).1 hX2
  have hadj : d.exp + (ndigits d.coeff : ℤ) - 1 = h - 1 :=
    IsAdj_unique (magQ_isAdj d hpos) ⟨h1, by rw [sub_add_cancel]; exact h2⟩
  refine ⟨hval, ?_, hadj⟩
  rw [hq]; unfold qdOf
  show max (d.exp + (ndigits d.coeff : ℤ) - 1 - (c.prec : ℤ) + 1) (c.emin - (c.prec : ℤ) + 1) = _
  rw [hadj]; congr 1; omega

/-- By `tail_final` the flag at the end is the one `tailMid` hands over,
and `tailMid` is the first rounding alone, exact because the iterate is a multiple of its quantum -/
theorem tail_exact (c : Ctx) (x d : Dec) (h : Int) (δ : ℚ) (hc : c.WF) (hx : x.form = .finite)
    (hxn : x.neg = false) (H : DHyp c x d h δ)
    (hroot : (magQ d) ^ 2 = magQ x) (hsE : sExact c x = true)
    (hnov : ¬ (sM c x ≠ 0 ∧ sQ c x + (ndigits (sM c x) : Int) - 1 > c.emax)) :
    (tailFin c x (tailMid c x d).1 (tailMid c x d).2).fl.inexact = false := by
  have hex : (specSqrt c x).inexact = false := by
    rw [specSqrt_eq, if_neg (by simpa using hnov)]; simp [hsE]
  obtain ⟨G, ns, hval⟩ := tail_core c x d h δ hc hx hxn H
  obtain ⟨hv, hqd, hadj⟩ := exact_root_facts c x d h δ H hroot hsE
  obtain ⟨hp, hpe, hemax, hemin, hemin0⟩ := id hc
  have hnp := ndigits_pos d.coeff
  have R : RHyp (ncw c) d := ⟨hp, hemin, hemin0, rfl, H.hf, H.hn, H.he, by have := H.hnd; omega,
    by have := H.he; omega, by have := H.hh; omega⟩
  have hin0 : (ctxRound (ncw c) d).2.inexact = false := round_grid_exact R (sM c x) (by rw [hqd]; exact hv)
  rw [(tail_final c x hc hx hxn _ _ G ns hval).2.2.2.1, hex, tailMid_exact hin0, hin0]; rfl

end Apd.SqrtX

#print axioms Apd.SqrtX.tail_exact
