import ApdVerif.Lemmas.CbrtCheck
import ApdVerif.Props.C11
/-!
# `Context.Cbrt` on perfect cubes: the rounded iterate is the root, and the re-check confirms it

`grid_round`: a value within `3·10^(-2P)` of a `P`-digit grid point rounds to it; `recheck_exact`: a re-check that did
not fail computed the cube of the result (`CbrtC.recheck_iff`); `tail_exact`: hence the exact root, no condition.
-/
namespace Apd.CbrtE
open Apd.Oracle Apd.RatSpec Apd.C20L Apd.SqrtL Apd.CbrtL Apd.CbrtT Apd.C11Q

theorem near_of_rel {z ρ τ Q B : ℚ} (hQ : 0 < Q) (hτ : 0 ≤ τ) (h1 : z * (1 - τ) ≤ ρ) (h2 : ρ ≤ z * (1 + τ))
    (hB : z < B * Q) (hτB : τ * B ≤ 3 / 10) : |z / Q - ρ / Q| < 1 / 2 := by
  rw [← sub_div, abs_div, abs_of_pos hQ, div_lt_iff₀ hQ]
  have h3 : |z - ρ| ≤ τ * z := abs_le.2 ⟨by linarith, by linarith⟩
  have h4 : τ * z ≤ τ * (B * Q) := mul_le_mul_of_nonneg_left hB.le hτ
  have h5 : τ * B * Q ≤ 3 / 10 * Q := mul_le_mul_of_nonneg_right hτB hQ.le
  linarith

theorem below_of_rel {z ρ τ T K : ℚ} (hτ : τ ≤ 1) (h1 : z * (1 - τ) ≤ ρ) (hρ : ρ ≤ T - K) (hK : τ * T < K) :
    z < T := by
  by_contra h
  have := mul_le_mul_of_nonneg_right (le_of_not_gt h) (sub_nonneg.2 hτ)
  linarith

theorem roundedMag_of_near (cc : Ctx) (hm : cc.mode = .halfUp ∨ cc.mode = .halfDown ∨ cc.mode = .halfEven)
    (neg : Bool) (z : ℚ) (a : ℤ) (m : ℕ)
    (hnear : |z / (10 : ℚ) ^ (quantum cc a) - m| < 1 / 2) :
    roundedMag cc neg z a = (m : ℚ) * (10 : ℚ) ^ (quantum cc a) := by
  unfold roundedMag
  rw [SqrtX.roundInt_snap cc.mode hm neg _ (m : ℤ) (by rw [Int.cast_natCast]; exact hnear), Int.cast_natCast]

/-- the value has the adjusted exponent of the grid point or one less, so the grid point is a multiple of its quantum
`10^q`, and `τ·z < τ·10^(q+P) = 3·10^(q-P)` is less than half the quantum -/
theorem grid_round (c : Ctx) (hP : 1 ≤ c.prec) (R : ℕ) (k : ℤ) (hR : 0 < R) (hnd : ndigits R ≤ c.prec)
    (hlo : c.emin ≤ k + (ndigits R : ℤ) - 1) (z : ℚ) (a : ℤ) (ha : IsAdj z a)
    (h1 : z * (1 - 3 * ((10 : ℚ) ^ (-(c.prec : ℤ))) ^ 2) ≤ (R : ℚ) * (10 : ℚ) ^ k)
    (h2 : (R : ℚ) * (10 : ℚ) ^ k ≤ z * (1 + 3 * ((10 : ℚ) ^ (-(c.prec : ℤ))) ^ 2)) :
    roundedMag (cH c) false z a = (R : ℚ) * (10 : ℚ) ^ k := by
  obtain ⟨t0, t1⟩ := tau_le c.prec hP
  have hK := tp k
  have hτP : 3 * ((10 : ℚ) ^ (-(c.prec : ℤ))) ^ 2 * (10 : ℚ) ^ (c.prec : ℤ) ≤ 3 / 10 := by
    have e : (10 : ℚ) ^ (-(c.prec : ℤ)) * (10 : ℚ) ^ (c.prec : ℤ) = 1 := by
      rw [← zpow_add₀ ten_ne, neg_add_cancel, zpow_zero]
    have := ten_negP c.prec hP
    calc _ = 3 * (10 : ℚ) ^ (-(c.prec : ℤ)) * ((10 : ℚ) ^ (-(c.prec : ℤ)) * (10 : ℚ) ^ (c.prec : ℤ)) := by ring
      _ ≤ 3 / 10 := by rw [e]; linarith
  generalize 3 * ((10 : ℚ) ^ (-(c.prec : ℤ))) ^ 2 = τ at h1 h2 t0 t1 hτP
  have hzT : z < (10 : ℚ) ^ (k + (ndigits R : ℤ)) := by
    have hR1 : (R : ℚ) + 1 ≤ (10 : ℚ) ^ (ndigits R : ℤ) := by
      rw [← zpow_ofNat]; exact_mod_cast (ndigits_spec R hR).2
    have hnP : (10 : ℚ) ^ (ndigits R : ℤ) ≤ (10 : ℚ) ^ (c.prec : ℤ) :=
      zpow_le_zpow_right₀ ten_gt.le (by exact_mod_cast hnd)
    have h3 := mul_le_mul_of_nonneg_right (le_trans (mul_le_mul_of_nonneg_left hnP t0.le) hτP) hK.le
    have h4 := mul_le_mul_of_nonneg_right hR1 hK.le
    rw [zpow_add₀ ten_ne, mul_comm]
    exact below_of_rel (K := (10 : ℚ) ^ k) (by linarith) h1 (by linarith) (by linarith)
  have haT := ha.lt_of_lt hzT
  obtain ⟨q, hq⟩ : ∃ q, q = quantum (cH c) a := ⟨_, rfl⟩
  have hqd : q = max (a - (c.prec : ℤ) + 1) (c.emin - (c.prec : ℤ) + 1) := hq
  have hqk : q ≤ k := by omega
  have hzq : z < (10 : ℚ) ^ (c.prec : ℤ) * (10 : ℚ) ^ q := by
    rw [← zpow_add₀ ten_ne]
    exact lt_of_lt_of_le ha.2 (zpow_le_zpow_right₀ ten_gt.le (by omega))
  have hal := align R k q hqk
  have hnear := near_of_rel (tp q) t0.le h1 h2 hzq hτP
  rw [← hal, mul_div_assoc, div_self (tp q).ne', mul_one, hq] at hnear
  rw [roundedMag_of_near (cH c) (Or.inr (Or.inr rfl)) false z a _ hnear, ← hq, hal]

theorem perfectCube_val (x : Dec) (R : ℕ) (k : ℤ) (h : perfectCube x = some (R, k)) :
    magQ x = ((R : ℚ) * (10 : ℚ) ^ k) ^ 3 := by
  obtain ⟨h1, h2⟩ := Props.C11_perfectCube x R k h
  have hs : 0 ≤ Int.emod x.exp 3 := Int.emod_nonneg _ (by decide)
  have h3 : ((R * R * R : ℕ) : ℚ) = ((x.coeff * 10 ^ (Int.emod x.exp 3).toNat : ℕ) : ℚ) := by rw [h2]
  rw [Nat.cast_mul, Nat.cast_mul, Nat.cast_mul, zpow_toNat _ hs] at h3
  generalize Int.emod x.exp 3 = s at *
  unfold magQ
  rw [mul_pow, cube_zpow, h1, add_comm, zpow_add₀ ten_ne, ← mul_assoc, ← h3]
  ring

theorem exact_round (c : Ctx) (hc : c.WF) (hp : c.prec * 3 + 2 ≤ 100000)
    (x : Dec) (h0 : x.coeff ≠ 0) (hw : x.WF) (z : Dec) (hI : Iter c x z)
    (R : ℕ) (k : ℤ) (hval : magQ x = ((R : ℚ) * (10 : ℚ) ^ k) ^ 3) (hR : 0 < R) (hr : ndigits R ≤ c.prec)
    (hlo : c.emin ≤ k + (ndigits R : Int) - 1) (hhi : k + (ndigits R : Int) - 1 ≤ c.emax) :
    (ctxRound (cH c) z).1.form = .finite ∧ (ctxRound (cH c) z).1.neg = false ∧
    (ctxRound (cH c) z).1.toRat = (R : ℚ) * (10 : ℚ) ^ k ∧ ndigits (ctxRound (cH c) z).1.coeff ≤ c.prec := by
  obtain ⟨hns, hA⟩ := final_agrees c hc hp x h0 hw z hI
  have hzp := hI.pos.toRat_pos
  have hρ : 0 < (R : ℚ) * (10 : ℚ) ^ k := by
    have : (0 : ℚ) < R := by exact_mod_cast hR
    have := tp k
    positivity
  obtain ⟨t0, t1⟩ := tau_le c.prec hc.1
  have k1 : z.toRat * (1 - 3 * ((10 : ℚ) ^ (-(c.prec : ℤ))) ^ 2) ≤ (R : ℚ) * (10 : ℚ) ^ k := by
    have := hI.lo
    rw [hval] at this
    exact le_of_pow_le_pow_left₀ (by norm_num) hρ.le this
  have k2 : (R : ℚ) * (10 : ℚ) ^ k ≤ z.toRat * (1 + 3 * ((10 : ℚ) ^ (-(c.prec : ℤ))) ^ 2) := by
    have := hI.hi
    rw [hval] at this
    exact le_of_pow_le_pow_left₀ (by norm_num) (by positivity) this
  have ha : IsAdj z.toRat ((ndigits z.coeff : ℤ) - 1 + z.exp) := by
    rw [show (ndigits z.coeff : ℤ) - 1 + z.exp = z.exp + (ndigits z.coeff : ℤ) - 1 by omega]; exact hI.pos.isAdj
  have hgr := grid_round c hc.1 R k hR hr hlo z.toRat _ ha k1 k2
  have hn : 0 < (exactRound z).num := hI.pos.h0
  have hd : 0 < (exactRound z).den := Nat.one_pos
  have hneg : (exactRound z).neg = false := hI.pos.hn
  have hmag : (exactRound z).mag = z.toRat := by
    unfold Exact.mag exactRound; rw [hI.pos.toRat_eq]; simp
  have hinf : (specRound (cH c) (exactRound z)).inf = false := by
    cases hb : (specRound (cH c) (exactRound z)).inf
    · rfl
    · exfalso
      have := (Rat_specRound_overflow (cH c) (exactRound z) hn hd (by rw [hmag]; exact ha)).1 hb
      rw [hneg, hmag, hgr] at this
      have hR2 : (R : ℚ) < (10 : ℚ) ^ ((ndigits R : ℕ) : ℤ) := by
        rw [← zpow_ofNat]; exact_mod_cast (ndigits_spec R hR).2
      have h3 : (R : ℚ) * (10 : ℚ) ^ k < (10 : ℚ) ^ ((ndigits R : ℕ) : ℤ) * (10 : ℚ) ^ k :=
        mul_lt_mul_of_pos_right hR2 (tp k)
      rw [← zpow_add₀ ten_ne] at h3
      have h4 : (10 : ℚ) ^ (((ndigits R : ℕ) : ℤ) + k) ≤ (10 : ℚ) ^ ((cH c).emax + 1) :=
        zpow_le_zpow_right₀ ten_gt.le (by show _ ≤ c.emax + 1; omega)
      linarith
  have hform := finite_of_agrees hA hinf
  obtain ⟨a, q, n, had, -, -, -, -, -, hDneg, hDnd, -, hDv⟩ := round_facts c hc z hI.pos _ _ hA hform
  rw [had, hgr] at hDv
  exact ⟨hform, hDneg, hDv, hDnd⟩

theorem recheck_exact (c : Ctx) (hP1 : 1 ≤ c.prec) (hP3 : c.prec * 3 ≤ 100000) (fl0 : Cond) (z d : Dec)
    (hd : d.form = .finite) (hdn : ndigits d.coeff ≤ c.prec) (hnf : (recheck c fl0 z d).1.failed = false) :
    (recheck c fl0 z d).2.form = .finite ∧ (recheck c fl0 z d).2.toRat = d.toRat * d.toRat * d.toRat := by
  rw [(CbrtC.recheck_iff c hP1 hP3 fl0 z d hd hdn).2 hnf]
  refine ⟨rfl, ?_⟩
  unfold Dec.toRat
  dsimp only
  rw [zpow_add₀ ten_ne, zpow_add₀ ten_ne]
  push_cast
  cases d.neg <;> simp <;> ring

theorem tail_exact (c : Ctx) (hc : c.WF) (hp : c.prec * 3 + 2 ≤ 100000)
    (x : Dec) (hx : x.form = .finite) (h0 : x.coeff ≠ 0) (hw : x.WF) (fl0 : Cond) (z : Dec) (hI : Iter c x z)
    (he : (tail c x fl0 z).err = .none)
    (R : ℕ) (k : ℤ) (hpc : perfectCube x = some (R, k)) (hr : ndigits R ≤ c.prec)
    (hlo : c.emin ≤ k + (ndigits R : Int) - 1) (hhi : k + (ndigits R : Int) - 1 ≤ c.emax) :
    (tail c x fl0 z).fl = {} ∧ (tail c x fl0 z).d.form = .finite ∧ (tail c x fl0 z).d.neg = x.neg ∧
    |(tail c x fl0 z).d.toRat| = (R : ℚ) * (10 : ℚ) ^ k := by
  have hval := perfectCube_val x R k hpc
  have hXp := magQ_pos x h0
  have hR : 0 < R := by
    rcases Nat.eq_zero_or_pos R with hz | hz
    · exfalso; rw [hval, hz] at hXp; simp at hXp
    · exact hz
  have hρ : 0 < (R : ℚ) * (10 : ℚ) ^ k := by
    have : (0 : ℚ) < R := by exact_mod_cast hR
    have := tp k
    positivity
  obtain ⟨hDf, hDn, hDv, hDnd⟩ := exact_round c hc hp x h0 hw z hI R k hval hR hr hlo hhi
  have hDv' : ((ctxRound (cH c) z).1.coeff : ℚ) * (10 : ℚ) ^ (ctxRound (cH c) z).1.exp = (R : ℚ) * (10 : ℚ) ^ k := by
    rw [← hDv]; unfold Dec.toRat; rw [hDn]; simp
  have hdv : (resD c x z).toRat = (if x.neg then -1 else 1) * ((R : ℚ) * (10 : ℚ) ^ k) := by
    rw [← hDv']; unfold resD Dec.toRat; simp only []; ring
  have hxv : x.toRat = (if x.neg then -1 else 1) * ((R : ℚ) * (10 : ℚ) ^ k) ^ 3 := by
    rw [← hval]; unfold Dec.toRat magQ; ring
  obtain ⟨hnf, hd⟩ := tail_ok c x fl0 z he
  obtain ⟨hqf, hqv⟩ := recheck_exact c hc.1 (by omega) fl0 z (resD c x z) hDf hDnd hnf
  have heq : x.toRat = (recheck c fl0 z (resD c x z)).2.toRat := by
    rw [hqv, hdv, hxv]
    cases x.neg <;> simp <;> ring
  have hcmp : x.cmp (recheck c fl0 z (resD c x z)).2 = 0 := (cmp_toRat x _ hx hqf).2.2 heq
  have hte : tail c x fl0 z = { d := resD c x z } := by
    rw [tail_eq, if_neg (by rw [hnf]; exact Bool.false_ne_true), if_pos (by rw [hcmp]; rfl)]
  rw [hte]
  refine ⟨rfl, hDf, rfl, ?_⟩
  show |(resD c x z).toRat| = _
  rw [hdv]
  cases x.neg <;> simp [abs_of_pos hρ]

end Apd.CbrtE

#print axioms Apd.CbrtE.tail_exact
