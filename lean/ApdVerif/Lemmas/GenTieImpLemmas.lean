import ApdVerif.Gen.Imp
import ApdVerif.Lemmas.C05Lemmas
import ApdVerif.Lemmas.Digits
import ApdVerif.Lemmas.C19Lemmas
import Mathlib.Tactic.SplitIfs
/-!
# Where the generated text (`Gen/Imp`, `Gen/ImpTrans`) and `Imp/Ops.lean` compute the same thing differently

The flags as a Boolean algebra, the sign functions of `Gen/ImpPrelude` on the forms the generated text tests,
`frac.Cmp(decimalHalf)` as the comparison `Imp/Ops.lean` uses, `Modf` of a local, the loop of `setExponent` and the
fuelled loops of `Decimal.Reduce` against `stripZeros`.
-/
namespace Apd.Props
open Apd.Imp Apd.Gen.ImpG

theorem cond_eq_zero_iff (a : Cond) : a = {} ↔ a.any = false := by
  rcases a with ⟨b0, b1, b2, b3, b4, b5, b6, b7, b8, b9, b10, b11⟩
  simp only [Cond.any, Cond.mk.injEq, Bool.or_eq_false_iff]
  simp only [and_assoc]

theorem cond_ne_zero_any (a : Cond) : (a != ({} : Cond)) = a.any := by
  cases h : a.any
  · have := (cond_eq_zero_iff a).2 h
    subst this; rfl
  · have : a ≠ {} := fun e => by rw [(cond_eq_zero_iff a).1 e] at h; cases h
    simp [this]

theorem cond_and_ne_inexact (r : Cond) : ((r &&& Cond.cInexact) != ({} : Cond)) = r.inexact := by
  rw [cond_ne_zero_any]
  simp [HAnd.hAnd, AndOp.and, Cond.and, Cond.any, Cond.cInexact]

theorem cond_and_ne_subnormal (r : Cond) : ((r &&& Cond.cSubnormal) != ({} : Cond)) = r.subnormal := by
  rw [cond_ne_zero_any]
  simp [HAnd.hAnd, AndOp.and, Cond.and, Cond.any, Cond.cSubnormal]

theorem cond_and_ne_overflow (r : Cond) : ((r &&& Cond.cOverflow) != ({} : Cond)) = r.overflow := by
  rw [cond_ne_zero_any]
  simp [HAnd.hAnd, AndOp.and, Cond.and, Cond.any, Cond.cOverflow]

theorem cond_and_ne_underflow (r : Cond) : ((r &&& Cond.cUnderflow) != ({} : Cond)) = r.underflow := by
  rw [cond_ne_zero_any]
  simp [HAnd.hAnd, AndOp.and, Cond.and, Cond.any, Cond.cUnderflow]

theorem cond_and_sys_any (r : Cond) :
    (r &&& (Cond.cSysOverflow ||| Cond.cSysUnderflow)).any = (r.sysOverflow || r.sysUnderflow) := by
  simp [HAnd.hAnd, AndOp.and, Cond.and, HOr.hOr, OrOp.or, Cond.or, Cond.any, Cond.cSysOverflow, Cond.cSysUnderflow]

theorem cond_and_sys_ne (r : Cond) :
    ((r &&& (Cond.cSysOverflow ||| Cond.cSysUnderflow)) != ({} : Cond)) = (r.sysOverflow || r.sysUnderflow) := by
  rw [cond_ne_zero_any, cond_and_sys_any]

theorem cond_clear_inexact_rounded (r : Cond) :
    r &&& condNot (Cond.cInexact ||| Cond.cRounded) = { r with inexact := false, rounded := false } := by
  rcases r with ⟨b0, b1, b2, b3, b4, b5, b6, b7, b8, b9, b10, b11⟩
  simp [HAnd.hAnd, AndOp.and, Cond.and, HOr.hOr, OrOp.or, Cond.or, condNot, Cond.cInexact, Cond.cRounded]

theorem cond_or_assoc (a b c : Cond) : a ||| b ||| c = a ||| (b ||| c) := by
  simp [HOr.hOr, OrOp.or, Cond.or, Bool.or_assoc]

theorem cond_or_zero (a : Cond) : a ||| ({} : Cond) = a := Cond.or_empty a

theorem natSign_beq_zero (n : Nat) : (natSign n == 0) = (n == 0) := by
  unfold natSign; by_cases h : n = 0 <;> simp [h]

theorem natSign_ne_zero (n : Nat) : (natSign n != 0) = (n != 0) := by
  unfold natSign; by_cases h : n = 0 <;> simp [h]

theorem bigSign_sub_neg (a b : Nat) :
    (bigSign (decide (((a : Int) - (b : Int)) < 0)) (Int.natAbs ((a : Int) - (b : Int))) == -1) = decide (a < b) := by
  unfold bigSign
  by_cases h : a < b
  · have h1 : ((a : Int) - (b : Int)) < 0 := by omega
    have h2 : Int.natAbs ((a : Int) - (b : Int)) ≠ 0 := by omega
    simp [h, h1, h2]
  · have h1 : ¬ ((a : Int) - (b : Int)) < 0 := by omega
    simp only [h, h1, decide_false]
    split <;> simp

theorem bigSign_sub_zero (a b : Nat) :
    (bigSign (decide (((a : Int) - (b : Int)) < 0)) (Int.natAbs ((a : Int) - (b : Int))) == 0) =
      (Int.natAbs ((a : Int) - (b : Int)) == 0) := by
  unfold bigSign
  by_cases h : Int.natAbs ((a : Int) - (b : Int)) = 0
  · simp [h]
  · simp only [h, beq_iff_eq, if_false]
    split <;> simp <;> omega

theorem natAbs_sub (a b : Nat) : Int.natAbs ((a : Int) - (b : Int)) = if a < b then b - a else a - b := by
  split <;> omega

theorem cmpNat_lt_zero (a b : Nat) : (cmpNat a b < 0) = (a < b) := by
  unfold cmpNat; split_ifs <;> simp <;> omega

theorem ite_neg_ite_pos {α : Type} (N : Int) (a b : α) :
    (if N < 0 then a else if N > 0 then b else a) = if N > 0 then b else a := by
  split_ifs <;> first | rfl | omega

theorem tmod_two_eq_zero (f : Int) : (Int.tmod f 2 == 0) = (f % 2 == 0) := by
  have h1 : Int.tmod f 2 = 0 ↔ f % 2 = 0 := by
    rw [← Int.dvd_iff_tmod_eq_zero, Int.dvd_iff_emod_eq_zero]
  by_cases h : f % 2 = 0
  · rw [h1.2 h, h]
  · have : ¬ Int.tmod f 2 = 0 := fun e => h (h1.1 e)
    rw [beq_eq_false_iff_ne.2 this, beq_eq_false_iff_ne.2 h]

theorem natCast_bne (a b : Nat) : ((a : Int) != (b : Int)) = (a != b) := by
  by_cases e : a = b
  · subst e; rw [bne_self_eq_false, bne_self_eq_false]
  · rw [(bne_iff_ne).2 e, (bne_iff_ne).2 (by omega)]

theorem bigSign_false_pos (b : Nat) : (decide (bigSign false b > 0)) = (b != 0) := by
  unfold bigSign
  by_cases h : b = 0 <;> simp [h]

theorem cmpNat_two_mul (m n : Nat) : cmpNat (2 * m) (2 * n) = cmpNat m n := by
  unfold cmpNat; split_ifs <;> first | rfl | omega

/-- `frac.Cmp(decimalHalf)` for the fraction `m · 10^(-k)` (`0 < m < 10^k`) is the comparison of `2m` with `10^k`
that `Imp/Ops.lean` uses -/
theorem cmp_half (m k : Nat) (hk : 0 < k) (hm : m < 10 ^ k) (hm0 : m ≠ 0) :
    Dec.cmp { form := .finite, neg := false, exp := -(k : Int), coeff := m } decimalHalf = cmpNat (2 * m) (10 ^ k) := by
  have hmpos : 0 < m := Nat.pos_of_ne_zero hm0
  have hs : (Dec.sign { form := .finite, neg := false, exp := -(k : Int), coeff := m }) = 1 := by
    simp [Dec.sign, hm0]
  have hh : Dec.sign ({ form := .finite, neg := false, exp := -1, coeff := 5 } : Dec) = 1 := by decide
  have hnd5 : ndigits 5 = 1 := by decide
  unfold Dec.cmp
  simp only [decimalHalf]
  simp only [hs, hh]
  by_cases hk1 : k = 1
  · subst hk1
    simp [← cmpNat_two_mul m 5]
  · have hk2 : 2 ≤ k := by omega
    have hne : ((-(k : Int)) == (-1 : Int)) = false := by
      simp; omega
    have hle : ndigits m ≤ k := (ndigits_le_iff m k hmpos).2 hm
    have hpk : 10 ^ k = 10 * 10 ^ (k - 1) := by
      rw [← Nat.pow_succ']; congr 1; omega
    simp only [hne, hnd5]
    by_cases hlt : ndigits m < k
    · have h1 : ((ndigits m : Int) + -(k : Int) < 0) := by omega
      have hm' : m < 10 ^ (k - 1) := by
        have := (ndigits_spec m hmpos).2
        exact Nat.lt_of_lt_of_le this (Nat.pow_le_pow_right (by decide) (by omega))
      have : cmpNat (2 * m) (10 ^ k) = -1 := by
        unfold cmpNat; rw [hpk]; split_ifs <;> first | rfl | omega
      simp [h1, this]
    · have heq : ndigits m = k := by omega
      have h1 : ¬ ((ndigits m : Int) + -(k : Int) < 0) := by omega
      have h2 : ¬ (0 < (ndigits m : Int) + -(k : Int)) := by omega
      have h3 : (1 < (k : Int)) := by omega
      have h4 : ((-1 : Int) + (k : Int)).toNat = k - 1 := by omega
      have : cmpNat m (5 * 10 ^ (k - 1)) = cmpNat (2 * m) (10 ^ k) := by
        rw [← cmpNat_two_mul, ← Nat.mul_assoc, ← hpk]
      simp [h1, h2, h3, h4, this]

/-- `Modf` of a local with a non-positive exponent: quotient and remainder by the power of ten (also when the
exponent exceeds the digit count, where Go takes a shortcut) -/
theorem modf_nonpos (tc : Nat) (tn : Bool) (e : Int) (he : e ≤ 0) :
    modf { form := .finite, neg := tn, exp := e, coeff := tc } =
      ({ form := .finite, neg := tn, exp := 0, coeff := tc / 10 ^ (-e).toNat },
       { form := .finite, neg := tn, exp := e, coeff := tc % 10 ^ (-e).toNat }) := by
  unfold modf
  have h0 : ¬ (e > 0) := by omega
  simp only [h0, if_false]
  by_cases h1 : -e > (ndigits tc : Int)
  · simp only [h1, if_true]
    have hlt : tc < 10 ^ (-e).toNat := by
      by_cases hz : tc = 0
      · subst hz; exact Nat.pow_pos (by decide)
      · have := (ndigits_spec tc (Nat.pos_of_ne_zero hz)).2
        exact Nat.lt_of_lt_of_le this (Nat.pow_le_pow_right (by decide) (by omega))
    rw [Nat.div_eq_of_lt hlt, Nat.mod_eq_of_lt hlt]
  · simp only [h1, if_false]

theorem setExponent_loop (xs : List Int) (s : Int) :
    Decimal_setExponent_loop1 xs s =
      match checkXs xs with
      | some fl => Sum.inl fl
      | none => Sum.inr (s + sumInts xs) := by
  induction xs generalizing s with
  | nil => simp [Decimal_setExponent_loop1, checkXs, sumInts]
  | cons x xs ih =>
    unfold Decimal_setExponent_loop1 checkXs
    by_cases h1 : x > 100000
    · simp [h1, MaxExponent]
    · by_cases h2 : x < -100000
      · simp [h1, h2, MaxExponent, MinExponent]
      · simp only [h1, h2, MaxExponent, MinExponent, decide_false, if_false, Bool.false_eq_true, ih, sumInts]
        cases checkXs xs <;> simp [Int.add_assoc]

theorem strip_unique : ∀ (t t' s s' : Nat), s % 10 ≠ 0 → s' % 10 ≠ 0 → s * 10 ^ t = s' * 10 ^ t' → s = s' ∧ t = t' := by
  intro t
  induction t with
  | zero =>
    intro t' s s' hs hs' e
    cases t' with
    | zero => simpa using e
    | succ t' =>
      exfalso
      rw [Nat.pow_zero, Nat.mul_one, Nat.pow_succ, ← Nat.mul_assoc] at e
      omega
  | succ t ih =>
    intro t' s s' hs hs' e
    cases t' with
    | zero =>
      exfalso
      rw [Nat.pow_zero, Nat.mul_one, Nat.pow_succ, ← Nat.mul_assoc] at e
      omega
    | succ t' =>
      rw [Nat.pow_succ, Nat.pow_succ, ← Nat.mul_assoc, ← Nat.mul_assoc] at e
      have e' : s * 10 ^ t = s' * 10 ^ t' := Nat.eq_of_mul_eq_mul_right (by decide : 0 < 10) e
      obtain ⟨a, b⟩ := ih t' s s' hs hs' e'
      exact ⟨a, by omega⟩

theorem stripZeros_eq (n s t : Nat) (hn : n ≠ 0) (hs : s % 10 ≠ 0) (e : s * 10 ^ t = n) :
    stripZeros n = (s, t) := by
  obtain ⟨a, b⟩ := Apd.C19L.stripZeros_spec n hn
  obtain ⟨c, d⟩ := strip_unique t (stripZeros n).2 s (stripZeros n).1 hs b (by rw [e, a])
  rw [Prod.ext_iff]; exact ⟨c.symm, d.symm⟩

/-- the `i >= 10000 && i%10000 == 0` loop: removes zeros four at a time -/
theorem reduce_loop1 : ∀ (fuel i : Nat) (nd : Int) (h : Heap), i ≠ 0 → i < fuel →
    ∃ j m : Nat, run (Decimal_Reduce_loop1 fuel i nd) h = ((j, nd + (m : Int)), h) ∧ j * 10 ^ m = i ∧ j ≠ 0 := by
  intro fuel
  induction fuel with
  | zero => intro i nd h _ hf; omega
  | succ f ih =>
    intro i nd h hi hf
    unfold Decimal_Reduce_loop1
    by_cases hc : i ≥ 10000 ∧ i % 10000 = 0
    · have hc' : (decide (i ≥ 10000) && i % 10000 == 0) = true := by simp [hc.1, hc.2]
      simp only [hc', if_true]
      obtain ⟨j, m, e1, e2, e3⟩ := ih (i / 10000) (nd + 4) h (by omega) (by omega)
      refine ⟨j, m + 4, ?_, ?_, e3⟩
      · rw [e1]; congr 2; push_cast; omega
      · rw [Nat.pow_add, ← Nat.mul_assoc, e2]; omega
    · have hc' : (decide (i ≥ 10000) && i % 10000 == 0) = false := by
        by_cases h1 : i ≥ 10000
        · have : i % 10000 ≠ 0 := fun e => hc ⟨h1, e⟩
          simp [h1, this]
        · simp [h1]
      simp only [hc', Bool.false_eq_true, if_false]
      exact ⟨i, 0, by simp, by simp, hi⟩

/-- the `i%10 == 0` loop -/
theorem reduce_loop2 : ∀ (fuel i : Nat) (nd : Int) (h : Heap), i ≠ 0 → i < fuel →
    ∃ j m : Nat, run (Decimal_Reduce_loop2 fuel i nd) h = ((j, nd + (m : Int)), h) ∧ j * 10 ^ m = i ∧ j % 10 ≠ 0 := by
  intro fuel
  induction fuel with
  | zero => intro i nd h _ hf; omega
  | succ f ih =>
    intro i nd h hi hf
    unfold Decimal_Reduce_loop2
    by_cases hc : i % 10 = 0
    · have hc' : (i % 10 == 0) = true := by simp [hc]
      simp only [hc', if_true]
      obtain ⟨j, m, e1, e2, e3⟩ := ih (i / 10) (nd + 1) h (by omega) (by omega)
      refine ⟨j, m + 1, ?_, ?_, e3⟩
      · rw [e1]; congr 2; push_cast; omega
      · rw [Nat.pow_succ, ← Nat.mul_assoc, e2]; omega
    · have hc' : (i % 10 == 0) = false := by simp [hc]
      simp only [hc', Bool.false_eq_true, if_false]
      exact ⟨i, 0, by simp, by simp, hc⟩

/-- the two `uint64` loops together compute `stripZeros` -/
theorem reduce_loops12 (fuel i : Nat) (h : Heap) (hi : i ≠ 0) (hf : i < fuel) :
    ∃ j1 m1 : Nat, run (Decimal_Reduce_loop1 fuel i 0) h = ((j1, ((m1 : Nat) : Int)), h) ∧
      ∃ m2 : Nat, run (Decimal_Reduce_loop2 fuel j1 (m1 : Int)) h =
        (((stripZeros i).1, ((m1 : Int) + (m2 : Int))), h) ∧ m1 + m2 = (stripZeros i).2 := by
  obtain ⟨j1, m1, e1, e2, e3⟩ := reduce_loop1 fuel i 0 h hi hf
  have hj1 : j1 ≤ i := by
    rw [← e2]; exact Nat.le_mul_of_pos_right _ (Nat.pow_pos (by decide))
  obtain ⟨j2, m2, f1, f2, f3⟩ := reduce_loop2 fuel j1 (m1 : Int) h e3 (by omega)
  have hs : stripZeros i = (j2, m2 + m1) := by
    apply stripZeros_eq i j2 (m2 + m1) hi f3
    rw [Nat.pow_add, ← Nat.mul_assoc, f2, e2]
  refine ⟨j1, m1, by simpa using e1, m2, ?_, ?_⟩
  · rw [f1, hs]
  · rw [hs]; simp; omega

/-- the big-integer loop: divides the destination's coefficient by ten while the remainder is zero -/
theorem reduce_loop3 (d : Cell) : ∀ (fuel : Nat) (nd : Int) (r z : Nat) (h : Heap),
    (h d).coeff ≠ 0 → (h d).coeff < fuel →
    ∃ (m r' z' : Nat), run (Decimal_Reduce_loop3 d fuel nd r z) h =
        ((nd + (m : Int), r', z'), h.set d { h d with coeff := (stripZeros (h d).coeff).1 }) ∧
      m = (stripZeros (h d).coeff).2 := by
  intro fuel
  induction fuel with
  | zero => intro nd r z h _ hf; omega
  | succ f ih =>
    intro nd r z h hc hf
    unfold Decimal_Reduce_loop3
    simp only [prog_run, Apd.Gen.bigTen, natSign]
    by_cases h0 : (h d).coeff % 10 = 0
    · have hq : (h d).coeff / 10 ≠ 0 := by omega
      obtain ⟨m, r', z', e1, e2⟩ := ih (nd + 1) 0 ((h d).coeff / 10)
        (h.set d { h d with coeff := (h d).coeff / 10 }) (by simpa using hq) (by simp; omega)
      have hs : stripZeros (h d).coeff =
          ((stripZeros ((h d).coeff / 10)).1, (stripZeros ((h d).coeff / 10)).2 + 1) := by
        obtain ⟨a, b⟩ := Apd.C19L.stripZeros_spec ((h d).coeff / 10) hq
        apply stripZeros_eq _ _ _ hc b
        rw [Nat.pow_succ, ← Nat.mul_assoc, a]; omega
      refine ⟨m + 1, r', z', ?_, ?_⟩
      · simp only [h0, beq_self_eq_true, if_true]
        simp only [Heap.set_same, Heap.set_set] at e1
        rw [e1, hs]; congr 2; push_cast; omega
      · simp only [Heap.set_same] at e2
        rw [hs, e2]
    · have hs : stripZeros (h d).coeff = ((h d).coeff, 0) :=
        stripZeros_eq _ _ _ hc h0 (by simp)
      refine ⟨0, (h d).coeff % 10, (h d).coeff / 10, ?_, by rw [hs]⟩
      have hb : ((if ((h d).coeff % 10 == 0) = true then (0 : Int) else 1) == 0) = false := by simp [h0]
      have hself : h.set d { h d with coeff := (h d).coeff } = h := by
        have : ({ h d with coeff := (h d).coeff } : Dec) = h d := rfl
        rw [this, Heap.set_self]
      simp only [hb, Bool.false_eq_true, if_false, hs, hself]
      simp

end Apd.Props
