import ApdVerif.Props.RoundCore
import ApdVerif.Props.Mul
import ApdVerif.Props.Quo
import ApdVerif.Props.Rational
import ApdVerif.Lemmas.DecRound
import ApdVerif.Lemmas.SqrtExactRnd
import ApdVerif.Lemmas.ErrExits
/-!
# One operation of a working context delivers the exact result rounded once to nearest

The composite functions (`Sqrt`, `Cbrt`, `Exp`, `Ln`, `Log10`) run `Mul`, `Add`/`Sub`, `Quo` and `Round` in a working
context of their own: the package's exponent limits (`ExpAcc.Wide`) and a mode that rounds to nearest (`Work`).  There
an outcome that `Agrees` with the oracle (C01) and is finite and not subnormal is the exact value `v` rounded once
(`Rounded p v d`, from `rounded_of_agrees`): at most `p` digits, within `5·10^(-p)·|v|` of `v`, zero or positive with
`v`, and for `v ≠ 0` of the magnitude of `v` rounded to the nearest multiple of the quantum (`SqrtX.Rnd`).  It is
reached from two sides:

* backwards (`mulOp_rounded`, `quoOp_rounded`, `addOp_rounded`, `ctxRound_rounded`): the operation reported no error,
  so it raised no system flag; in a wide context an infinity or a subnormal would have been one (`*_wide`, all from
  `setExponent_wide`: between `MinExponent` and `MaxExponent` only the plain exit of `setExponent` is left);
* forwards (`mulOp_ok`, `quoOp_ok`, `addOp_ok` concluding `OpOk`): operands and exact result lie inside the package
  limits, so no system flag is raised (`mul_noSys`, `quo_noSys`, `round_noSys` of `Lemmas/DecRound.lean`), the outcome
  is finite and not subnormal by the same `*_wide` lemmas, and no condition that is left is trapped (`NoSoftTrap`).

`ED.step_back` / `ED.step_fw` (`Lemmas/ErrExits.lean`) carry either through a step of an `ErrDecimal` (`EDg`, at the
end of the file).
-/
namespace Apd.ExpAcc
open Apd Apd.Oracle Apd.Props Apd.RatSpec Cond

structure Wide (c : Ctx) : Prop where
  emin : c.emin = MinExponent
  emax : c.emax = MaxExponent
  prec1 : 1 ≤ c.prec
  prec2 : (c.prec : Int) ≤ 100000

theorem Wide.wf {c : Ctx} (h : Wide c) : c.WF := by
  obtain ⟨h1, h2, h3, h4⟩ := h
  unfold Ctx.WF
  rw [h1, h2]
  simp only [MinExponent, MaxExponent]
  omega

theorem setExponent_wide (c : Ctx) (hw : Wide c) (d : Dec) (res : Cond) (xs : List Int)
    (h : NoSys (setExponent c d res xs).2) :
    setExponent c d res xs = seFinish d (sumInts xs) res ∧
      MinExponent ≤ sumInts xs + (ndigits d.coeff : Int) - 1 := by
  obtain ⟨hx, h1, h2⟩ := setExponent_noSys c d res xs rfl h
  exact ⟨setExponent_normal c d res xs rfl hx h2 (by rw [hw.emin]; exact h1) (by rw [hw.emax]; exact h2)
    (by rw [hw.emin]; exact le_refl _), h1⟩

theorem noSys_left (a b : Cond) (h : NoSys (a ||| b)) : NoSys a := (NoSys.or_iff.1 h).1

theorem noSys_right (a b : Cond) (h : NoSys (a ||| b)) : NoSys b := (NoSys.or_iff.1 h).2

theorem se_wide (c : Ctx) (hw : Wide c) (d : Dec) (res : Cond) (xs : List Int)
    (hd : d.form = .finite) (hres : res.subnormal = false) (h : NoSys (setExponent c d res xs).2) :
    (setExponent c d res xs).1.form = .finite ∧ (setExponent c d res xs).2.subnormal = false := by
  rw [(setExponent_wide c hw d res xs h).1, seFinish_form, seFinish_subnormal]
  exact ⟨hd, hres⟩

theorem se_pair_wide (c : Ctx) (hw : Wide c) (d : Dec) (res : Cond) (xs : List Int)
    (hd : d.form = .finite) (hres : res.subnormal = false)
    (h : NoSys (res ||| (setExponent c d res xs).2)) :
    (setExponent c d res xs).1.form = .finite ∧ (res ||| (setExponent c d res xs).2).subnormal = false := by
  obtain ⟨hf, hs⟩ := se_wide c hw d res xs hd hres (noSys_right _ _ h)
  exact ⟨hf, by rw [Cond.or_subnormal, hres, hs]; rfl⟩

theorem ctxRound_wide (c : Ctx) (hw : Wide c) (x : Dec) (hx : x.form = .finite)
    (h : NoSys (ctxRound c x).2) :
    (ctxRound c x).1.form = .finite ∧ (ctxRound c x).2.subnormal = false := by
  rw [ctxRound_finite c x hx] at h ⊢
  unfold ctxRoundFin at h ⊢
  rcases roundX_path c x hx hw.prec1 with ⟨-, e⟩ | ⟨d, res, δ, P, e⟩
  · rw [e] at h; cases h.1
  rw [e] at h ⊢
  refine se_pair_wide c hw d res _ (P.form.trans hx) ?_ h
  cases P with
  | sub h0 hadj =>
    -- an operand below `emin = MinExponent` ends in a system underflow
    obtain ⟨-, hge⟩ := setExponent_wide c hw x cSubnormal _ (noSys_right _ _ h)
    rw [sumInts_pair, ← hw.emin] at hge
    omega
  | short => rfl
  | long => split <;> rfl

theorem noSys_of_none (t fl : Cond) (h : goError t fl = .none) : NoSys fl := ((goError_none_iff t fl).1 h).1

theorem mulOp_err (c : Ctx) (x y : Dec) (hx : x.form = .finite) (hy : y.form = .finite) :
    (mulOp c x y).err = goError c.traps (mulOp c x y).fl := by
  rw [mulOp_finite c x y hx hy]; rfl

theorem mulOp_wide_of_noSys (c : Ctx) (hw : Wide c) (x y : Dec) (hx : x.form = .finite) (hy : y.form = .finite)
    (hns : NoSys (mulOp c x y).fl) :
    (mulOp c x y).d.form = .finite ∧ (mulOp c x y).fl.subnormal = false := by
  have e := (mulOp_noSys_inv c hw.emin hw.emax (by have := hw.prec1; omega) x y hx hy hns).2
  rw [e] at hns ⊢
  exact ctxRound_wide c hw _ rfl hns

theorem mulOp_wide (c : Ctx) (hw : Wide c) (x y : Dec) (hx : x.form = .finite) (hy : y.form = .finite)
    (he : (mulOp c x y).err = .none) :
    (mulOp c x y).d.form = .finite ∧ (mulOp c x y).fl.subnormal = false :=
  mulOp_wide_of_noSys c hw x y hx hy (noSys_of_none _ _ (mulOp_err c x y hx hy ▸ he))

theorem addOp_wide (c : Ctx) (hw : Wide c) (x y : Dec) (sub : Bool) (hx : x.form = .finite) (hy : y.form = .finite)
    (he : (addOp c x y sub).err = .none) :
    (addOp c x y sub).d.form = .finite ∧ (addOp c x y sub).fl.subnormal = false := by
  rcases add_core c x y sub hx hy with ⟨d, hd, e1, _⟩ | hsys
  · rw [e1] at he ⊢
    simp only [finish] at he ⊢
    exact ctxRound_wide c hw d hd (noSys_of_none _ _ he)
  · rw [hsys] at he; cases he

theorem quoOp_err (c : Ctx) (x y : Dec) (hx : x.form = .finite) (hy : y.form = .finite) (hy0 : y.coeff ≠ 0)
    (hp : c.prec ≠ 0) : (quoOp c x y).err = goError c.traps (quoOp c x y).fl := by
  by_cases hx0 : x.coeff = 0
  · rw [QuoL.quoOp_zero c x y hx hy hy0 hp hx0]; rfl
  · rw [QuoL.quoOp_eq c x y hx hy hy0 hp hx0]; rfl

theorem quoOp_wide_of_noSys (c : Ctx) (hw : Wide c) (x y : Dec) (hx : x.form = .finite) (hy : y.form = .finite)
    (hy0 : y.coeff ≠ 0) (hns : NoSys (quoOp c x y).fl) :
    (quoOp c x y).d.form = .finite ∧ (quoOp c x y).fl.subnormal = false := by
  by_cases hx0 : x.coeff = 0
  · rw [QuoL.quoOp_zero c x y hx hy hy0 (by have := hw.prec1; omega) hx0] at hns ⊢
    exact se_wide c hw _ {} _ rfl rfl hns
  obtain ⟨cf, δ, res, e, hsub, -⟩ := QuoL.quoOp_shape c x y hx hy hy0 hw.prec1 hx0
  rw [e] at hns ⊢
  exact se_pair_wide c hw _ _ _ rfl hsub hns

theorem quoOp_wide (c : Ctx) (hw : Wide c) (x y : Dec) (hx : x.form = .finite) (hy : y.form = .finite)
    (hy0 : y.coeff ≠ 0) (he : (quoOp c x y).err = .none) :
    (quoOp c x y).d.form = .finite ∧ (quoOp c x y).fl.subnormal = false :=
  quoOp_wide_of_noSys c hw x y hx hy hy0
    (noSys_of_none _ _ (quoOp_err c x y hx hy hy0 (by have := hw.prec1; omega) ▸ he))

theorem abs_sign (b : Bool) : |(if b then (-1 : ℚ) else 1)| = 1 := by cases b <;> simp

/-- `ρ` is any bound on the distance of `roundInt` from its argument (`1/2` for the half modes) -/
theorem agrees_err (c : Ctx) (ex : Exact) (d : Dec) (fl : Cond) (ρ : ℚ) (hn : 0 < ex.num) (hd : 0 < ex.den)
    (hA : Agrees c ex d fl) (hf : d.form = .finite)
    (hρ : ∀ t, |((roundInt c.mode ex.neg t : ℤ) : ℚ) - t| ≤ ρ) :
    |d.toRat - ex.toRat| ≤ ρ * (10 : ℚ) ^ quantum c (adjRat ex.num ex.den + ex.e10) := by
  obtain ⟨hval, -⟩ := Rat_agrees_finite c ex d fl hn hd (mag_isAdj ex hn hd) hA hf
  have hq : (0 : ℚ) < (10 : ℚ) ^ quantum c (adjRat ex.num ex.den + ex.e10) := zpow_pos (by norm_num) _
  rw [hval, Exact.toRat_eq, ← mul_sub, abs_mul, abs_sign, one_mul, roundedMag]
  have e : ∀ n m Q : ℚ, Q ≠ 0 → n * Q - m = (n - m / Q) * Q := fun n m Q hQ => by
    rw [sub_mul, div_mul_cancel₀ _ hQ]
  rw [e _ _ _ hq.ne', abs_mul, abs_of_pos hq]
  exact mul_le_mul_of_nonneg_right (hρ _) hq.le

theorem quantum_of_not_subnormal (c : Ctx) (ex : Exact) (d : Dec) (fl : Cond) (hn : 0 < ex.num)
    (hd : 0 < ex.den) (hA : Agrees c ex d fl) (hf : d.form = .finite) (hsub : fl.subnormal = false) :
    quantum c (adjRat ex.num ex.den + ex.e10) = adjRat ex.num ex.den + ex.e10 - (c.prec : ℤ) + 1 := by
  have ha := mag_isAdj ex hn hd
  obtain ⟨-, -, hsubiff, -⟩ := Rat_agrees_finite c ex d fl hn hd ha hA hf
  have hmag : (10 : ℚ) ^ c.emin ≤ ex.mag := by
    by_contra hcon
    have := hsubiff.2 (by rw [Exact.abs_toRat]; exact lt_of_not_ge hcon)
    rw [hsub] at this; cases this
  have h1 := ha.le_of_le hmag
  exact max_eq_left (by omega)

end Apd.ExpAcc

namespace Apd
open Apd.Oracle Apd.Props Apd.RatSpec Apd.C20L Apd.SqrtL Apd.SqrtX Apd.ExpAcc Cond

/-- a working context of the composite functions at precision `p`: the package's exponent limits, a mode that rounds
to nearest -/
structure Work (c : Ctx) (p : ℕ) : Prop where
  hp : c.prec = p
  wide : Wide c
  half : c.mode = .halfUp ∨ c.mode = .halfDown ∨ c.mode = .halfEven

theorem Work.wf {c : Ctx} {p : ℕ} (h : Work c p) : c.WF := h.wide.wf

/-- `d` is `v` rounded once to `p` significant digits by a mode that rounds to nearest, in the normal range -/
structure Rounded (p : ℕ) (v : ℚ) (d : Dec) : Prop where
  fin : d.form = .finite
  nd : ndigits d.coeff ≤ p
  val : |d.toRat - v| ≤ 5 * (10 : ℚ) ^ (-(p : ℤ)) * |v|
  pos : 0 < v → Pos d
  mag : v ≠ 0 → Rnd p |v| |d.toRat|

theorem Exact.pos_of_toRat_pos (ex : Exact) (hd : 0 < ex.den) (h : 0 < ex.toRat) : 0 < ex.num ∧ ex.neg = false := by
  have hn : 0 < ex.num := by
    rcases Nat.eq_zero_or_pos ex.num with h0 | h0
    · exfalso; unfold Exact.toRat at h; rw [h0] at h; simp at h
    · exact h0
  refine ⟨hn, ?_⟩
  cases hb : ex.neg
  · rfl
  · exact absurd ((Exact.toRat_neg_iff ex hn hd).2 hb) (not_lt.2 h.le)

theorem finite_of_agrees {cc : Ctx} {ex : Exact} {d : Dec} {fl : Cond} (hA : Agrees cc ex d fl)
    (hinf : (specRound cc ex).inf = false) : d.form = .finite := by
  have hm := hA.1
  by_contra hf
  by_cases hi : d.form = .infinite
  · rw [((Rat_matches_infinite _ d hi).1 hm).1] at hinf; cases hinf
  · rw [Rat_matches_nan _ d hf hi] at hm; cases hm

theorem toRat_zero_of_agrees {cc : Ctx} {ex : Exact} {d : Dec} {fl : Cond} (hA : Agrees cc ex d fl)
    (hf : d.form = .finite) (h0 : ex.num = 0) : d.toRat = 0 := by
  rw [Rat_matches_toRat _ d hf hA.1]; unfold SpecOut.toRat; rw [(Rat_specRound_zero cc ex h0).2.1]; simp

theorem half_eps (p : ℕ) (hp : 1 ≤ p) : 5 * (10 : ℚ) ^ (-(p : ℤ)) ≤ 1 / 2 := by
  have : (10 : ℚ) ^ (-(p : ℤ)) ≤ (10 : ℚ) ^ (-1 : ℤ) := zpow_le_zpow_right₀ ten_gt.le (by omega)
  rw [tm1] at this; linarith

/-- **reading `Agrees` in the normal range of a nearest mode**: a finite, not subnormal outcome that agrees with the
oracle's rounding of `ex` is `ex` rounded once -/
theorem rounded_of_agrees (c : Ctx) (hp : 1 ≤ c.prec)
    (hm : c.mode = .halfUp ∨ c.mode = .halfDown ∨ c.mode = .halfEven) (ex : Exact) (hd : 0 < ex.den) (d : Dec)
    (fl : Cond) (hA : Agrees c ex d fl) (hf : d.form = .finite) (hsub : fl.subnormal = false) :
    Rounded c.prec ex.toRat d := by
  have hnd := C11Q.fits_digits c d hp hf hA.2.2
  rcases Nat.eq_zero_or_pos ex.num with hn0 | hn
  · have h0 : ex.toRat = 0 := by unfold Exact.toRat; rw [hn0]; simp
    rw [h0]
    exact ⟨hf, hnd, by rw [toRat_zero_of_agrees hA hf hn0]; simp, fun h => absurd h (lt_irrefl _), fun h => absurd rfl h⟩
  · have ha := mag_isAdj ex hn hd
    obtain ⟨hval, -⟩ := Rat_agrees_finite c ex d fl hn hd ha hA hf
    have hq := quantum_of_not_subnormal c ex d fl hn hd hA hf hsub
    generalize adjRat ex.num ex.den + ex.e10 = a at ha hval hq
    -- the rounded magnitude is the magnitude rounded to nearest; the sign is kept
    have hR : Rnd c.prec ex.mag (roundedMag c ex.neg ex.mag a) := by
      unfold roundedMag; rw [hq]; exact rnd_roundInt c.prec c.mode hm ex.neg ha
    have hmag := IsAdj_pos ha
    have hrel := hR.rel
    have hRpos : 0 < roundedMag c ex.neg ex.mag a := by
      have := mul_le_mul_of_nonneg_right (half_eps c.prec hp) hmag.le
      linarith [(abs_le.1 hrel).1]
    have hpos : 0 < ex.toRat → ex.neg = false := fun h => (Exact.pos_of_toRat_pos ex hd h).2
    refine ⟨hf, hnd, ?_, fun h => ⟨hf, ?_, Nat.pos_of_ne_zero fun h0 => ?_⟩, fun _ => ?_⟩
    · rw [hval, Exact.toRat_eq, ← mul_sub, abs_mul, abs_sign, one_mul, abs_mul, abs_sign, one_mul, abs_of_pos hmag]
      exact hrel
    · rw [((Rat_matches_iff _ d hf).1 hA.1).2.1, Rat_specRound_neg, hpos h]
    · have hd0 : d.toRat = 0 := by unfold Dec.toRat; rw [h0]; simp
      rw [hd0] at hval
      rcases mul_eq_zero.1 hval.symm with h1 | h1
      · split_ifs at h1 <;> norm_num at h1
      · exact hRpos.ne' h1
    · rw [hval, Exact.toRat_eq, abs_mul, abs_sign, one_mul, abs_mul, abs_sign, one_mul, abs_of_pos hmag,
        abs_of_pos hRpos]
      exact hR

theorem Rounded.rnd {p : ℕ} {v : ℚ} {d : Dec} (h : Rounded p v d) (hv : 0 < v) : Rnd p v d.toRat := by
  have := h.mag hv.ne'
  rwa [abs_of_pos hv, abs_of_pos (h.pos hv).toRat_pos] at this

theorem Rounded.rel {p : ℕ} {v : ℚ} {d : Dec} (h : Rounded p v d) :
    ∃ δ : ℚ, |δ| ≤ 5 * (10 : ℚ) ^ (-(p : ℤ)) ∧ d.toRat = v * (1 + δ) := by
  by_cases hv : v = 0
  · refine ⟨0, by rw [abs_zero]; exact (mul_pos (by norm_num) (tp _)).le, ?_⟩
    have := h.val
    rw [hv, abs_zero, mul_zero, sub_zero] at this
    rw [hv, zero_mul]; exact abs_nonpos_iff.1 this
  · refine ⟨(d.toRat - v) / v, ?_, by field_simp; ring⟩
    rw [abs_div, div_le_iff₀ (abs_pos.2 hv)]; exact h.val

/-- `Rnd.exact` for the magnitudes; the relative bound keeps the sign -/
theorem Rounded.exact {p : ℕ} {v : ℚ} {d : Dec} (h : Rounded p v d) (hp : 1 ≤ p) {b z : ℤ}
    (hv : |v| < (10 : ℚ) ^ (b + 1)) (k : ℤ) (hk : |v| = (k : ℚ) * (10 : ℚ) ^ z) (hz : b - (p : ℤ) + 1 ≤ z) :
    d.toRat = v := by
  obtain ⟨δ, hδ, e⟩ := h.rel
  by_cases hv0 : v = 0
  · rw [e, hv0, zero_mul]
  · rcases abs_eq_abs.1 ((h.mag hv0).exact hv k hk hz) with e' | e'
    · exact e'
    · -- `d = -v` would need `δ = -2`
      have h1 : 1 + δ = -1 := mul_left_cancel₀ hv0 (e.symm.trans (e'.trans (mul_neg_one v).symm))
      have := hδ.trans (half_eps p hp)
      rw [eq_sub_of_add_eq' h1] at this
      norm_num at this

theorem rounded_of_wide (c : Ctx) {p : ℕ} (hw : Work c p) (ex : Exact) (hd : 0 < ex.den) {d : Dec} {fl : Cond}
    {v : ℚ} (hA : Agrees c ex d fl) (h : d.form = .finite ∧ fl.subnormal = false) (hv : ex.toRat = v) :
    Rounded p v d :=
  hw.hp ▸ hv ▸ rounded_of_agrees c hw.wide.prec1 hw.half ex hd _ _ hA h.1 h.2

theorem mulOp_rounded (c : Ctx) {p : ℕ} (hw : Work c p) (x y : Dec) (hx : x.form = .finite) (hy : y.form = .finite)
    (he : (mulOp c x y).err = .none) : Rounded p (x.toRat * y.toRat) (mulOp c x y).d :=
  rounded_of_wide c hw (exactMul x y) Nat.one_pos (C01_mul c hw.wf x y hx hy (Or.inl he))
    (mulOp_wide c hw.wide x y hx hy he) (Rat_exactMul_toRat x y)

theorem quoOp_rounded (c : Ctx) {p : ℕ} (hw : Work c p) (x y : Dec) (hx : x.form = .finite) (hy : y.form = .finite)
    (hy0 : y.coeff ≠ 0) (he : (quoOp c x y).err = .none) : Rounded p (x.toRat / y.toRat) (quoOp c x y).d :=
  rounded_of_wide c hw (exactQuo x y) (Nat.pos_of_ne_zero hy0) (C01_quo c hw.wf x y hx hy hy0 (Or.inl he))
    (quoOp_wide c hw.wide x y hx hy hy0 he) (Rat_exactQuo_toRat x y)

theorem addOp_rounded (c : Ctx) {p : ℕ} (hw : Work c p) (x y : Dec) (sub : Bool) (hx : x.form = .finite)
    (hy : y.form = .finite) (he : (addOp c x y sub).err = .none) :
    Rounded p (x.toRat + (if sub then - y.toRat else y.toRat)) (addOp c x y sub).d :=
  rounded_of_wide c hw (exactAdd c x y sub) (by rw [(Rat_exactAdd_shape c x y sub).1]; exact Nat.one_pos)
    (C01_add c hw.wf x y sub hx hy (Or.inl he)) (addOp_wide c hw.wide x y sub hx hy he) (Rat_exactAdd_toRat c x y sub)

theorem ctxRound_rounded (c : Ctx) {p : ℕ} (hw : Work c p) (x : Dec) (hx : x.form = .finite) (hns : NoSys (ctxRound c x).2) :
    Rounded p x.toRat (ctxRound c x).1 :=
  rounded_of_wide c hw (exactRound x) Nat.one_pos
    (C01_roundCore c hw.wf x hx hns) (ctxRound_wide c hw.wide x hx hns) (Rat_exactRound_toRat x)

/-- no trap on a condition that a rounded result in the normal range may carry (`{}`, `DefaultTraps`) -/
structure NoSoftTrap (t : Cond) : Prop where
  inexact : t.inexact = false
  rounded : t.rounded = false
  clamped : t.clamped = false

theorem noSoftTrap_empty : NoSoftTrap {} := ⟨rfl, rfl, rfl⟩
theorem noSoftTrap_default : NoSoftTrap defaultTraps := ⟨rfl, rfl, rfl⟩

theorem goError_noSoftTrap {t fl : Cond} (ht : NoSoftTrap t) (h : NoSys fl) (h1 : fl.overflow = false)
    (h2 : fl.underflow = false) (h3 : fl.subnormal = false) (h4 : fl.divUndefined = false)
    (h5 : fl.divByZero = false) (h6 : fl.divImpossible = false) (h7 : fl.invalidOp = false) :
    goError t fl = .none := by
  rw [goError_none_iff]
  refine ⟨h, ?_⟩
  obtain ⟨t1, t2, t3⟩ := ht
  obtain ⟨s1, s2⟩ := h
  show (Cond.and fl t).any = false
  simp only [Cond.and, Cond.any, s1, s2, h1, h2, h3, h4, h5, h6, h7, t1, t2, t3, Bool.false_and, Bool.and_false,
    Bool.or_self]

/-- what an operation that went through under the trap set `t` delivers: no error, no trapped condition, the exact
value `v` rounded once -/
structure OpOk (t : Cond) (p : ℕ) (v : ℚ) (o : Out) : Prop where
  err : o.err = .none
  flg : goError t o.fl = .none
  r : Rounded p v o.d

theorem OpOk.ns {t : Cond} {p : ℕ} {v : ℚ} {o : Out} (h : OpOk t p v o) : NoSys o.fl := noSys_of_none _ _ h.flg

/-- **forwards**: an operation whose error is the `goError` of its flags, that raised no system flag (`mul_noSys`,
`quo_noSys`, `round_noSys`: operands and result inside the package limits), whose outcome is then finite and not
subnormal (`*_wide`) and agrees with the oracle, went through -/
theorem opOk_of_agrees (c : Ctx) {p : ℕ} (hw : Work c p) (ht : NoSoftTrap c.traps) (ex : Exact) (hd : 0 < ex.den)
    (o : Out) {v : ℚ}
    (hns : NoSys o.fl) (herr : o.err = goError c.traps o.fl) (hA : Delivered o.err → Agrees c ex o.d o.fl)
    (hwide : o.d.form = .finite ∧ o.fl.subnormal = false) (hv : ex.toRat = v) : OpOk c.traps p v o := by
  have A := hA (by rw [herr]; exact (delivered_goError_iff _ _).2 hns)
  obtain ⟨-, f2, f3, f4, -, -, f7, f8, f9, f10⟩ := A.2.1
  have hinf := ((Rat_matches_iff _ _ hwide.1).1 A.1).1
  have hfl : goError c.traps o.fl = .none :=
    goError_noSoftTrap ht hns (by rw [f4, Rat_specRound_overflow_flag, hinf])
      (by rw [f3, Rat_specRound_underflow, ← f2, hwide.2]; rfl) hwide.2 f7 f8 f9 f10
  exact ⟨herr.trans hfl, hfl, rounded_of_wide c hw ex hd A hwide hv⟩

theorem mulOp_ok (c : Ctx) {p : ℕ} (hw : Work c p) (ht : NoSoftTrap c.traps)
    (x y : Dec) (hx : x.form = .finite) (hy : y.form = .finite) (hx0 : 0 < x.coeff) (hy0 : 0 < y.coeff)
    (e1 : -100000 ≤ x.exp) (e2 : x.exp ≤ 100000) (e3 : -100000 ≤ y.exp) (e4 : y.exp ≤ 100000)
    (e5 : -100000 ≤ x.exp + y.exp)
    (h1 : ndigits (x.coeff * y.coeff) ≤ 99999 + p)
    (hhi : |x.toRat * y.toRat| < (10 : ℚ) ^ (99999 : ℤ)) :
    OpOk c.traps p (x.toRat * y.toRat) (mulOp c x y) := by
  have hv : |x.toRat * y.toRat| = ((x.coeff * y.coeff : ℕ) : ℚ) * (10 : ℚ) ^ (x.exp + y.exp) := by
    rw [abs_mul, abs_toRat, abs_toRat, zpow_add₀ ten_ne]; push_cast; ring
  have hadj := (IsAdj_digits (x.coeff * y.coeff) (x.exp + y.exp) (Nat.mul_pos hx0 hy0)).lt_of_lt (hv ▸ hhi)
  have hns := mul_noSys c hw.wf hw.wide.emin hw.wide.emax x y hx hy e1 e2 e3 e4 e5 (hw.hp ▸ h1) (by omega)
  exact opOk_of_agrees c hw ht (exactMul x y) Nat.one_pos _ hns (mulOp_err c x y hx hy) (C01_mul c hw.wf x y hx hy)
    (mulOp_wide_of_noSys c hw.wide x y hx hy hns) (Rat_exactMul_toRat x y)

theorem quoOp_ok (c : Ctx) {p : ℕ} (hw : Work c p) (ht : NoSoftTrap c.traps) (x y : Dec) (hx : Pos x) (hy : Pos y)
    (e1 : -100000 ≤ x.exp - y.exp) (e2 : x.exp - y.exp ≤ 100000)
    (d1 : ndigits x.coeff ≤ 100000) (d2 : ndigits y.coeff ≤ 100000)
    (hlo : (10 : ℚ) ^ (-100000 : ℤ) ≤ x.toRat / y.toRat) (hhi : x.toRat / y.toRat < (10 : ℚ) ^ (99999 : ℤ)) :
    OpOk c.traps p (x.toRat / y.toRat) (quoOp c x y) := by
  have hex : (exactQuo x y).toRat = x.toRat / y.toRat := Rat_exactQuo_toRat x y
  have hneg : (exactQuo x y).neg = false := by simp [exactQuo, hx.hn, hy.hn]
  have hmag : (exactQuo x y).mag = x.toRat / y.toRat := by
    rw [← hex, Exact.toRat_eq, hneg]; simp
  have ha : IsAdj (x.toRat / y.toRat) (adjRat x.coeff y.coeff + (x.exp - y.exp)) :=
    hmag ▸ mag_isAdj (exactQuo x y) hx.h0 hy.h0
  have alo := ha.le_of_le hlo
  have ahi := ha.lt_of_lt hhi
  have hy0 : y.coeff ≠ 0 := Nat.pos_iff_ne_zero.1 hy.h0
  have hns := quo_noSys c hw.wf hw.wide.emin x y hx.hf hy.hf hx.h0 hy.h0 e1 e2 d1 d2 (by omega) (by omega)
  exact opOk_of_agrees c hw ht (exactQuo x y) hy.h0 _ hns
    (quoOp_err c x y hx.hf hy.hf hy0 (by have := hw.wide.prec1; omega)) (C01_quo c hw.wf x y hx.hf hy.hf hy0)
    (quoOp_wide_of_noSys c hw.wide x y hx.hf hy.hf hy0 hns) hex

theorem addOp_ok (c : Ctx) {p : ℕ} (hw : Work c p) (ht : NoSoftTrap c.traps)
    (x y : Dec) (sub : Bool) (hx : x.form = .finite) (hy : y.form = .finite)
    (e1 : -100000 ≤ x.exp) (e2 : x.exp ≤ 99999) (e3 : -100000 ≤ y.exp) (e4 : y.exp ≤ 99999)
    (g1 : x.exp - y.exp ≤ 100000) (g2 : y.exp - x.exp ≤ 100000) (k : ℤ) (hk : k ≤ 99999)
    (hkx : k - x.exp ≤ 99999 + p) (hky : k - y.exp ≤ 99999 + p)
    (hhi : |x.toRat + (if sub then - y.toRat else y.toRat)| < (10 : ℚ) ^ k) :
    OpOk c.traps p (x.toRat + (if sub then - y.toRat else y.toRat)) (addOp c x y sub) := by
  obtain ⟨d, hdf, hdeq, hdex⟩ := add_core' c x y sub hx hy g1 g2
  have hv := Rat_exactAdd_toRat c x y sub
  have hdexp : d.exp = min x.exp y.exp := by
    have := congrArg Exact.e10 hdex
    rw [(Rat_exactAdd_shape c x y sub).2] at this; exact this.symm
  have hnp := ndigits_pos d.coeff
  have hp := hw.hp
  have hdig : d.coeff = 0 ∨ d.exp + (ndigits d.coeff : ℤ) ≤ k :=
    (Nat.eq_zero_or_pos d.coeff).imp_right fun h0 => Int.le_of_sub_one_lt
      ((abs_toRat_isAdj d h0).lt_of_lt (Rat_exactRound_toRat d ▸ hdex ▸ hv ▸ hhi))
  have hns : NoSys (ctxRound c d).2 := by
    apply round_noSys c hw.wf d hdf (by rw [hdexp]; omega) (by rw [hdexp]; omega)
    · rcases hdig with h | h
      · rw [h, Apd.ndigits_zero]; omega
      · rw [hdexp] at h; omega
    · rcases hdig with h | h
      · rw [h, Apd.ndigits_zero, hdexp]; omega
      · omega
  rw [hdeq]
  exact opOk_of_agrees c hw ht (exactAdd c x y sub) (by rw [hdex]; exact Nat.one_pos) _ hns rfl
    (hdeq ▸ C01_add c hw.wf x y sub hx hy) (ctxRound_wide c hw.wide d hdf hns) hv

end Apd

/-! ## the `ErrDecimal` between two steps

A composite function chains its operations through an `ErrDecimal`.  Between two steps it has not failed and carries the
working context (`EDg`); a step that did not fail hands on that state together with the exact result rounded once
(`EDg.mul_back`, `EDg.quo_back`, `EDg.add_back`; over `ℝ`: `EDg.mul_real` … of `Lemmas/ExpAccOps.lean`), and so does
a step whose operation went through (`EDg.step_ok`).  That a step did not fail is read backwards from the last one
(`EDg.nf_back`). -/

namespace Apd
open Apd.ExpAcc

structure EDg (cc : Ctx) (e : ED) : Prop where
  nf : e.failed = false
  c : e.c = cc

theorem EDg.init (cc : Ctx) : EDg cc { c := cc } := ⟨ED.fresh_not_failed cc, rfl⟩

theorem EDg.nf_back {e : ED} {cur : Dec} {op : Ctx → Out} {r : ED × Dec} (hr : e.step cur op = r)
    (h : r.1.failed = false) : e.failed = false := (ED.step_back (hr ▸ h)).1

variable {cc : Ctx} {p : ℕ} {e : ED} {cur x y : Dec} {r : ED × Dec}

theorem EDg.step_back (he : EDg cc e) {op : Ctx → Out} (hr : e.step cur op = r) (h : r.1.failed = false) :
    (op cc).err = .none ∧ r.2 = (op cc).d ∧ EDg cc r.1 :=
  have h' := ED.step_back_at he.c hr h
  ⟨h'.2.1, h'.2.2.1, h, h'.2.2.2⟩

theorem EDg.step_fw (he : EDg cc e) (cur : Dec) {op : Ctx → Out} (h1 : (op cc).err = .none)
    (h2 : goError cc.traps (op cc).fl = .none) : EDg cc (e.step cur op).1 ∧ (e.step cur op).2 = (op cc).d := by
  obtain ⟨nf, rfl⟩ := he
  exact ⟨⟨(ED.step_fw cur nf h1 h2).1, ED.step_c ..⟩, (ED.step_fw cur nf h1 h2).2.1⟩

theorem EDg.step_ok (he : EDg cc e) (cur : Dec) {op : Ctx → Out} {v : ℚ} (F : OpOk cc.traps p v (op cc)) :
    EDg cc (e.step cur op).1 ∧ Rounded p v (e.step cur op).2 := by
  obtain ⟨g, hd⟩ := he.step_fw cur F.err F.flg
  exact ⟨g, hd ▸ F.r⟩

theorem EDg.mul_back (he : EDg cc e) (hw : Work cc p) (hr : e.step cur (fun c => mulOp c x y) = r)
    (h : r.1.failed = false) (hx : x.form = .finite) (hy : y.form = .finite) :
    EDg cc r.1 ∧ Rounded p (x.toRat * y.toRat) r.2 := by
  obtain ⟨a, v, E⟩ := he.step_back hr h
  exact ⟨E, v ▸ mulOp_rounded cc hw x y hx hy a⟩

theorem EDg.quo_back (he : EDg cc e) (hw : Work cc p) (hr : e.step cur (fun c => quoOp c x y) = r)
    (h : r.1.failed = false) (hx : x.form = .finite) (hy : y.form = .finite) (hy0 : y.coeff ≠ 0) :
    EDg cc r.1 ∧ Rounded p (x.toRat / y.toRat) r.2 := by
  obtain ⟨a, v, E⟩ := he.step_back hr h
  exact ⟨E, v ▸ quoOp_rounded cc hw x y hx hy hy0 a⟩

theorem EDg.add_back (he : EDg cc e) (hw : Work cc p) {sub : Bool} (hr : e.step cur (fun c => addOp c x y sub) = r)
    (h : r.1.failed = false) (hx : x.form = .finite) (hy : y.form = .finite) :
    EDg cc r.1 ∧ Rounded p (x.toRat + (if sub then - y.toRat else y.toRat)) r.2 := by
  obtain ⟨a, v, E⟩ := he.step_back hr h
  exact ⟨E, v ▸ addOp_rounded cc hw x y sub hx hy a⟩

end Apd
