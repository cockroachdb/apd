import ApdVerif.Oracle.Roots
import ApdVerif.Lemmas.NearRoot
import Mathlib.Tactic.Ring
import Mathlib.Tactic.Linarith
import Mathlib.Tactic.NormNum
import Mathlib.Data.Nat.Sqrt
/-! # Lemmas for C11: the integer Newton iterations `isqrt` and `icbrt` are exact; the rounding decision
of `specSqrt` as arithmetic on naturals (`nearest_core`, from `Lemmas/NearRoot.lean`; `specSqrt_fields`) -/
namespace Apd.C11L
open Apd.Oracle

/-- AM-GM: a Newton step from any positive `x` stays at or above the floor root -/
theorem sqrt_step_ge (n s x : Nat) (hx : 0 < x) (h1 : s * s ≤ n) : s ≤ (x + n / x) / 2 := by
  have hq : n < (n / x + 1) * x := by
    have := Nat.lt_succ_iff.mpr (Nat.le_refl (n / x))
    exact (Nat.div_lt_iff_lt_mul hx).mp this
  generalize n / x = q at *
  by_contra hc
  have hc' : x + q + 1 ≤ 2 * s := by omega
  have : (x + q + 1) * (x + q + 1) ≤ (2 * s) * (2 * s) := Nat.mul_le_mul hc' hc'
  linarith [four_mul_le_sq_add x (q + 1)]

theorem isqrtAux_eq (n s : Nat) (hs0 : 0 < s) (h1 : s * s ≤ n) (h2 : n < (s + 1) * (s + 1)) :
    ∀ fuel x, s ≤ x → x - s < 2 ^ fuel → isqrtAux fuel n x = s := by
  intro fuel
  induction fuel with
  | zero => intro x hsx hd; simp only [isqrtAux]; simp at hd; omega
  | succ f ih =>
    intro x hsx hd
    have hx : 0 < x := by omega
    simp only [isqrtAux]
    have hge := sqrt_step_ge n s x hx h1
    have hq1 : n / x * x ≤ n := Nat.div_mul_le_self n x
    have hq2 : n < (n / x + 1) * x := by
      have := Nat.lt_succ_iff.mpr (Nat.le_refl (n / x))
      exact (Nat.div_lt_iff_lt_mul hx).mp this
    generalize n / x = q at *
    split
    · rename_i hlt
      apply ih _ hge
      -- q < x, so x*x > n, so x ≥ s+1, so q ≤ s
      have hqx : q < x := by omega
      have hxs : s + 1 ≤ x := by
        by_contra hc
        have : x = s := by omega
        subst this
        have := Nat.mul_le_mul_right x (show q + 1 ≤ x by omega)
        omega
      have hqs : q ≤ s := by
        by_contra hc
        have : (s + 1) * (s + 1) ≤ q * x := Nat.mul_le_mul (by omega) hxs
        omega
      have : 2 ^ (f + 1) = 2 * 2 ^ f := by rw [Nat.pow_succ]; omega
      omega
    · rename_i hnlt
      have hqx : x ≤ q := by omega
      have hxx : x * x ≤ n := Nat.le_trans (Nat.mul_le_mul_right x hqx) hq1
      by_contra hc
      have : s + 1 ≤ x := by omega
      have : (s + 1) * (s + 1) ≤ x * x := Nat.mul_le_mul this this
      omega

theorem isqrt_eq (n s : Nat) (h1 : s * s ≤ n) (h2 : n < (s + 1) * (s + 1)) : isqrt n = s := by
  unfold isqrt
  split
  · rename_i h
    have : s ≤ 1 := by
      by_contra hc
      have : 2 * 2 ≤ s * s := Nat.mul_le_mul (by omega) (by omega)
      omega
    have hs01 : s = 0 ∨ s = 1 := by omega
    rcases hs01 with rfl | rfl <;> omega
  · rename_i h
    have hn : n ≠ 0 := by omega
    have hs0 : 0 < s := by
      by_contra hc
      have : s = 0 := by omega
      subst this; omega
    have hlog : n < 2 ^ (Nat.log2 n + 1) := Nat.lt_log2_self
    generalize Nat.log2 n = l at *
    have hx0 : s ≤ 2 ^ (l / 2 + 1) := by
      by_contra hc
      have hlt : 2 ^ (l / 2 + 1) ≤ s := by omega
      have : 2 ^ (l / 2 + 1) * 2 ^ (l / 2 + 1) ≤ s * s := Nat.mul_le_mul hlt hlt
      rw [← Nat.pow_add] at this
      have : 2 ^ (l + 1) ≤ 2 ^ (l / 2 + 1 + (l / 2 + 1)) := Nat.pow_le_pow_right (by decide) (by omega)
      omega
    apply isqrtAux_eq n s hs0 h1 h2 _ _ hx0
    have : 2 ^ (l / 2 + 1) < 2 ^ (2 * l + 8) := Nat.pow_lt_pow_right (by decide) (by omega)
    omega

theorem exists_cbrt (n : Nat) : ∃ s, s * s * s ≤ n ∧ n < (s + 1) * (s + 1) * (s + 1) := by
  induction n with
  | zero => exact ⟨0, by simp⟩
  | succ n ih =>
    obtain ⟨s, h1, h2⟩ := ih
    by_cases h : n + 1 < (s + 1) * (s + 1) * (s + 1)
    · exact ⟨s, by omega, h⟩
    · refine ⟨s + 1, by omega, ?_⟩
      have : (s + 1) * (s + 1) * (s + 1) < (s + 1 + 1) * (s + 1 + 1) * (s + 1 + 1) := by nlinarith
      omega

theorem cube_mono {a b : Nat} (h : a ≤ b) : a * a * a ≤ b * b * b :=
  Nat.mul_le_mul (Nat.mul_le_mul h h) h

/-- AM-GM for the cube step -/
theorem cbrt_step_ge (n s x : Nat) (hx : 0 < x) (h1 : s * s * s ≤ n) :
    s ≤ (2 * x + n / (x * x)) / 3 := by
  have hxx : 0 < x * x := Nat.mul_pos hx hx
  have hq : n < (n / (x * x) + 1) * (x * x) := by
    have := Nat.lt_succ_iff.mpr (Nat.le_refl (n / (x * x)))
    exact (Nat.div_lt_iff_lt_mul hxx).mp this
  generalize n / (x * x) = q at *
  by_contra hc
  have hc' : 2 * x + q + 1 ≤ 3 * s := by omega
  -- (q+1) x² ≤ (3s - 2x) x² ≤ s³
  have hz : ((q : ℤ) + 1) ≤ 3 * s - 2 * x := by omega
  have hxz : (0 : ℤ) ≤ (x : ℤ) * x := by positivity
  have h3 : ((q : ℤ) + 1) * (x * x) ≤ (3 * s - 2 * x) * (x * x) := mul_le_mul_of_nonneg_right hz hxz
  have h4 : (3 * (s : ℤ) - 2 * x) * (x * x) ≤ s * s * s := by
    have : (s : ℤ) * s * s - (3 * s - 2 * x) * (x * x) = (s - x) * (s - x) * (s + 2 * x) := by ring
    have h5 : (0 : ℤ) ≤ (s - x) * (s - x) * (s + 2 * x) :=
      mul_nonneg (mul_self_nonneg _) (by positivity)
    linarith
  have h6 : ((n : ℤ)) < ((q : ℤ) + 1) * (x * x) := by exact_mod_cast hq
  have h7 : ((s : ℤ)) * s * s ≤ n := by exact_mod_cast h1
  linarith

theorem icbrtAux_eq (n s : Nat) (hs0 : 0 < s) (h1 : s * s * s ≤ n)
    (h2 : n < (s + 1) * (s + 1) * (s + 1)) :
    ∀ fuel x, s ≤ x → (x - s) * 2 ^ fuel < 3 ^ fuel → icbrtAux fuel n x = s := by
  intro fuel
  induction fuel with
  | zero => intro x hsx hd; simp only [icbrtAux]; simp at hd; omega
  | succ f ih =>
    intro x hsx hd
    have hx : 0 < x := by omega
    have hxx : 0 < x * x := Nat.mul_pos hx hx
    simp only [icbrtAux]
    have hge := cbrt_step_ge n s x hx h1
    have hq1 : n / (x * x) * (x * x) ≤ n := Nat.div_mul_le_self n (x * x)
    have hq2 : n < (n / (x * x) + 1) * (x * x) := by
      have := Nat.lt_succ_iff.mpr (Nat.le_refl (n / (x * x)))
      exact (Nat.div_lt_iff_lt_mul hxx).mp this
    generalize n / (x * x) = q at *
    split
    · rename_i hlt
      apply ih _ hge
      have hqx : q < x := by omega
      have hxs : s + 1 ≤ x := by
        by_contra hc
        have : x = s := by omega
        subst this
        have : (q + 1) * (x * x) ≤ x * (x * x) := Nat.mul_le_mul_right _ (by omega)
        have : x * (x * x) = x * x * x := by ring
        omega
      have hqs : q ≤ s := by
        by_contra hc
        have h5 : (s + 1) * (s + 1) ≤ x * x := Nat.mul_le_mul hxs hxs
        have : (s + 1) * ((s + 1) * (s + 1)) ≤ q * (x * x) := Nat.mul_le_mul (by omega) h5
        have : (s + 1) * ((s + 1) * (s + 1)) = (s + 1) * (s + 1) * (s + 1) := by ring
        omega
      have e2 : 2 ^ (f + 1) = 2 * 2 ^ f := by rw [Nat.pow_succ]; omega
      have e3 : 3 ^ (f + 1) = 3 * 3 ^ f := by rw [Nat.pow_succ]; omega
      rw [e2, e3] at hd
      -- y - s ≤ 2 (x - s) / 3
      have hy : ((2 * x + q) / 3 - s) * 3 ≤ 2 * (x - s) := by omega
      have : ((2 * x + q) / 3 - s) * 3 * 2 ^ f ≤ 2 * (x - s) * 2 ^ f := Nat.mul_le_mul_right _ hy
      have e4 : ((2 * x + q) / 3 - s) * 3 * 2 ^ f = 3 * (((2 * x + q) / 3 - s) * 2 ^ f) := by ring
      have e5 : 2 * (x - s) * 2 ^ f = (x - s) * (2 * 2 ^ f) := by ring
      omega
    · rename_i hnlt
      have hqx : x ≤ q := by omega
      have hxx : x * (x * x) ≤ n := Nat.le_trans (Nat.mul_le_mul_right _ hqx) hq1
      by_contra hc
      have : s + 1 ≤ x := by omega
      have := cube_mono this
      have : x * (x * x) = x * x * x := by ring
      omega

theorem icbrt_eq (n s : Nat) (h1 : s * s * s ≤ n) (h2 : n < (s + 1) * (s + 1) * (s + 1)) :
    icbrt n = s := by
  unfold icbrt
  split
  · rename_i h
    have : s ≤ 1 := by
      by_contra hc
      have := cube_mono (show 2 ≤ s by omega)
      omega
    have hs01 : s = 0 ∨ s = 1 := by omega
    rcases hs01 with rfl | rfl <;> omega
  · rename_i h
    have hn : n ≠ 0 := by omega
    have hs0 : 0 < s := by
      by_contra hc
      have : s = 0 := by omega
      subst this; omega
    have hlog : n < 2 ^ (Nat.log2 n + 1) := Nat.lt_log2_self
    generalize Nat.log2 n = l at *
    have hx0 : s ≤ 2 ^ (l / 3 + 1) := by
      by_contra hc
      have hlt : 2 ^ (l / 3 + 1) ≤ s := by omega
      have := cube_mono hlt
      rw [← Nat.pow_add, ← Nat.pow_add] at this
      have : 2 ^ (l + 1) ≤ 2 ^ (l / 3 + 1 + (l / 3 + 1) + (l / 3 + 1)) :=
        Nat.pow_le_pow_right (by decide) (by omega)
      omega
    have hr : icbrtAux (2 * l + 8) n (2 ^ (l / 3 + 1)) = s := by
      apply icbrtAux_eq n s hs0 h1 h2 _ _ hx0
      have a1 : (2 ^ (l / 3 + 1) - s) * 2 ^ (2 * l + 8) ≤ 2 ^ (l / 3 + 1) * 2 ^ (2 * l + 8) :=
        Nat.mul_le_mul_right _ (Nat.sub_le _ _)
      rw [← Nat.pow_add] at a1
      have a2 : 2 ^ (l / 3 + 1 + (2 * l + 8)) ≤ 2 ^ (3 * (l + 4)) :=
        Nat.pow_le_pow_right (by decide) (by omega)
      have a3 : 2 ^ (3 * (l + 4)) = 8 ^ (l + 4) := by rw [Nat.pow_mul]
      have a4 : 3 ^ (2 * l + 8) = 9 ^ (l + 4) := by
        rw [show 2 * l + 8 = 2 * (l + 4) by omega, Nat.pow_mul]
      have a5 : 8 ^ (l + 4) < 9 ^ (l + 4) := Nat.pow_lt_pow_left (by decide) (by omega)
      omega
    simp only [hr]
    rw [if_neg (by omega), if_neg (by omega)]

open Apd.C11Q in
theorem nearest_core (n num den : Nat) (hd : 0 < den) (h1 : n * n * den ≤ num)
    (h2 : num < (n + 1) * (n + 1) * den) :
    let exact := n * n * den == num
    let half := compare (4 * num) ((2 * n + 1) * (2 * n + 1) * den)
    let m := if exact then n else if specAddOne .halfEven n false half then n + 1 else n
    ((2 * m - 1) * (2 * m - 1) * den ≤ 4 * num ∨ m = 0) ∧
    4 * num ≤ (2 * m + 1) * (2 * m + 1) * den ∧
    (4 * num = (2 * m + 1) * (2 * m + 1) * den → m % 2 = 0) ∧
    (m ≠ 0 → (2 * m - 1) * (2 * m - 1) * den = 4 * num → m % 2 = 0) ∧
    ((!exact) = false ↔ m * m * den = num) := by
  intro exact half m
  obtain ⟨f1, f2⟩ := floor_frame hd rfl n h1 h2
  have hm : m = choice n ((num : ℚ) / den) := specM_eq_choice n num den hd
  obtain ⟨g1, g2, g3, g4⟩ := (near_frame hd rfl m).2 (hm ▸ Near_choice_floor n _ f1 f2)
  refine ⟨g1, g2, g3, g4, ?_⟩
  rw [(sq_frame hd rfl m).2.2, hm, choice_sq_iff n _ f2, ← (sq_frame hd rfl n).2.2]
  simp [exact]

theorem ite_inf {b : Bool} {A B : SpecOut} (hA : A.inf = true)
    (h : (if b then A else B).inf = false) : (if b then A else B) = B := by
  cases b
  · simp
  · simp [hA] at h

theorem specSqrt_fields (c : Ctx) (x : Dec) :
    let q : Int := max (fdiv2 ((ndigits x.coeff : Int) - 1 + x.exp) - (c.prec : Int) + 1)
      (c.emin - (c.prec : Int) + 1)
    let sh := x.exp - 2 * q
    let num := if sh ≥ 0 then x.coeff * 10 ^ sh.toNat else x.coeff
    let den := if sh ≥ 0 then 1 else 10 ^ (-sh).toNat
    let n := isqrt (num / den)
    let exact := n * n * den == num
    let half := compare (4 * num) ((2 * n + 1) * (2 * n + 1) * den)
    let m := if exact then n else if specAddOne .halfEven n false half then n + 1 else n
    (specSqrt c x).inf = false →
    (specSqrt c x).m = m ∧ (specSqrt c x).q = q ∧ (specSqrt c x).inexact = !exact := by
  intro q sh num den n exact half m h
  have key : specSqrt c x = { m := m, q := q, inexact := !exact, subnormal := _ } :=
    ite_inf rfl h
  rw [key]
  exact ⟨rfl, rfl, rfl⟩

end Apd.C11L
