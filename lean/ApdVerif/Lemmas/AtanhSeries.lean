import Mathlib.Analysis.SpecialFunctions.Log.Deriv
import Mathlib.Analysis.SpecificLimits.Basic
import Mathlib.Tactic.Ring
import Mathlib.Tactic.Linarith
import Mathlib.Tactic.NormNum
import Mathlib.Tactic.Positivity
import Mathlib.Tactic.FieldSimp
/-!
# `2 atanh y = log(1+y) - log(1-y)`: partial sums and remainder (pure real analysis)

Shared by the interval oracle (`twoAtanh_sound`), the `ln 10` certificate (`atanhFloor_L2`) and the series branch of `Ln`.
-/
namespace Apd.C12IL

noncomputable def L2 (y : ℝ) : ℝ := Real.log (1 + y) - Real.log (1 - y)

noncomputable def S (y : ℝ) (n : ℕ) : ℝ :=
  ∑ j ∈ Finset.range n, y ^ (2 * j + 1) / ((2 * j + 1 : ℕ) : ℝ)

theorem S_eq (y : ℝ) (n : ℕ) :
    2 * S y n = ∑ j ∈ Finset.range n, (2 : ℝ) * (1 / (2 * (j : ℝ) + 1)) * y ^ (2 * j + 1) := by
  unfold S
  rw [Finset.mul_sum]
  apply Finset.sum_congr rfl
  intro j _
  push_cast
  ring

theorem L2_lower (y : ℝ) (h0 : 0 ≤ y) (h1 : y < 1) (n : ℕ) : 2 * S y n ≤ L2 y := by
  have hs := Real.hasSum_log_sub_log_of_abs_lt_one (x := y) (by rw [abs_of_nonneg h0]; exact h1)
  rw [S_eq]
  apply sum_le_hasSum _ _ hs
  intro j _
  positivity

theorem L2_upper_term (y : ℝ) (h0 : 0 ≤ y) (h1 : y < 1) (n : ℕ) :
    L2 y ≤ 2 * S y n + 2 * y ^ (2 * n + 1) / ((2 * n + 1 : ℕ) : ℝ) * (1 - y ^ 2)⁻¹ := by
  have hs := Real.hasSum_log_sub_log_of_abs_lt_one (x := y) (by rw [abs_of_nonneg h0]; exact h1)
  rw [S_eq]
  have hs' := (hasSum_nat_add_iff' n).2 hs
  have hy2 : y ^ 2 < 1 := by rw [sq]; exact mul_lt_one_of_nonneg_of_lt_one_left h0 h1 h1.le
  have hg := (hasSum_geometric_of_lt_one (sq_nonneg y) hy2).mul_left
    (2 * y ^ (2 * n + 1) / ((2 * n + 1 : ℕ) : ℝ))
  -- term by term against a geometric series
  have hle := hasSum_le (fun j : ℕ => ?_) hs' hg
  · unfold L2; linarith only [hle]
  have e : y ^ (2 * (j + n) + 1) = y ^ (2 * n + 1) * (y ^ 2) ^ j := by
    rw [← pow_mul, ← pow_add]; congr 1; ring
  have hp : 0 ≤ 2 * (y ^ (2 * n + 1) * (y ^ 2) ^ j) :=
    mul_nonneg zero_le_two (mul_nonneg (pow_nonneg h0 _) (pow_nonneg (sq_nonneg y) _))
  have hc : (1 : ℝ) / (2 * ((j + n : ℕ) : ℝ) + 1) ≤ 1 / ((2 * n + 1 : ℕ) : ℝ) := by
    apply one_div_le_one_div_of_le (by positivity)
    push_cast
    linarith only [Nat.cast_nonneg (α := ℝ) j]
  calc (2 : ℝ) * (1 / (2 * ((j + n : ℕ) : ℝ) + 1)) * y ^ (2 * (j + n) + 1)
      = (1 / (2 * ((j + n : ℕ) : ℝ) + 1)) * (2 * (y ^ (2 * n + 1) * (y ^ 2) ^ j)) := by rw [e]; ring
    _ ≤ (1 / ((2 * n + 1 : ℕ) : ℝ)) * (2 * (y ^ (2 * n + 1) * (y ^ 2) ^ j)) :=
        mul_le_mul_of_nonneg_right hc hp
    _ = 2 * y ^ (2 * n + 1) / ((2 * n + 1 : ℕ) : ℝ) * (y ^ 2) ^ j := by ring

theorem L2_upper (y : ℝ) (h0 : 0 ≤ y) (h1 : y < 1) (n : ℕ) :
    L2 y ≤ 2 * S y n + 2 * y ^ (2 * n + 1) * (1 - y ^ 2)⁻¹ := by
  refine (L2_upper_term y h0 h1 n).trans (add_le_add_right (mul_le_mul_of_nonneg_right
    (div_le_self (mul_nonneg zero_le_two (pow_nonneg h0 _)) ?_) (inv_nonneg.2 ?_)) _)
  · exact_mod_cast Nat.succ_le_succ (Nat.zero_le (2 * n))
  · have : y ^ 2 ≤ 1 := pow_le_one₀ h0 h1.le
    linarith only [this]

/-- the remainder that `twoAtanh` adds to its upper end -/
theorem L2_upper' (y : ℝ) (h0 : 0 ≤ y) (h1 : y ≤ 1 / 2) (n : ℕ) :
    L2 y ≤ 2 * S y n + (9 / 2) * y ^ (2 * n + 1) := by
  refine le_trans (L2_upper y h0 (by linarith only [h1]) n) ?_
  have hy2 : y ^ 2 ≤ (1 / 2) ^ 2 := pow_le_pow_left₀ h0 h1 2
  have hinv : (1 - y ^ 2)⁻¹ ≤ 4 / 3 := by
    rw [inv_le_comm₀ (by linarith only [hy2]) (by norm_num)]
    linarith only [hy2]
  have hp : 0 ≤ y ^ (2 * n + 1) := pow_nonneg h0 _
  have := mul_le_mul_of_nonneg_left hinv (mul_nonneg zero_le_two hp)
  linarith only [this, hp]

theorem L2_neg (y : ℝ) : L2 (-y) = -L2 y := by
  unfold L2
  rw [show 1 + -y = 1 - y by ring, show 1 - -y = 1 + y by ring]
  ring

theorem log_eq_L2 (x : ℝ) (hx : 0 < x) : Real.log x = L2 ((x - 1) / (x + 1)) := by
  unfold L2
  have h1 : x + 1 ≠ 0 := by linarith
  have e1 : 1 + (x - 1) / (x + 1) = 2 * x / (x + 1) := by field_simp; ring
  have e2 : 1 - (x - 1) / (x + 1) = 2 / (x + 1) := by field_simp; ring
  rw [e1, e2, Real.log_div (by positivity) h1, Real.log_div (by norm_num) h1,
    Real.log_mul (by norm_num) hx.ne']
  ring

theorem L2_third : L2 (1 / 3) = Real.log 2 := by
  unfold L2
  rw [← Real.log_div (by norm_num) (by norm_num)]
  norm_num

theorem L2_ninth : L2 (1 / 9) = Real.log 10 - 3 * Real.log 2 := by
  unfold L2
  have e1 : (1:ℝ) + 1 / 9 = 10 / 9 := by norm_num
  have e2 : (1:ℝ) - 1 / 9 = 2 ^ 3 / 9 := by norm_num
  rw [e1, e2, Real.log_div (by norm_num) (by norm_num), Real.log_div (by norm_num) (by norm_num),
    Real.log_pow]
  push_cast
  ring

end Apd.C12IL
