import ApdVerif.Lemmas.TransFootLemmas
import ApdVerif.Imp.ReadOps
/-!
# Footprints of the read-only `Decimal` methods (core Lean only): reads within the operands, NO writes

Stated for every `W`; at `W = fun _ => False` (`C18_read_*`, `Props/C18All`) every access of `p` is a read of a cell
in `R`.
-/
namespace Apd.Imp

variable {R W : Cell → Prop}

theorem Foot_cmpOrderP {s : Src} (hs : SrcOK R W s) : Foot R W (cmpOrderP s) := by unfold cmpOrderP; foot

theorem Foot_cmpTotalP {d x : Src} (hd : SrcOK R W d) (hx : SrcOK R W x) : Foot R W (cmpTotalP d x) := by
  unfold cmpTotalP; foot [Foot_cmpOrderP, Foot_cmpP]

theorem Foot_zerosLoopP {d : Src} (hd : SrcOK R W d) (fuel : Nat) (i : Int) : Foot R W (zerosLoopP d fuel i) := by
  induction fuel generalizing i with
  | zero => exact Foot.pure _
  | succ k ih => unfold zerosLoopP; foot [ih]

theorem Foot_fmtFP {d : Src} (hd : SrcOK R W d) (digits : List Char) : Foot R W (fmtFP d digits) := by
  unfold fmtFP; foot [Foot_zerosLoopP]

theorem Foot_fmtEP {d : Src} (hd : SrcOK R W d) (fmt : Char) (digits : List Char) : Foot R W (fmtEP fmt d digits) := by
  unfold fmtEP; foot

theorem Foot_appendLP {d : Src} (hd : SrcOK R W d) (verb : Char) : Foot R W (appendLP d verb) := by
  unfold appendLP; foot [Foot_fmtEP, Foot_fmtFP]

theorem Foot_textP {d : Src} (hd : SrcOK R W d) (verb : Char) : Foot R W (textP d verb) := by
  unfold textP; foot [Foot_appendLP]

theorem Foot_stringP {d : Src} (hd : SrcOK R W d) : Foot R W (stringP d) := Foot_textP hd _

theorem Foot_float64P {d : Src} (hd : SrcOK R W d) : Foot R W (float64P d) := Foot_stringP hd

theorem Foot_int64P {d : Src} (hd : SrcOK R W d) : Foot R W (int64P d) := by
  unfold int64P; foot [Foot_stringP, Foot_modfLoc2]

theorem Foot.noWrites {α : Type} {p : Prog α} (hp : Foot R (fun _ => False) p) : WritesOnly (fun _ => False) p :=
  hp.writesOnly

theorem run_eq_of_noWrites {α : Type} {p : Prog α} (hp : WritesOnly (fun _ => False) p) (h : Heap) :
    (run p h).2 = h :=
  funext fun c => hp.frame h c id

end Apd.Imp
