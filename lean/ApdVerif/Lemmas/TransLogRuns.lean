import ApdVerif.Imp.TransOps
import ApdVerif.Oracle.Log10TapeOK
import ApdVerif.Lemmas.ErrExits
/-!
# What a run of `expT`, `lnT`, `log10T` can do

One statement per function, next to the model: a run that returns is the prologue's outcome, an internal failure
that delivered nothing (`Failed`), or one of the computing exits, each named with the guards that led to it and the
intermediate values it was computed from (`ExpExit`, `LnExit`, `Log10Exit`).  `Shape c P s o` says this for a
prologue `s` and exit predicate `P`.  Everything else about these functions is read off it: the flag / error-class /
fit theorems (weaken `P` to what every exit satisfies), and the accuracy theorems (a delivered outcome is not
`Failed`, so it is one of the exits, with its values named).  For `lnT` the walk goes through its cut into
`Imp.lnPre`, `Imp.lnBody` and the tail (`lnT_eq`, `lnPre_eq`, `lnBody_series`, `lnBody_halley`), which the store
level (`Lemmas/C05TransLogLemmas`) follows too.  Core Lean only.
-/
namespace Apd

namespace TL
open Cond

def Failed (o : Out) : Prop := ∃ e, e ≠ ErrKind.none ∧ o = failOut e

def Computed (c : Ctx) (P : Dec → Cond → Prop) (o : Out) : Prop :=
  ∃ d res, o = { d := d, fl := res, err := goError c.traps res } ∧ P d res

def Shape (c : Ctx) (P : Dec → Cond → Prop) (s : Option Out) (o : Out) : Prop :=
  s = some o ∨ (s = none ∧ (Failed o ∨ Computed c P o))

theorem failed_mk {e : ErrKind} (h : e ≠ .none) : Failed (failOut e) := ⟨e, h, rfl⟩

theorem eq_of_not_bne {e : ErrKind} (h : ¬ (e != ErrKind.none) = true) : e = .none :=
  Decidable.not_not.1 (mt bne_iff_ne.2 h)

theorem computed_mk {c : Ctx} {P : Dec → Cond → Prop} {d : Dec} {res : Cond} (h : P d res) :
    Computed c P { d := d, fl := res, err := goError c.traps res } := ⟨d, res, rfl, h⟩

theorem Failed.not_deliv {c : Ctx} {o : Out} (h : Failed o)
    (hd : o.err = .none ∨ (o.err = .trap ∧ (o.fl &&& c.traps).any = true)) : False := by
  obtain ⟨e, he, rfl⟩ := h
  rcases hd with hd | ⟨_, hd⟩
  · exact he hd
  · have : ((failOut e).fl &&& c.traps).any = false := by
      show (Cond.and {} c.traps).any = false
      simp [Cond.and, Cond.any]
    rw [this] at hd; cases hd

theorem Computed.deliv {c : Ctx} {P : Dec → Cond → Prop} {o : Out} (h : Computed c P o)
    (hd : o.err = .none ∨ (o.err = .trap ∧ (o.fl &&& c.traps).any = true)) : P o.d o.fl ∧ NoSys o.fl := by
  obtain ⟨d, res, rfl, hP⟩ := h
  exact ⟨hP, noSys_of_delivered c.traps res (hd.imp id And.left)⟩

variable {c : Ctx} {P Q : Dec → Cond → Prop} {s : Option Out} {o : Out}

theorem Shape.of_some {o' : Out} (h : Shape c P s o) (hs : s = some o') : o = o' := by
  rcases h with h | ⟨h, _⟩ <;> rw [hs] at h <;> cases h; rfl

theorem Shape.mono (h : Shape c P s o) (hpq : ∀ d fl, P d fl → Q d fl) : Shape c Q s o :=
  h.imp id (And.imp id (Or.imp id fun ⟨d, fl, ho, hp⟩ => ⟨d, fl, ho, hpq d fl hp⟩))

theorem Shape.deliv (h : Shape c P s o) (hs : s = none)
    (hd : o.err = .none ∨ (o.err = .trap ∧ (o.fl &&& c.traps).any = true)) : P o.d o.fl ∧ NoSys o.fl := by
  rcases h with h | ⟨_, hf | hc⟩
  · rw [hs] at h; cases h
  · exact (hf.not_deliv hd).elim
  · exact hc.deliv hd

/-- a property of everything a partial function may return, proved along the `if`s of its definition -/
def All {α : Type} (P : α → Prop) (r : Option α) : Prop := ∀ a, r = some a → P a

theorem All.none {α : Type} {P : α → Prop} : All P none := fun _ h => nomatch h

theorem All.some {α : Type} {P : α → Prop} {a : α} (h : P a) : All P (some a) := fun _ e => Option.some.inj e ▸ h

theorem All.dite {α : Type} {P : α → Prop} {p : Prop} [Decidable p] {a b : Option α} (ha : p → All P a)
    (hb : ¬p → All P b) : All P (if p then a else b) := by
  split
  · next h => exact ha h
  · next h => exact hb h

theorem All.ite {α : Type} {P : α → Prop} {p : Prop} [Decidable p] {a b : Option α} (ha : All P a) (hb : All P b) :
    All P (if p then a else b) := .dite (fun _ => ha) (fun _ => hb)

/-- the outcomes past a prologue that found nothing -/
abbrev Past (c : Ctx) (P : Dec → Cond → Tape → Prop) (r : Option (Out × Tape)) : Prop :=
  All (fun p : Out × Tape => Failed p.1 ∨ Computed c (fun d fl => P d fl p.2) p.1) r

/-- in the namespace `All`, as is `All.computed`, so that `.failed h`, `.computed h` resolve at a goal `Past c P _` -/
theorem All.failed {c : Ctx} {P : Dec → Cond → Tape → Prop} {e : ErrKind} {t : Tape} (h : e ≠ .none) :
    Past c P (Option.some (failOut e, t)) := All.some (Or.inl (failed_mk h))

theorem All.computed {c : Ctx} {P : Dec → Cond → Tape → Prop} {d : Dec} {fl : Cond} {t : Tape} (h : P d fl t) :
    Past c P (Option.some ({ d := d, fl := fl, err := goError c.traps fl }, t)) := All.some (Or.inr (computed_mk h))

end TL

namespace ExpAcc

/-- the reduced argument `r = x / 10^t` at `cp + t + 2` digits -/
def expQ (c : Ctx) (x : Dec) (cp : Nat) : Out :=
  quoOp (expNc c (cp + expTt x + 2)) x { coeff := 1, exp := expTt x }
/-- the Taylor polynomial with `N` terms at `r` -/
def expS (c : Ctx) (x : Dec) (cp N : Nat) : ED × Dec :=
  expSeries (expQ c x cp).d (N - 1) { c := expNc c (cp + expTt x + 2) } decOne
/-- its `10^t`-th power -/
def expIP (c : Ctx) (x : Dec) (cp N : Nat) : Dec × Cond × ErrKind :=
  integerPower (expNc c (cp + expTt x + 2)) (expS c x cp N).2 ((10 : Int) ^ expTt x)

end ExpAcc
open ExpAcc

open Cond in
/-- the exits of `expT` that compute a result, on a tape `tp` (read past the special values): value, flags, the
tape that is left -/
inductive ExpExit (c : Ctx) (x : Dec) : Tape → Dec → Cond → Tape → Prop
  /-- `|x| > 23·cp`, `x < 0`: zero at `Etiny` -/
  | under {cp0 : Nat} {tp : Tape} (hov : x.absD.cmp { coeff := expCp x cp0 * 23 } > 0) (hs : x.sign < 0) :
      ExpExit c x (.cp cp0 :: tp) { coeff := 0, exp := c.emin - (c.prec : Int) + 1 }
        ((cInexact ||| cRounded ||| cOverflow).negateOverflowFlags ||| cClamped) tp
  /-- `|x| > 23·cp`, `x > 0`: infinity -/
  | over {cp0 : Nat} {tp : Tape} (hov : x.absD.cmp { coeff := expCp x cp0 * 23 } > 0) (hs : ¬ x.sign < 0) :
      ExpExit c x (.cp cp0 :: tp) decInf (cInexact ||| cRounded ||| cOverflow) tp
  /-- `|x| ≤ 9·10^(-cp-1)`: one -/
  | one {cp0 : Nat} {tp : Tape} (hov : ¬ x.absD.cmp { coeff := expCp x cp0 * 23 } > 0)
      (hone : x.absD.cmp { coeff := 9, exp := -(expCp x cp0 : Int) - 1 } ≤ 0) :
      ExpExit c x (.cp cp0 :: tp) decOne (cInexact ||| cRounded) tp
  /-- reduction, series, power all without error: the power rounded half-even to the caller's context -/
  | main {cp0 : Nat} {n : Int} {tp : Tape} (hov : ¬ x.absD.cmp { coeff := expCp x cp0 * 23 } > 0)
      (hone : ¬ x.absD.cmp { coeff := 9, exp := -(expCp x cp0 : Int) - 1 } ≤ 0)
      (hq : (expQ c x (expCp x cp0)).err = .none) (hn : ¬ n < 0)
      (hS : (expS c x (expCp x cp0) n.toNat).1.failed = false)
      (hip : (expIP c x (expCp x cp0) n.toNat).2.2 = .none) :
      ExpExit c x (.cp cp0 :: .n n :: tp)
        (ctxRound { c with mode := .halfEven } (expIP c x (expCp x cp0) n.toNat).1).1
        (cInexact ||| cRounded ||| (expIP c x (expCp x cp0) n.toNat).2.1 |||
          (ctxRound { c with mode := .halfEven } (expIP c x (expCp x cp0) n.toNat).1).2) tp

open TL in
theorem expT_shape {c : Ctx} {x : Dec} {tp r : Tape} {o : Out} (h : expT c x tp = some (o, r)) :
    Shape c (fun d fl => ExpExit c x tp d fl r) (expSpecials c x) o := by
  unfold expT at h
  cases hs : expSpecials c x with
  | some o' => rw [hs] at h; cases h; exact Or.inl rfl
  | none =>
    rw [hs] at h
    refine Or.inr ⟨rfl, ?_⟩
    suffices H : Past c (ExpExit c x tp) _ from H (o, r) h
    rcases tp with _ | ⟨cp0 | _ | _, tape⟩
    · exact .none
    · refine .dite (fun hov => .dite (fun hsg => .computed (.under hov hsg)) fun hsg => .computed (.over hov hsg))
        fun hov => .dite (fun hone => .computed (.one hov hone)) fun hone =>
          .dite (fun hq => .failed (bne_iff_ne.1 hq)) fun hq => ?_
      rcases tape with _ | ⟨_ | n | _, tape⟩
      · exact .none
      · exact .none
      · exact .dite (fun _ => .failed (by decide)) fun hn => .dite (fun hf => .failed (ED.errOf_ne_none hf))
          fun hf => .dite (fun hi => .failed (bne_iff_ne.1 hi)) fun hi =>
            .computed (.main hov hone (eq_of_not_bne hq) hn (Bool.eq_false_iff.2 hf) (eq_of_not_bne hi))
      · exact .none
    · exact .none
    · exact .none

namespace LnAcc

/-- the series branch from `tmp1 = w`: `(ed, result)` -/
def lnSer (c : Ctx) (ed : ED) (w : Dec) : Option (ED × Sum ErrKind Dec) :=
  let b1 := ed.step lnTenth (fun k => addOp k w decTwo false)
  let b2 := b1.1.step w.absD (fun k => quoOp k w b1.2)
  let b3 := b2.1.step b1.2 (fun k => addOp k b2.2 b2.2 false)
  lnSeries { coeff := 1, exp := -((c.prec + 2 : Nat) : Int) } b2.2 (c.prec + 2 + 10) 1 b3.1 b3.2 b3.2

/-- the last operation: `tmp1 + resAdjust` in the working context -/
def lnSum (ed : ED) (tmp1 resAdjust : Dec) : ED × Dec := ed.step tmp1 (fun k => addOp k tmp1 resAdjust false)

open Cond in
/-- `Context.Ln` from `ed.Add(&tmp1, &tmp1, &resAdjust)` on (the text of `lnT`) -/
def lnTail (c : Ctx) (ed : ED) (tmp1 resAdjust : Dec) (tape : Tape) : Option (Out × Tape) :=
  let f := lnSum ed tmp1 resAdjust
  if f.1.failed then some (failOut f.1.errOf, tape) else
  let rr := ctxRound c f.2
  let res := rr.2 ||| cInexact ||| cRounded
  some ({ d := rr.1, fl := res, err := goError c.traps res }, tape)

/-- what `Ln` does with the outcome of its loop -/
def lnFinish (c : Ctx) (body : Option (ED × Sum ErrKind Dec × Tape)) (resAdjust : Dec) : Option (Out × Tape) :=
  match body with
  | none => none
  | some (_, .inl er, tape) => some (failOut er, tape)
  | some (ed, .inr tmp1, tape) => lnTail c ed tmp1 resAdjust tape

end LnAcc
open LnAcc

open Imp in
theorem lnT_eq (c : Ctx) (x : Dec) (tape : Tape) (hsp : logSpecials c x = none) :
    lnT c x tape =
      match lnPre c x tape with
      | none => none
      | some (ed, z, tmp1, resAdjust, series, tape) => lnFinish c (lnBody c ed z tmp1 series tape) resAdjust := by
  unfold lnT lnPre lnFinish
  rw [hsp]
  simp only []
  generalize ED.step _ decZero (fun k => addOp k x decOne true) = a1
  generalize ln10At (c.prec + 2) = l10
  by_cases h0 : a1.2.absD.cmp { coeff := 1, exp := -1 } ≤ 0
  · rw [if_pos h0, if_pos h0]
    unfold lnBody
    simp only [if_true]
    -- each loop is made opaque before `rfl`, which would otherwise unfold it along its literal fuel
    generalize lnSeries _ _ _ _ _ _ _ = s
    rcases s with _ | ⟨e, r | r⟩ <;> rfl
  · rw [if_neg h0, if_neg h0]
    generalize ED.step _ a1.2 _ = a3
    by_cases h1 : a3.2.absD.cmp { coeff := 1, exp := -1 } ≤ 0
    · rw [if_pos h1, if_pos h1]
      unfold lnBody
      simp only [if_true]
      generalize lnSeries _ _ _ _ _ _ _ = s
      rcases s with _ | ⟨e, r | r⟩ <;> rfl
    · rw [if_neg h1, if_neg h1]
      rcases tape with _ | ⟨_ | _ | v, t⟩
      · rfl
      · rfl
      · rfl
      · unfold lnBody
        simp only [Bool.false_eq_true, if_false]
        generalize lnHalley _ _ _ _ _ _ _ _ _ = s
        rcases s with _ | ⟨e, r | r, t⟩ <;> rfl

theorem lnPre_eq (c : Ctx) (x : Dec) (tape : Tape) :
    Imp.lnPre c x tape =
      if (lnA1 c x).2.absD.cmp lnTenth ≤ 0 then some ((lnA1 c x).1, x, (lnA1 c x).2, decZero, true, tape)
      else if (lnA3 c x).2.absD.cmp lnTenth ≤ 0 then
        some ((lnA3 c x).1, lnZ x, (lnA3 c x).2, (lnA2 c x).2, true, tape)
      else match tape with
        | .est d :: tape => some ((lnA3 c x).1, lnZ x, d, (lnA2 c x).2, false, tape)
        | _ => none := rfl

theorem lnBody_series (c : Ctx) (ed : ED) (z w : Dec) (tape : Tape) :
    Imp.lnBody c ed z w true tape = (lnSer c ed w).map fun p => (p.1, p.2, tape) := by
  unfold Imp.lnBody lnSer lnTenth
  simp only [if_true]
  generalize lnSeries _ _ _ _ _ _ _ = s
  rcases s with _ | ⟨e, r⟩ <;> rfl

theorem lnBody_series_some {c : Ctx} {ed : ED} {z w : Dec} {tape r : Tape} {e' : ED} {v : Sum ErrKind Dec}
    (h : Imp.lnBody c ed z w true tape = some (e', v, r)) : lnSer c ed w = some (e', v) ∧ r = tape := by
  rw [lnBody_series] at h
  rcases hl : lnSer c ed w with _ | ⟨e, v⟩ <;> rw [hl] at h <;> cases h
  exact ⟨rfl, rfl⟩

theorem lnBody_halley (c : Ctx) (ed : ED) (z w : Dec) (tape : Tape) :
    Imp.lnBody c ed z w false tape =
      lnHalley (lnNc c) ((c.prec : Int) + 1) (10 + (c.prec + 1)) z (10 + (c.prec + 1) + 2) ed w {} tape := by
  unfold Imp.lnBody lnNc
  simp only [Bool.false_eq_true, if_false]

theorem lnBody_inl_ne {c : Ctx} {ed : ED} {z w : Dec} {series : Bool} {tape tp : Tape} {e' : ED} {er : ErrKind}
    (hb : Imp.lnBody c ed z w series tape = some (e', .inl er, tp)) : er ≠ .none := by
  cases series
  · rw [lnBody_halley] at hb; exact lnHalley_inl_ne _ _ _ _ _ _ _ _ _ hb
  · exact lnSeries_inl_ne _ _ _ _ _ _ _ (lnBody_series_some hb).1

open Cond in
/-- the exits of `lnT` that compute a result: the path taken, the value `t` its loop returned in the `ErrDecimal`
state `e'`, and the rounded sum `t + resAdjust` -/
inductive LnExit (c : Ctx) (x : Dec) : Tape → Dec → Cond → Tape → Prop
  /-- `|x - 1| ≤ 0.1`: the series on `x - 1` -/
  | s0 {tp : Tape} {e' : ED} {t : Dec} (h0 : (lnA1 c x).2.absD.cmp lnTenth ≤ 0)
      (hb : lnSer c (lnA1 c x).1 (lnA1 c x).2 = some (e', .inr t)) (hf : (lnSum e' t decZero).1.failed = false) :
      LnExit c x tp (ctxRound c (lnSum e' t decZero).2).1
        ((ctxRound c (lnSum e' t decZero).2).2 ||| cInexact ||| cRounded) tp
  /-- rescaled to `z ∈ [0.1, 1)`, `|z - 1| ≤ 0.1`: the series on `z - 1` -/
  | s1 {tp : Tape} {e' : ED} {t : Dec} (h0 : ¬ (lnA1 c x).2.absD.cmp lnTenth ≤ 0)
      (h1 : (lnA3 c x).2.absD.cmp lnTenth ≤ 0)
      (hb : lnSer c (lnA3 c x).1 (lnA3 c x).2 = some (e', .inr t))
      (hf : (lnSum e' t (lnA2 c x).2).1.failed = false) :
      LnExit c x tp (ctxRound c (lnSum e' t (lnA2 c x).2).2).1
        ((ctxRound c (lnSum e' t (lnA2 c x).2).2).2 ||| cInexact ||| cRounded) tp
  /-- rescaled, Halley's iteration from the tape's estimate -/
  | halley {d : Dec} {tp r : Tape} {e' : ED} {t : Dec} (h0 : ¬ (lnA1 c x).2.absD.cmp lnTenth ≤ 0)
      (h1 : ¬ (lnA3 c x).2.absD.cmp lnTenth ≤ 0)
      (hb : lnHalley (lnNc c) ((c.prec : Int) + 1) (10 + (c.prec + 1)) (lnZ x) (10 + (c.prec + 1) + 2)
        (lnA3 c x).1 d {} tp = some (e', .inr t, r))
      (hf : (lnSum e' t (lnA2 c x).2).1.failed = false) :
      LnExit c x (.est d :: tp) (ctxRound c (lnSum e' t (lnA2 c x).2).2).1
        ((ctxRound c (lnSum e' t (lnA2 c x).2).2).2 ||| cInexact ||| cRounded) r

open TL Cond in
theorem lnTail_past {c : Ctx} {ra : Dec} {P : Dec → Cond → Tape → Prop}
    (body : Option (ED × Sum ErrKind Dec × Tape))
    (hne : ∀ e' er tp, body = some (e', .inl er, tp) → er ≠ .none)
    (hP : ∀ e' t r, body = some (e', .inr t, r) → (lnSum e' t ra).1.failed = false →
      P (ctxRound c (lnSum e' t ra).2).1 ((ctxRound c (lnSum e' t ra).2).2 ||| cInexact ||| cRounded) r) :
    Past c P (lnFinish c body ra) := by
  unfold lnFinish
  match body, hne, hP with
  | none, _, _ => exact .none
  | some (e', .inl er, tp), hne, _ => exact .failed (hne e' er tp rfl)
  | some (e', .inr t, r), _, hP =>
    exact .dite (fun hf => .failed (ED.errOf_ne_none hf)) fun hf => .computed (hP e' t r rfl (Bool.eq_false_iff.2 hf))

open TL in
theorem lnT_shape {c : Ctx} {x : Dec} {tp r : Tape} {o : Out} (h : lnT c x tp = some (o, r)) :
    Shape c (fun d fl => LnExit c x tp d fl r) (logSpecials c x) o := by
  cases hs : logSpecials c x with
  | some o' => unfold lnT at h; rw [hs] at h; cases h; exact Or.inl rfl
  | none =>
    refine Or.inr ⟨rfl, ?_⟩
    suffices H : Past c (LnExit c x tp) (lnT c x tp) from H (o, r) h
    rw [lnT_eq c x tp hs, lnPre_eq]
    by_cases h0 : (lnA1 c x).2.absD.cmp lnTenth ≤ 0
    · rw [if_pos h0]
      refine lnTail_past _ (fun e' er t hb => ?_) fun e' t r hb hf => ?_
      · exact lnBody_inl_ne hb
      · obtain ⟨hl, rfl⟩ := lnBody_series_some hb
        exact .s0 h0 hl hf
    · rw [if_neg h0]
      by_cases h1 : (lnA3 c x).2.absD.cmp lnTenth ≤ 0
      · rw [if_pos h1]
        refine lnTail_past _ (fun e' er t hb => ?_) fun e' t r hb hf => ?_
        · exact lnBody_inl_ne hb
        · obtain ⟨hl, rfl⟩ := lnBody_series_some hb
          exact .s1 h0 h1 hl hf
      · rw [if_neg h1]
        rcases tp with _ | ⟨_ | _ | d, tp⟩
        · exact .none
        · exact .none
        · exact .none
        · refine lnTail_past _ (fun e' er t hb => lnBody_inl_ne hb) fun e' t r hb hf => ?_
          rw [lnBody_halley] at hb
          exact .halley h0 h1 hb hf

/-- the context of the multiplication by `1/ln 10` -/
def LnAcc.log10Mc (c : Ctx) : Ctx :=
  { prec := c.prec, emax := baseCtx.emax, emin := baseCtx.emin, traps := baseCtx.traps, mode := Mode.halfEven }

open Cond in
/-- the exit of `log10T` that computes a result: the inner `Ln` returned `l` without error, and so did the product
with the table entry of `1/ln 10` -/
inductive Log10Exit (c : Ctx) (x : Dec) (tp : Tape) : Dec → Cond → Tape → Prop
  | mk {l : Out} {r : Tape} (hl : lnT (log10Nc c) x tp = some (l, r)) (hle : l.err = .none)
      (hme : (mulOp (log10Mc c) l.d (invLn10At (c.prec + 2))).err = .none) :
      Log10Exit c x tp (ctxRound c (mulOp (log10Mc c) l.d (invLn10At (c.prec + 2))).d).1
        ((cInexact ||| cRounded) ||| (mulOp (log10Mc c) l.d (invLn10At (c.prec + 2))).fl |||
          (ctxRound c (mulOp (log10Mc c) l.d (invLn10At (c.prec + 2))).d).2) r

open TL in
theorem log10T_shape {c : Ctx} {x : Dec} {tp r : Tape} {o : Out} (h : log10T c x tp = some (o, r)) :
    Shape c (fun d fl => Log10Exit c x tp d fl r) (logSpecials c x) o := by
  unfold log10T at h
  cases hs : logSpecials c x with
  | some o' => rw [hs] at h; cases h; exact Or.inl rfl
  | none =>
    rw [hs] at h
    refine Or.inr ⟨rfl, ?_⟩
    suffices H : Past c (Log10Exit c x tp) _ from H (o, r) h
    change Past c _ (match lnT (log10Nc c) x tp with | none => none | some (l, tape) => _)
    rcases hl : lnT (log10Nc c) x tp with _ | ⟨l, t⟩
    · exact .none
    · exact .dite (fun he => .failed (bne_iff_ne.1 he)) fun he => .dite (fun hm => .failed (bne_iff_ne.1 hm))
        fun hm => .computed (.mk hl (eq_of_not_bne he) (eq_of_not_bne hm))

end Apd
