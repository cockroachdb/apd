import ApdVerif.Lemmas.SqrtExactMath
/-!
# The sharp (absolute) invariant of the Sqrt loop for a terminating decimal root, over `ℚ`

`|A_p - r| ≤ Bd r g p · 10^(-p)`: the bound depends on the range of `r` (which roundings of a round can cross
a power of ten) and on how many rounds have passed (`stage`).  One round turns a bound `D` into
`c + D²/(200·κ·r)`, `c` the rounding constant of the range and `κ·r` a lower bound of the iterate
(`StepHyp.core`): `κ = 0.9` in the first round, from `SqrtI.Inv`, and `0.99` afterwards, from the sharp bound itself
(`Bd_le`, `StepHyp.close`); `row_step` runs through the stages, and each range contributes the four inequalities
between the entries of its row.
-/
namespace Apd.SqrtX
open Apd.C20L

theorem step_gen (r A A' D κ c v u : ℚ) (hr : 0 < r) (hκ : 0 < κ) (hA : κ * r ≤ A)
    (hd : |A - r| ≤ D * v) (hvu : v ^ 2 ≤ u / 100)
    (he : |A' - r| ≤ (A - r) ^ 2 / A / 2 + c * u) :
    |A' - r| ≤ (c + D ^ 2 / (200 * κ * r)) * u := by
  have h := theta_le r A D κ v u hr hκ hA hd hvu
  have e : D ^ 2 / (200 * κ * r) = D ^ 2 / (100 * κ * r) / 2 := by field_simp; ring
  rw [e]
  linarith

/-- the rounds of the loop by precision: 0 for the first guess (`p = 3`), then 1 (`p = 4`), 2 (`p = 6`),
3 (`p ≥ 10`) -/
def stage (p : ℕ) : ℕ := if p < 4 then 0 else if p < 6 then 1 else if p < 10 then 2 else 3

theorem stage_cases (p : ℕ) : (p < 4 ∧ stage p = 0) ∨ (4 ≤ p ∧ p < 6 ∧ stage p = 1) ∨
    (6 ≤ p ∧ p < 10 ∧ stage p = 2) ∨ (10 ≤ p ∧ stage p = 3) := by
  unfold stage; split_ifs <;> omega

theorem stage_of_ge10 {p : ℕ} (h : 10 ≤ p) : stage p = 3 := by have := stage_cases p; omega

theorem stage_two_le {p : ℕ} (h : 6 ≤ p) : 2 ≤ stage p := by have := stage_cases p; omega

/-- the bounds by stage, in units of `10^(-p)`.  Each entry bounds `c + (previous entry)²/(180·r)` (first round)
resp. `…/(198·r)` over the range of `r`, `c` the rounding constant of the range (`row_step`); the last entry
reproduces itself.  `r ≤ 0.4`, no rounding of a round crosses a power of ten -/
def rowA (r : ℚ) : ℕ → ℚ
  | 0 => 100 * r | 1 => 1 + 56 * r | 2 => 42 / 25 + 35 / 2 * r | _ => 149 / 100 + 43 / 25 * r
/-- `0.4 < r < 0.5`: the sum may reach 1 (until the grid is fine enough to separate `2r` from 1) -/
def rowB (r : ℚ) : ℕ → ℚ
  | 0 => 100 * r | 1 => 13 / 4 + 56 * r | _ => 71 / 5
theorem rowB_of_two_le (r : ℚ) : ∀ {i : ℕ}, 2 ≤ i → rowB r i = 71 / 5
  | _ + 2, _ => rfl

/-- `0.5 ≤ r ≤ 0.89`: only the sum crosses 1 -/
def rowC (r : ℚ) : ℕ → ℚ
  | 0 => 100 * r | 1 => 13 / 4 + 56 * r | 2 => 21 | _ => 41 / 5
/-- `r > 0.89`: every rounding of a round may cross 1 -/
def rowD (r : ℚ) : ℕ → ℚ
  | 0 => 100 * r | 1 => 67 | 2 => 36 | _ => 18

def Bd (r : ℚ) (g p : ℕ) : ℚ :=
  if r ≤ 2 / 5 then rowA r (stage p)
  else if r < 1 / 2 then (if 10 ≤ p ∧ g + 3 ≤ p then 18 / 5 else rowB r (stage p))
  else if r ≤ 89 / 100 then rowC r (stage p)
  else rowD r (stage p)

theorem pow_sq (p p' : ℕ) (hp : 3 ≤ p) (hle : p' ≤ 2 * p - 2) :
    ((10 : ℚ) ^ (-(p : ℤ))) ^ 2 ≤ (10 : ℚ) ^ (-(p' : ℤ)) / 100 := by
  have h1 : ((10 : ℚ) ^ (-(p : ℤ))) ^ 2 = (10 : ℚ) ^ (2 * (-(p : ℤ))) := by
    rw [← zpow_natCast, ← zpow_mul]; congr 1; push_cast; ring
  have h2 : (10 : ℚ) ^ (2 * (-(p : ℤ))) ≤ (10 : ℚ) ^ (-(p' : ℤ) - 2) := zpow_le_zpow_right₀ ten_ge (by omega)
  have h3 : (10 : ℚ) ^ (-(p' : ℤ) - 2) = (10 : ℚ) ^ (-(p' : ℤ)) / 100 := by
    rw [zpow_sub₀ ten_ne]; norm_num
  rw [h1]; linarith

theorem pow_le4 (p : ℕ) (hp : 4 ≤ p) : (10 : ℚ) ^ (-(p : ℤ)) ≤ 1 / 10000 := by
  have : (10 : ℚ) ^ (-(p : ℤ)) ≤ (10 : ℚ) ^ (-4 : ℤ) := zpow_le_zpow_right₀ ten_ge (by omega)
  have e : (10 : ℚ) ^ (-4 : ℤ) = 1 / 10000 := by norm_num
  rw [e] at this; exact this

/-- the sharp bound never exceeds the relative bound `100·r·10^(-p)` of `SqrtI.Inv` at the first guess -/
theorem Bd_le (r : ℚ) (g p : ℕ) (hr : 1 / 10 ≤ r) : Bd r g p ≤ 100 * r := by
  unfold Bd
  generalize stage p = i
  split_ifs with h1 h2 h3 h4
  · rcases i with _ | _ | _ | i <;> simp only [rowA] <;> linarith only [hr]
  · linarith only [hr]
  · rcases i with _ | _ | i <;> simp only [rowB] <;> linarith only [hr, h1]
  · rcases i with _ | _ | _ | i <;> simp only [rowC] <;> linarith only [hr, h2]
  · rcases i with _ | _ | _ | i <;> simp only [rowD] <;> linarith only [hr, h4]

/-- one round from precision `p` to `p'` under the sharp bound: `hA1`, `hA2` are the 10 % of `SqrtI.Inv`, `hd` the
sharp bound at `p`; `hst`: the round moves one stage on (the schedule 3, 4, 6, 10, … never skips one), so that
`row_step` can go from an entry of a row to the next -/
structure StepHyp (r : ℚ) (g p p' : ℕ) (A qh sh A' : ℚ) : Prop where
  hr1 : 1 / 10 ≤ r
  hr2 : r < 1
  hp3 : 3 ≤ p
  hpp : p < p'
  hle : p' ≤ 2 * p - 2
  hst : stage p' = min (stage p + 1) 3
  hA1 : 9 / 10 * r ≤ A
  hA2 : A ≤ 11 / 10 * r
  rd : Rd p' (r ^ 2) A qh sh A'
  hd : |A - r| ≤ Bd r g p * (10 : ℚ) ^ (-(p : ℤ))

namespace StepHyp
variable {r : ℚ} {g p p' : ℕ} {A qh sh A' : ℚ}

theorem hl1 (h : StepHyp r g p p' A qh sh A') : p < 4 → p' < 6 := by
  have := h.hst; have := stage_cases p; have := stage_cases p'; omega
theorem hl2 (h : StepHyp r g p p' A qh sh A') : p < 6 → p' < 10 := by
  have := h.hst; have := stage_cases p; have := stage_cases p'; omega
theorem hl3 (h : StepHyp r g p p' A qh sh A') : 4 ≤ p → 6 ≤ p' := by
  have := h.hst; have := stage_cases p; have := stage_cases p'; omega
theorem hl4 (h : StepHyp r g p p' A qh sh A') : 6 ≤ p → 10 ≤ p' := by
  have := h.hst; have := stage_cases p; have := stage_cases p'; omega

theorem close (h : StepHyp r g p p' A qh sh A') (hp : 4 ≤ p) : 99 / 100 * r ≤ A := by
  have := mul_le_mul (Bd_le r g p h.hr1) (pow_le4 p hp) (tp _).le (by linarith only [h.hr1])
  linarith only [(abs_le.1 h.hd).1, this]

theorem u4 (h : StepHyp r g p p' A qh sh A') : (10 : ℚ) ^ (-(p' : ℤ)) ≤ 1 / 10000 :=
  pow_le4 p' (by have := h.hp3; have := h.hpp; omega)

theorem core (h : StepHyp r g p p' A qh sh A') (c D B' : ℚ) (hD : Bd r g p ≤ D)
    (he : |A' - r| ≤ (A - r) ^ 2 / A / 2 + c * (10 : ℚ) ^ (-(p' : ℤ)))
    (hB : D ^ 2 ≤ (if p < 4 then 180 else 198) * r * (B' - c)) :
    |A' - r| ≤ B' * (10 : ℚ) ^ (-(p' : ℤ)) := by
  have hr0 : 0 < r := lt_of_lt_of_le (by norm_num) h.hr1
  have hv0 := tp (-(p : ℤ))
  have hu0 := tp (-(p' : ℤ))
  have hd : |A - r| ≤ D * (10 : ℚ) ^ (-(p : ℤ)) :=
    le_trans h.hd (mul_le_mul_of_nonneg_right hD hv0.le)
  obtain ⟨κ, hκ0, hA, hB'⟩ : ∃ κ : ℚ, 0 < κ ∧ κ * r ≤ A ∧ D ^ 2 ≤ 200 * κ * r * (B' - c) := by
    by_cases h4 : p < 4
    · rw [if_pos h4] at hB; exact ⟨9 / 10, by norm_num, h.hA1, by linarith only [hB]⟩
    · rw [if_neg h4] at hB; exact ⟨99 / 100, by norm_num, h.close (by omega), by linarith only [hB]⟩
  have := step_gen r A A' D κ c _ _ hr0 hκ0 hA hd (pow_sq p p' h.hp3 h.hle) he
  refine le_trans this (mul_le_mul_of_nonneg_right ?_ hu0.le)
  have hpos : 0 < 200 * κ * r := by positivity
  rw [← le_sub_iff_add_le', div_le_iff₀ hpos]
  linarith only [hB']

theorem theta_bound (h : StepHyp r g p p' A qh sh A') (hp : 4 ≤ p) {D K : ℚ} (hD : Bd r g p ≤ D)
    (hK : D ^ 2 ≤ 99 * r * K) : (A - r) ^ 2 / A ≤ K * (10 : ℚ) ^ (-(p' : ℤ)) := by
  have hr0 : 0 < r := lt_of_lt_of_le (by norm_num) h.hr1
  have hd := le_trans h.hd (mul_le_mul_of_nonneg_right hD (tp (-(p : ℤ))).le)
  refine (theta_le r A D (99 / 100) _ _ hr0 (by norm_num) (h.close hp) hd (pow_sq p p' h.hp3 h.hle)).trans
    (mul_le_mul_of_nonneg_right ?_ (tp _).le)
  rw [div_le_iff₀ (by linarith)]; linarith

theorem row_step (h : StepHyp r g p p' A qh sh A') (row : ℕ → ℚ) (c : ℚ) (hD : Bd r g p ≤ row (stage p))
    (he : |A' - r| ≤ (A - r) ^ 2 / A / 2 + c * (10 : ℚ) ^ (-(p' : ℤ)))
    (t0 : row 0 ^ 2 ≤ 180 * r * (row 1 - c)) (t1 : row 1 ^ 2 ≤ 198 * r * (row 2 - c))
    (t2 : row 2 ^ 2 ≤ 198 * r * (row 3 - c)) (t3 : row 3 ^ 2 ≤ 198 * r * (row 3 - c)) :
    |A' - r| ≤ row (stage p') * (10 : ℚ) ^ (-(p' : ℤ)) := by
  refine h.core c _ _ hD he ?_
  rw [h.hst]
  unfold stage at hD ⊢
  split_ifs with c4 c6 c10
  · exact t0
  · exact t1
  · exact t2
  · exact t3

theorem regA (h : StepHyp r g p p' A qh sh A') (hr : r ≤ 2 / 5) :
    |A' - r| ≤ Bd r g p' * (10 : ℚ) ^ (-(p' : ℤ)) := by
  have hr1 := h.hr1
  have hB : ∀ q : ℕ, Bd r g q = rowA r (stage q) := fun q => by unfold Bd; rw [if_pos hr]
  have hth := theta_inv r A (by linarith only [hr1]) h.hA1 h.hA2
  have he := err_c1 h.rd h.hr1 (by linarith only [hr]) h.hA1 h.u4 (by linarith only [hr, hth, h.u4])
  rw [← one_mul ((10 : ℚ) ^ (-(p' : ℤ)))] at he
  have hrr := mul_le_mul_of_nonneg_left hr1 (by linarith only [hr1] : (0 : ℚ) ≤ r)
  rw [hB p']
  refine h.row_step (rowA r) 1 (hB p).le he ?_ ?_ ?_ ?_ <;> simp only [rowA] <;>
    linarith only [hrr, hr1, mul_self_nonneg r]

theorem regC (h : StepHyp r g p p' A qh sh A') (hrl : 1 / 2 ≤ r) (hr : r ≤ 89 / 100) :
    |A' - r| ≤ Bd r g p' * (10 : ℚ) ^ (-(p' : ℤ)) := by
  have hB : ∀ q : ℕ, Bd r g q = rowC r (stage q) := fun q => by
    unfold Bd
    rw [if_neg (by linarith only [hrl] : ¬ r ≤ 2 / 5), if_neg (by linarith only [hrl] : ¬ r < 1 / 2), if_pos hr]
  have he := err_c3 h.rd h.hr1 hr h.hA1 h.hA2 h.u4
  have hrr := mul_le_mul_of_nonneg_left hr (by linarith only [hrl] : (0 : ℚ) ≤ r)
  rw [hB p']
  refine h.row_step (rowC r) (13 / 4) (hB p).le he ?_ ?_ ?_ ?_ <;> simp only [rowC] <;>
    linarith only [hrr, hrl, mul_self_nonneg r]

theorem regD (h : StepHyp r g p p' A qh sh A') (hr : 89 / 100 < r) :
    |A' - r| ≤ Bd r g p' * (10 : ℚ) ^ (-(p' : ℤ)) := by
  have hr2 := h.hr2
  have hB : ∀ q : ℕ, Bd r g q = rowD r (stage q) := fun q => by
    unfold Bd
    rw [if_neg (by linarith only [hr] : ¬ r ≤ 2 / 5), if_neg (by linarith only [hr] : ¬ r < 1 / 2),
      if_neg (by linarith only [hr] : ¬ r ≤ 89 / 100)]
  have he := err_c10 h.rd h.hr1 h.hr2 h.hA1 h.hA2 h.u4
  have hrr := mul_le_mul_of_nonneg_left hr2.le (by linarith only [hr] : (0 : ℚ) ≤ r)
  rw [hB p']
  refine h.row_step (rowD r) 10 (hB p).le he ?_ ?_ ?_ ?_ <;> simp only [rowD] <;>
    linarith only [hrr, hr]

/-- once the grid of the round separates `2r` from 1 (`p' ≥ g + 3`) no rounding
crosses 1 any more and the bound drops to `18/5` -/
theorem regB (h : StepHyp r g p p' A qh sh A') (k : ℤ) (hk : r = (k : ℚ) * (10 : ℚ) ^ (-(g : ℤ)))
    (hrl : 2 / 5 < r) (hr : r < 1 / 2) : |A' - r| ≤ Bd r g p' * (10 : ℚ) ^ (-(p' : ℤ)) := by
  have hu0 := tp (-(p' : ℤ))
  have hB : ∀ q : ℕ, Bd r g q = if 10 ≤ q ∧ g + 3 ≤ q then 18 / 5 else rowB r (stage q) := fun q => by
    unfold Bd
    rw [if_neg (by linarith only [hrl] : ¬ r ≤ 2 / 5), if_pos hr]
  have hD : Bd r g p ≤ rowB r (stage p) := by
    rw [hB p]; split_ifs with hc
    · rw [stage_of_ge10 hc.1]; norm_num [rowB]
    · exact le_refl _
  rw [hB p']
  by_cases hf : 10 ≤ p' ∧ g + 3 ≤ p'
  · rw [if_pos hf]
    -- the sum stays below 1: the better rounding constant
    have h6 : 6 ≤ p := by have := h.hle; omega
    have hD' : Bd r g p ≤ 71 / 5 := hD.trans (rowB_of_two_le r (stage_two_le h6)).le
    have hth := h.theta_bound (by omega) hD' (K := 6) (by linarith only [hrl])
    have hGu := pow_gap g p' hf.2
    have hG0 := tp (-(g : ℤ))
    have h2r : 2 * r = ((2 * k : ℤ) : ℚ) * (10 : ℚ) ^ (-(g : ℤ)) := by rw [hk]; push_cast; ring
    have hr4 : 2 * r ≤ 1 - (10 : ℚ) ^ (-(g : ℤ)) := by
      rw [h2r]; apply frac_le; rw [← h2r]; linarith only [hr]
    have he1 := err_c1 h.rd h.hr1 (by linarith only [hr]) h.hA1 h.u4 (by linarith only [hr4, hth, hGu, hG0])
    rw [← one_mul ((10 : ℚ) ^ (-(p' : ℤ)))] at he1
    refine h.core 1 (71 / 5) _ hD' he1 ?_
    rw [if_neg (by omega)]; linarith only [hrl]
  · rw [if_neg hf]
    have he := err_c3 h.rd h.hr1 (by linarith only [hr]) h.hA1 h.hA2 h.u4
    have hrr := mul_le_mul_of_nonneg_left hr.le (by linarith only [hrl] : (0 : ℚ) ≤ r)
    refine h.row_step (rowB r) (13 / 4) hD he ?_ ?_ ?_ ?_ <;> simp only [rowB] <;>
      linarith only [hrr, hrl, mul_self_nonneg r]

theorem step (h : StepHyp r g p p' A qh sh A') (k : ℤ) (hk : r = (k : ℚ) * (10 : ℚ) ^ (-(g : ℤ))) :
    |A' - r| ≤ Bd r g p' * (10 : ℚ) ^ (-(p' : ℤ)) := by
  by_cases h1 : r ≤ 2 / 5
  · exact h.regA h1
  · by_cases h2 : r < 1 / 2
    · exact h.regB k hk (not_le.1 h1) h2
    · by_cases h3 : r ≤ 89 / 100
      · exact h.regC (not_lt.1 h2) h3
      · exact h.regD (not_le.1 h3)

theorem lock (h : StepHyp r g p p' A qh sh A') (k : ℤ) (hk : r = (k : ℚ) * (10 : ℚ) ^ (-(g : ℤ)))
    (hp10 : 10 ≤ p) (hpg : g + 3 ≤ p) (m : ℤ) (hm : A = (m : ℚ) * (10 : ℚ) ^ (-(p' : ℤ))) : A' = r := by
  have hr1 := h.hr1
  have hr0 : 0 ≤ r := by linarith only [hr1]
  -- the bound and what it gives for the Newton term
  obtain ⟨k1, k2, k3⟩ : Bd r g p ≤ 18 ∧ (r < 1 / 2 → Bd r g p ^ 2 ≤ 99 * r * (2 / 5)) ∧
      Bd r g p ^ 2 ≤ 99 * r * (22 / 5) := by
    unfold Bd
    rw [stage_of_ge10 hp10, if_pos (show 10 ≤ p ∧ g + 3 ≤ p from ⟨hp10, hpg⟩)]
    split_ifs with h1 h2 h3
    · have hrr := mul_le_mul_of_nonneg_left h1 hr0
      simp only [rowA]
      exact ⟨by linarith only [h1], fun _ => by linarith only [hrr, hr1], by linarith only [hrr, hr1]⟩
    · exact ⟨by norm_num, fun _ => by linarith only [h1], by linarith only [h1]⟩
    · simp only [rowC]; exact ⟨by norm_num, fun hh => absurd hh h2, by linarith only [h2]⟩
    · simp only [rowD]; exact ⟨by norm_num, fun hh => absurd hh h2, by linarith only [h3]⟩
  have hd : |A - r| ≤ (10 : ℚ) ^ (-(g : ℤ)) / 20 := by
    have := mul_le_mul k1 (pow_gap g p hpg) (tp (-(p : ℤ))).le (by norm_num)
    linarith only [h.hd, this, tp (-(g : ℤ))]
  exact SqrtX.lock h.rd k hk (by have := h.hpp; omega) hr1 h.hr2 m hm hd
    (fun hs => h.theta_bound (by omega) le_rfl (k2 hs)) (h.theta_bound (by omega) le_rfl k3)

end StepHyp

end Apd.SqrtX

#print axioms Apd.SqrtX.StepHyp.step
#print axioms Apd.SqrtX.StepHyp.lock
