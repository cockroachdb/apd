import ApdVerif.Props.Mul
import ApdVerif.Lemmas.ErrExits
import Mathlib.Tactic.Ring
import Mathlib.Tactic.Linarith
import Mathlib.Tactic.NormNum
import Mathlib.Tactic.SplitIfs
/-!
# Lemmas for C12: exact integer powers through `integerPower`

`exactPow x n` is the `n`-th power of a finite decimal, unrounded.  Under `PowHyp` every product of square-and-multiply
fits the precision and the exponent range, so it is exact (`Props.mulOp_exact`) and `integerPower` returns
`exactPow x N`; Pow with a positive integer exponent is then the single rounding of `exactPow x n`.
-/
namespace Apd.Props

def exactPow (x : Dec) (n : Nat) : Dec :=
  { form := .finite, neg := x.neg && n % 2 == 1, exp := x.exp * n, coeff := x.coeff ^ n }

end Apd.Props

namespace Apd.C12L
open Apd.Props

theorem exactPow_zero (x : Dec) : exactPow x 0 = decOne := by
  simp [exactPow, decOne]

/-- the hypotheses under which every intermediate of square-and-multiply is exact -/
structure PowHyp (nc : Ctx) (x : Dec) (N : Nat) : Prop where
  hemin : nc.emin = -100000
  hemax : nc.emax = 100000
  hx : 0 < x.coeff
  hfit : ndigits (x.coeff ^ N) ≤ nc.prec
  hrange : ∀ k : Nat, k ≤ N → -90000 ≤ x.exp * (k : Int) ∧ x.exp * (k : Int) + (ndigits (x.coeff ^ k) : Int) ≤ 90000

theorem exactPow_mul (x : Dec) (j k : Nat) : (exactPow x j).prod (exactPow x k) = exactPow x (j + k) := by
  have hneg : ((x.neg && j % 2 == 1) != (x.neg && k % 2 == 1)) = (x.neg && (j + k) % 2 == 1) := by
    rcases Nat.mod_two_eq_zero_or_one j with h1 | h1 <;> rcases Nat.mod_two_eq_zero_or_one k with h2 | h2 <;>
      (have h3 : (j + k) % 2 = (j % 2 + k % 2) % 2 := Nat.add_mod _ _ _
       rw [h3, h1, h2]; cases x.neg <;> simp)
  simp only [Dec.prod, exactPow, hneg, Dec.mk.injEq, true_and]
  constructor
  · push_cast; ring
  · rw [pow_add]

theorem mul_exactPow {nc : Ctx} {x : Dec} {N : Nat} (h : PowHyp nc x N) (j k : Nat) (hjk : j + k ≤ N) :
    mulOp nc (exactPow x j) (exactPow x k) = { d := exactPow x (j + k) } := by
  have hpos : 0 < x.coeff ^ (j + k) := Nat.pow_pos h.hx
  have hle : x.coeff ^ (j + k) ≤ x.coeff ^ N := Nat.pow_le_pow_right h.hx hjk
  have hnd : ndigits (x.coeff ^ (j + k)) ≤ nc.prec := le_trans (ndigits_mono hpos hle) h.hfit
  have hp : 1 ≤ nc.prec := le_trans (ndigits_pos _) hnd
  have rj := h.hrange j (by omega)
  have rk := h.hrange k (by omega)
  have rjk := h.hrange (j + k) hjk
  have nj := ndigits_pos (x.coeff ^ j)
  have nk := ndigits_pos (x.coeff ^ k)
  have hcoef : (exactPow x j).coeff * (exactPow x k).coeff = x.coeff ^ (j + k) := by simp [exactPow, pow_add]
  have hexp : (exactPow x j).exp + (exactPow x k).exp = x.exp * ((j + k : Nat) : Int) := by
    simp only [exactPow]; push_cast; ring
  have hej : (exactPow x j).exp = x.exp * (j : Int) := rfl
  have hek : (exactPow x k).exp = x.exp * (k : Int) := rfl
  rw [mulOp_exact nc hp h.hemin h.hemax (exactPow x j) (exactPow x k) rfl rfl (by rw [hcoef]; exact hnd)
    ⟨⟨by rw [hej]; omega, by rw [hej]; omega⟩, ⟨by rw [hek]; omega, by rw [hek]; omega⟩,
      by rw [hexp]; omega, by rw [hexp, hcoef]; omega⟩, exactPow_mul]

theorem step_clean (nc : Ctx) (cur d : Dec) (op : Ctx → Out) (h : op nc = { d := d }) :
    ({ c := nc } : ED).step cur op = ({ c := nc }, d) := by
  simp [ED.step, ED.fresh_not_failed, h, Cond.empty_or]

/-- the invariant of the loop: `z = x^a`, `n = x^m`, `a + b*m = N` -/
theorem intPowLoop_exact {nc : Ctx} {x : Dec} {N : Nat} (h : PowHyp nc x N) :
    ∀ (fuel b a m : Nat), b < 2 ^ fuel → a + b * m = N → 1 ≤ m →
      intPowLoop fuel { c := nc } b (exactPow x a) (exactPow x m) = ({ c := nc }, exactPow x N) := by
  intro fuel
  induction fuel with
  | zero =>
    intro b a m hb hN hm
    have : b = 0 := by simpa using hb
    subst this
    simp at hN; subst hN
    simp [intPowLoop]
  | succ f ih =>
    intro b a m hb hN hm
    rw [intPowLoop_succ]
    by_cases hb0 : b = 0
    · subst hb0; simp at hN; subst hN; simp
    · have hbne : (b == 0) = false := by simpa using hb0
      simp only [hbne]
      have hbpos : 0 < b := Nat.pos_of_ne_zero hb0
      have hbm : m ≤ b * m := Nat.le_mul_of_pos_left m hbpos
      have hr1 : pR1 { c := nc } b (exactPow x a) (exactPow x m) =
          (({ c := nc } : ED), exactPow x (if b % 2 = 1 then a + m else a)) := by
        unfold pR1
        by_cases hodd : b % 2 = 1
        · simp only [hodd, beq_self_eq_true, if_true]
          exact step_clean nc _ _ _ (mul_exactPow h a m (by omega))
        · have : (b % 2 == 1) = false := by simpa using hodd
          simp [this, hodd]
      have hr2 : pR2 { c := nc } b (exactPow x a) (exactPow x m) =
          (({ c := nc } : ED), exactPow x (if b / 2 > 0 then m + m else m)) := by
        unfold pR2
        rw [hr1]
        by_cases hh : b / 2 > 0
        · simp only [hh, if_true]
          have h2 : 2 ≤ b := by omega
          have : 2 * m ≤ b * m := Nat.mul_le_mul_right m h2
          exact step_clean nc _ _ _ (mul_exactPow h m m (by omega))
        · simp [hh]
      rw [hr2, hr1]
      simp only [ED.fresh_not_failed]
      apply ih
      · have : 2 ^ (f + 1) = 2 * 2 ^ f := by rw [Nat.pow_succ]; ring
        omega
      · by_cases hh : b / 2 > 0
        · simp only [hh, if_true]
          have hdm := Nat.div_add_mod b 2
          by_cases hodd : b % 2 = 1
          · simp only [hodd, if_true]
            have : b = 2 * (b / 2) + 1 := by omega
            calc a + m + b / 2 * (m + m) = a + (2 * (b / 2) + 1) * m := by ring
              _ = a + b * m := by rw [← this]
              _ = N := hN
          · simp only [hodd, if_false]
            have : b = 2 * (b / 2) := by omega
            calc a + b / 2 * (m + m) = a + (2 * (b / 2)) * m := by ring
              _ = a + b * m := by rw [← this]
              _ = N := hN
        · have hb1 : b = 1 := by omega
          subst hb1
          simp at hN ⊢
          exact hN
      · split_ifs <;> omega

theorem exactPow_one (x : Dec) (hx : x.form = .finite) : exactPow x 1 = x := by
  cases x; simp_all [exactPow]

theorem integerPower_exact {nc : Ctx} {x : Dec} {N : Nat} (h : PowHyp nc x N) (hx : x.form = .finite) :
    integerPower nc x (N : Int) = (exactPow x N, {}, .none) := by
  have hl : intPowLoop (Nat.log2 N + 2) { c := nc } N decOne x = (({ c := nc } : ED), exactPow x N) := by
    have := intPowLoop_exact h (Nat.log2 N + 2) N 0 1
      (lt_trans Nat.lt_log2_self (Nat.pow_lt_pow_right (by decide) (by omega))) (by simp) (le_refl _)
    rwa [exactPow_zero, exactPow_one x hx] at this
  have hneg : decide ((N : Int) < 0) = false := by simp
  unfold integerPower
  simp only [Int.natAbs_natCast, hl, hneg, ED.fresh_not_failed]
  simp [ED.errOf, goError_noFlags]

theorem powSpecials_none (c : Ctx) (x : Dec) (n : Nat) (hx : x.form = .finite) (hxc : x.coeff ≠ 0) (hn : 0 < n) :
    powSpecials c x { form := .finite, neg := false, exp := 0, coeff := n } = none := by
  have hn' : n ≠ 0 := by omega
  have hm : (modf { form := .finite, neg := false, exp := 0, coeff := n }).2.isZero = true := by
    simp [modf, Dec.isZero]
    split_ifs <;> first | omega | simp [Nat.mod_one]
  unfold powSpecials
  simp only [hm]
  simp [shouldSetAsNaN, Dec.isNaN, Dec.sign, hx, hxc, hn']
  cases x.neg <;> simp

theorem powIntOp_exact (c : Ctx) (x : Dec) (n : Nat) (hx : x.form = .finite) (hxc : x.coeff ≠ 0) (hn : 0 < n)
    (hfit : ndigits (x.coeff ^ n) ≤ (if c.prec < ndigits x.coeff then ndigits x.coeff else c.prec) + 10)
    (hrange : ∀ k : Nat, k ≤ n → -90000 ≤ x.exp * (k : Int) ∧ x.exp * (k : Int) + (ndigits (x.coeff ^ k) : Int) ≤ 90000) :
    powIntOp c x { form := .finite, neg := false, exp := 0, coeff := n } =
      some (finish c (ctxRound c (exactPow x n))) := by
  have hm : modf { form := .finite, neg := false, exp := 0, coeff := n } =
      ({ form := .finite, neg := false, exp := 0, coeff := n }, { form := .finite, neg := false, exp := 0, coeff := 0 }) := by
    have : ¬ ((ndigits n : Int) < 0) := by omega
    simp [modf, this, Nat.mod_one]
  have hq : ∀ v : Dec, v.exp = 0 → quantizeCore c v 0 = (v, {}) := by
    intro v hv
    cases v
    simp_all [quantizeCore]
  have hyp : PowHyp { baseCtx with prec := (if c.prec < ndigits x.coeff then ndigits x.coeff else c.prec) + 10 } x n :=
    { hemin := rfl, hemax := rfl, hx := Nat.pos_of_ne_zero hxc, hfit := hfit, hrange := hrange }
  have hip := integerPower_exact hyp hx
  unfold powIntOp
  rw [powSpecials_none c x n hx hxc hn]
  have hq' := hq { form := .finite, neg := false, exp := 0, coeff := n } rfl
  simp only [hm, hq']
  simp [Dec.isZero, hip, Cond.empty_or]

end Apd.C12L
