import ApdVerif.Spec.Order
import ApdVerif.Lemmas.Digits
/-!
# `Cmp` and `CmpTotal`

`Cmp` on finite operands is the comparison of the two coefficients scaled to a common exponent; `CmpTotal` is the
lexicographic comparison of a key (`totalKey`), from which its order laws follow.
-/
namespace Apd.C15L
theorem cmpInt_lt {a b : Int} (h : a < b) : cmpInt a b = -1 := if_pos h

theorem cmpInt_gt {a b : Int} (h : b < a) : cmpInt a b = 1 := by
  unfold cmpInt
  rw [if_neg (Int.lt_asymm h), if_pos h]

theorem cmpInt_eq {a b : Int} (h : a = b) : cmpInt a b = 0 := by
  unfold cmpInt
  rw [h, if_neg (Int.lt_irrefl b), if_neg (Int.lt_irrefl b)]

theorem cmpInt_cases (a b : Int) :
    (a < b ∧ cmpInt a b = -1) ∨ (a = b ∧ cmpInt a b = 0) ∨ (b < a ∧ cmpInt a b = 1) := by
  rcases Int.lt_trichotomy a b with h | h | h
  · exact Or.inl ⟨h, cmpInt_lt h⟩
  · exact Or.inr (Or.inl ⟨h, cmpInt_eq h⟩)
  · exact Or.inr (Or.inr ⟨h, cmpInt_gt h⟩)

theorem cmpInt_range (a b : Int) : cmpInt a b = -1 ∨ cmpInt a b = 0 ∨ cmpInt a b = 1 := by
  rcases cmpInt_cases a b with ⟨h, e⟩ | ⟨h, e⟩ | ⟨h, e⟩ <;> rw [e] <;> omega

theorem cmpInt_eq_neg_one_iff (a b : Int) : cmpInt a b = -1 ↔ a < b := by
  rcases cmpInt_cases a b with ⟨h, e⟩ | ⟨h, e⟩ | ⟨h, e⟩ <;> rw [e] <;> omega

theorem cmpInt_eq_zero_iff (a b : Int) : cmpInt a b = 0 ↔ a = b := by
  rcases cmpInt_cases a b with ⟨h, e⟩ | ⟨h, e⟩ | ⟨h, e⟩ <;> rw [e] <;> omega

theorem cmpInt_eq_one_iff (a b : Int) : cmpInt a b = 1 ↔ b < a := by
  rcases cmpInt_cases a b with ⟨h, e⟩ | ⟨h, e⟩ | ⟨h, e⟩ <;> rw [e] <;> omega

theorem cmpInt_le_zero_iff (a b : Int) : cmpInt a b ≤ 0 ↔ a ≤ b := by
  rcases cmpInt_cases a b with ⟨h, e⟩ | ⟨h, e⟩ | ⟨h, e⟩ <;> rw [e] <;> omega

theorem cmpInt_pos_iff (a b : Int) : cmpInt a b > 0 ↔ b < a := by
  rcases cmpInt_cases a b with ⟨h, e⟩ | ⟨h, e⟩ | ⟨h, e⟩ <;> rw [e] <;> omega

theorem cmpInt_neg_iff (a b : Int) : cmpInt a b < 0 ↔ a < b := by
  rcases cmpInt_cases a b with ⟨h, e⟩ | ⟨h, e⟩ | ⟨h, e⟩ <;> rw [e] <;> omega

theorem cmpInt_antisymm (a b : Int) : cmpInt b a = - cmpInt a b := by
  rcases Int.lt_trichotomy a b with h | h | h
  · rw [cmpInt_lt h, cmpInt_gt h]; rfl
  · rw [cmpInt_eq h, cmpInt_eq h.symm]; rfl
  · rw [cmpInt_gt h, cmpInt_lt h]

theorem cmpNat_eq_cmpInt (a b : Nat) : cmpNat a b = cmpInt (a : Int) (b : Int) := by
  unfold cmpNat cmpInt
  simp only [Int.ofNat_lt, gt_iff_lt]

theorem cmpInt_neg (a b : Int) : cmpInt (-a) (-b) = - cmpInt a b := by
  rcases Int.lt_trichotomy a b with h | h | h
  · rw [cmpInt_lt h, cmpInt_gt (by omega)]; rfl
  · rw [cmpInt_eq h, cmpInt_eq (by omega)]; rfl
  · rw [cmpInt_gt h, cmpInt_lt (by omega)]

theorem cmpInt_mul_pos (a b p : Int) (hp : 0 < p) : cmpInt (a * p) (b * p) = cmpInt a b := by
  rcases Int.lt_trichotomy a b with h | h | h
  · rw [cmpInt_lt h, cmpInt_lt (Int.mul_lt_mul_of_pos_right h hp)]
  · rw [cmpInt_eq h, cmpInt_eq (by rw [h])]
  · rw [cmpInt_gt h, cmpInt_gt (Int.mul_lt_mul_of_pos_right h hp)]

theorem mag_lt (dc xc : Nat) (de xe : Int) (hd : 0 < dc) (hx : 0 < xc)
    (h : (ndigits dc : Int) + de < (ndigits xc : Int) + xe) (e : Int) (he1 : e ≤ de) (he2 : e ≤ xe) :
    dc * 10 ^ (de - e).toNat < xc * 10 ^ (xe - e).toNat := by
  obtain ⟨_, a2⟩ := ndigits_spec dc hd
  obtain ⟨b1, _⟩ := ndigits_spec xc hx
  have hp := ndigits_pos xc
  calc dc * 10 ^ (de - e).toNat
      < 10 ^ ndigits dc * 10 ^ (de - e).toNat :=
        Nat.mul_lt_mul_of_pos_right a2 (Nat.pow_pos (by decide))
    _ = 10 ^ (ndigits dc + (de - e).toNat) := (Nat.pow_add ..).symm
    _ ≤ 10 ^ (ndigits xc - 1 + (xe - e).toNat) := Nat.pow_le_pow_right (by decide) (by omega)
    _ = 10 ^ (ndigits xc - 1) * 10 ^ (xe - e).toNat := Nat.pow_add ..
    _ ≤ xc * 10 ^ (xe - e).toNat := Nat.mul_le_mul_right _ b1

/-- the magnitude comparison performed by `Decimal.Cmp` on two non-zero finite operands of equal sign
(result for positive operands) -/
def magCmp (dc xc : Nat) (de xe : Int) : Int :=
  if de == xe then cmpNat dc xc
  else
    let dn : Int := (ndigits dc : Int) + de
    let xn : Int := (ndigits xc : Int) + xe
    if dn < xn then -1 else if dn > xn then 1 else
    if de < xe then cmpNat dc (xc * 10 ^ (xe - de).toNat)
    else cmpNat (dc * 10 ^ (de - xe).toNat) xc

theorem magCmp_spec (dc xc : Nat) (de xe : Int) (hd : 0 < dc) (hx : 0 < xc) :
    magCmp dc xc de xe =
      cmpNat (dc * 10 ^ (de - min de xe).toNat) (xc * 10 ^ (xe - min de xe).toNat) := by
  unfold magCmp
  by_cases he : de = xe
  · subst he; simp
  · simp only [beq_iff_eq, he, if_false]
    by_cases h1 : (ndigits dc : Int) + de < (ndigits xc : Int) + xe
    · simp only [h1, if_true]
      have := mag_lt dc xc de xe hd hx h1 (min de xe) (Int.min_le_left ..) (Int.min_le_right ..)
      rw [cmpNat_eq_cmpInt, cmpInt_lt (by exact_mod_cast this)]
    · simp only [h1, if_false]
      by_cases h2 : (ndigits dc : Int) + de > (ndigits xc : Int) + xe
      · simp only [h2, if_true]
        have := mag_lt xc dc xe de hx hd h2 (min de xe) (Int.min_le_right ..) (Int.min_le_left ..)
        rw [cmpNat_eq_cmpInt, cmpInt_gt (by exact_mod_cast this)]
      · simp only [h2, if_false]
        by_cases h3 : de < xe
        · simp only [h3, if_true]
          have hm : min de xe = de := by omega
          rw [hm]; simp
        · simp only [h3, if_false]
          have hm : min de xe = xe := by omega
          rw [hm]; simp

theorem sign_finite (d : Dec) (h : d.form = .finite) :
    d.sign = if d.coeff = 0 then 0 else if d.neg then -1 else 1 := by
  unfold Dec.sign; simp [h]

theorem sign_infinite (d : Dec) (h : d.form = .infinite) :
    d.sign = if d.neg then -1 else 1 := by
  unfold Dec.sign; simp [h]

theorem signedScaled_cases (d : Dec) (e : Int) (h : d.form = .finite) :
    (d.sign = -1 ∧ signedScaled d e < 0 ∧ d.neg = true ∧ 0 < d.coeff) ∨
    (d.sign = 0 ∧ signedScaled d e = 0 ∧ d.coeff = 0) ∨
    (d.sign = 1 ∧ 0 < signedScaled d e ∧ d.neg = false ∧ 0 < d.coeff) := by
  rw [sign_finite d h]
  unfold signedScaled
  by_cases hc : d.coeff = 0
  · right; left; simp [hc]
  · have hc' : 0 < d.coeff := Nat.pos_of_ne_zero hc
    have hp : 0 < d.coeff * 10 ^ (d.exp - e).toNat := Nat.mul_pos hc' (Nat.pow_pos (by decide))
    generalize d.coeff * 10 ^ (d.exp - e).toNat = q at hp ⊢
    cases hn : d.neg
    · right; right; simp [hc, hc']; omega
    · left; simp [hc, hc']; omega

theorem cmp_of_sign_lt (d x : Dec) (h : d.sign < x.sign) : d.cmp x = -1 := by
  unfold Dec.cmp; simp [h]

theorem cmp_of_sign_gt (d x : Dec) (h : d.sign > x.sign) : d.cmp x = 1 := by
  unfold Dec.cmp
  have : ¬ d.sign < x.sign := by omega
  simp [this, h]

theorem cmp_of_sign_zero (d x : Dec) (h1 : d.sign = 0) (h2 : x.sign = 0) : d.cmp x = 0 := by
  unfold Dec.cmp; simp [h1, h2]

theorem cmp_pos (d x : Dec) (hd : d.form = .finite) (hx : x.form = .finite)
    (hdn : d.neg = false) (hxn : x.neg = false) (hdc : 0 < d.coeff) (hxc : 0 < x.coeff) :
    d.cmp x = magCmp d.coeff x.coeff d.exp x.exp := by
  have h1 : d.sign = 1 := by rw [sign_finite d hd]; simp [hdn]; omega
  have h2 : x.sign = 1 := by rw [sign_finite x hx]; simp [hxn]; omega
  unfold Dec.cmp magCmp
  simp [h1, h2, hd, hx]

theorem cmp_neg (d x : Dec) (hd : d.form = .finite) (hx : x.form = .finite)
    (hdn : d.neg = true) (hxn : x.neg = true) (hdc : 0 < d.coeff) (hxc : 0 < x.coeff) :
    d.cmp x = - magCmp d.coeff x.coeff d.exp x.exp := by
  have h1 : d.sign = -1 := by rw [sign_finite d hd]; simp [hdn]; omega
  have h2 : x.sign = -1 := by rw [sign_finite x hx]; simp [hxn]; omega
  unfold Dec.cmp magCmp
  simp [h1, h2, hd, hx]
  -- both sides are the same cascade, negated at the leaves or as a whole
  simp only [apply_ite Neg.neg, Int.neg_neg]

theorem specCmp_finite (d x : Dec) (hd : d.form = .finite) (hx : x.form = .finite) :
    specCmp d x = cmpInt (signedScaled d (min d.exp x.exp)) (signedScaled x (min d.exp x.exp)) := by
  unfold specCmp; rw [hd, hx]

theorem cmp_finite (d x : Dec) (hd : d.form = .finite) (hx : x.form = .finite) :
    d.cmp x = cmpInt (signedScaled d (min d.exp x.exp)) (signedScaled x (min d.exp x.exp)) := by
  rcases signedScaled_cases d (min d.exp x.exp) hd with ⟨s1, v1, n1, c1⟩ | ⟨s1, v1, c1⟩ | ⟨s1, v1, n1, c1⟩ <;>
  rcases signedScaled_cases x (min d.exp x.exp) hx with ⟨s2, v2, n2, c2⟩ | ⟨s2, v2, c2⟩ | ⟨s2, v2, n2, c2⟩
  · rw [cmp_neg d x hd hx n1 n2 c1 c2, magCmp_spec _ _ _ _ c1 c2, cmpNat_eq_cmpInt]
    unfold signedScaled; simp only [n1, n2, if_true]
    rw [← cmpInt_neg]; simp
  · rw [cmp_of_sign_lt d x (by omega), cmpInt_lt (by omega)]
  · rw [cmp_of_sign_lt d x (by omega), cmpInt_lt (by omega)]
  · rw [cmp_of_sign_gt d x (by omega), cmpInt_gt (by omega)]
  · rw [cmp_of_sign_zero d x s1 s2, cmpInt_eq (by omega)]
  · rw [cmp_of_sign_lt d x (by omega), cmpInt_lt (by omega)]
  · rw [cmp_of_sign_gt d x (by omega), cmpInt_gt (by omega)]
  · rw [cmp_of_sign_gt d x (by omega), cmpInt_gt (by omega)]
  · rw [cmp_pos d x hd hx n1 n2 c1 c2, magCmp_spec _ _ _ _ c1 c2, cmpNat_eq_cmpInt]
    unfold signedScaled; simp [n1, n2]

theorem signedScaled_scale (d : Dec) (e e' : Int) (h1 : e' ≤ e) (h2 : e ≤ d.exp) :
    signedScaled d e' = signedScaled d e * ((10 ^ (e - e').toNat : Nat) : Int) := by
  unfold signedScaled
  have : (d.exp - e').toNat = (d.exp - e).toNat + (e - e').toNat := by omega
  rw [this, Nat.pow_add, ← Nat.mul_assoc, Int.natCast_mul (d.coeff * 10 ^ (d.exp - e).toNat), Int.mul_assoc]

theorem specCmp_finite_at (d x : Dec) (hd : d.form = .finite) (hx : x.form = .finite) (e : Int)
    (h1 : e ≤ d.exp) (h2 : e ≤ x.exp) :
    specCmp d x = cmpInt (signedScaled d e) (signedScaled x e) := by
  rw [specCmp_finite d x hd hx,
    signedScaled_scale d (min d.exp x.exp) e (by omega) (by omega),
    signedScaled_scale x (min d.exp x.exp) e (by omega) (by omega), cmpInt_mul_pos]
  have : 0 < 10 ^ (min d.exp x.exp - e).toNat := Nat.pow_pos (by decide)
  exact_mod_cast this

def lex (c r : Int) : Int := if c ≠ 0 then c else r

theorem lex_range {c r : Int} (hc : c = -1 ∨ c = 0 ∨ c = 1) (hr : r = -1 ∨ r = 0 ∨ r = 1) :
    lex c r = -1 ∨ lex c r = 0 ∨ lex c r = 1 := by
  unfold lex; split
  · exact hc
  · exact hr

theorem lex_neg (c r : Int) : lex (-c) (-r) = -lex c r := by
  unfold lex; split <;> split <;> omega

theorem lex_eq_zero_iff (c r : Int) : lex c r = 0 ↔ c = 0 ∧ r = 0 := by
  unfold lex; split <;> omega

theorem lex_le_zero_iff (c r : Int) : lex c r ≤ 0 ↔ c < 0 ∨ (c = 0 ∧ r ≤ 0) := by
  unfold lex; split <;> omega

theorem lex_of_ne {c : Int} (h : c ≠ 0) (r : Int) : lex c r = c := if_pos h

theorem lex_zero_left (r : Int) : lex 0 r = r := rfl

theorem lex_zero_right (c : Int) : lex c 0 = c := by
  unfold lex; split
  · rfl
  · omega

def cmp3 (a b : Int × Int × Int) : Int :=
  lex (cmpInt a.1 b.1) (lex (cmpInt a.2.1 b.2.1) (cmpInt a.2.2 b.2.2))

theorem cmp3_range (a b : Int × Int × Int) : cmp3 a b = -1 ∨ cmp3 a b = 0 ∨ cmp3 a b = 1 :=
  lex_range (cmpInt_range _ _) (lex_range (cmpInt_range _ _) (cmpInt_range _ _))

theorem cmp3_swap (a b : Int × Int × Int) : cmp3 b a = -cmp3 a b := by
  unfold cmp3
  rw [cmpInt_antisymm a.1 b.1, cmpInt_antisymm a.2.1 b.2.1, cmpInt_antisymm a.2.2 b.2.2, lex_neg, lex_neg]

theorem cmp3_eq_zero_iff (a b : Int × Int × Int) : cmp3 a b = 0 ↔ a = b := by
  unfold cmp3
  rw [lex_eq_zero_iff, lex_eq_zero_iff, cmpInt_eq_zero_iff, cmpInt_eq_zero_iff, cmpInt_eq_zero_iff,
    Prod.ext_iff, Prod.ext_iff]

theorem cmp3_le_zero_iff (a b : Int × Int × Int) :
    cmp3 a b ≤ 0 ↔ a.1 < b.1 ∨ (a.1 = b.1 ∧ (a.2.1 < b.2.1 ∨ (a.2.1 = b.2.1 ∧ a.2.2 ≤ b.2.2))) := by
  unfold cmp3
  rw [lex_le_zero_iff, lex_le_zero_iff, cmpInt_neg_iff, cmpInt_neg_iff, cmpInt_eq_zero_iff, cmpInt_eq_zero_iff,
    cmpInt_le_zero_iff]

theorem cmp3_trans {a b c : Int × Int × Int} (h1 : cmp3 a b ≤ 0) (h2 : cmp3 b c ≤ 0) : cmp3 a c ≤ 0 := by
  rw [cmp3_le_zero_iff] at *
  omega

/-- `CmpTotal`'s exponent tie-break is `cmpInt` of the sign-adjusted exponents -/
theorem expTie_eq_cmpInt (neg : Bool) (a b : Int) :
    (if a < b then (if neg then 1 else -1) else if a > b then (if neg then -1 else 1) else 0 : Int) =
      cmpInt (if neg then -a else a) (if neg then -b else b) := by
  cases neg
  · rfl
  · unfold cmpInt
    simp only [if_true]
    split <;> split <;> (try split) <;> omega

theorem cmpOrder_eq_iff (d x : Dec) : d.cmpOrder = x.cmpOrder ↔ d.form = x.form ∧ d.neg = x.neg := by
  obtain ⟨df, dn, de, dc⟩ := d
  obtain ⟨xf, xn, xe, xc⟩ := x
  cases df <;> cases dn <;> cases xf <;> cases xn <;> simp [Dec.cmpOrder]

theorem cmpTotal_of_lt (d x : Dec) (h : d.cmpOrder < x.cmpOrder) : d.cmpTotal x = -1 := by
  unfold Dec.cmpTotal; simp [h]

theorem cmpTotal_of_gt (d x : Dec) (h : x.cmpOrder < d.cmpOrder) : d.cmpTotal x = 1 := by
  unfold Dec.cmpTotal
  have : ¬ d.cmpOrder < x.cmpOrder := by omega
  simp [this, h]

theorem cmpTotal_finite (d x : Dec) (hd : d.form = .finite) (hx : x.form = .finite)
    (hn : d.neg = x.neg) (e : Int) (h1 : e ≤ d.exp) (h2 : e ≤ x.exp) :
    d.cmpTotal x = lex (cmpInt (signedScaled d e) (signedScaled x e))
      (cmpInt (if d.neg then -d.exp else d.exp) (if x.neg then -x.exp else x.exp)) := by
  have ho : d.cmpOrder = x.cmpOrder := (cmpOrder_eq_iff d x).2 ⟨by rw [hd, hx], hn⟩
  have hc : d.cmp x = cmpInt (signedScaled d e) (signedScaled x e) := by
    rw [cmp_finite d x hd hx, ← specCmp_finite d x hd hx, specCmp_finite_at d x hd hx e h1 h2]
  unfold Dec.cmpTotal lex
  simp only [ho, Int.lt_irrefl, if_false, hd, hc, bne_iff_ne, ← hn, ← expTie_eq_cmpInt]

theorem cmpTotal_infinite (d x : Dec) (hd : d.form = .infinite) (hx : x.form = .infinite)
    (hn : d.neg = x.neg) : d.cmpTotal x = 0 := by
  have ho : d.cmpOrder = x.cmpOrder := (cmpOrder_eq_iff d x).2 ⟨by rw [hd, hx], hn⟩
  unfold Dec.cmpTotal
  simp [ho, hd]

theorem cmpTotal_nan (d x : Dec) (hd : d.form ≠ .finite) (hd' : d.form ≠ .infinite)
    (hf : d.form = x.form) (hn : d.neg = x.neg) : d.cmpTotal x = cmpNat d.coeff x.coeff := by
  have ho : d.cmpOrder = x.cmpOrder := (cmpOrder_eq_iff d x).2 ⟨hf, hn⟩
  unfold Dec.cmpTotal
  simp only [ho, Int.lt_irrefl, if_false]

theorem signedScaled_inj (d x : Dec) (e : Int) (hn : d.neg = x.neg) (he : d.exp = x.exp)
    (h : signedScaled d e = signedScaled x e) : d.coeff = x.coeff := by
  unfold signedScaled at h
  rw [hn, he] at h
  have hp : 0 < 10 ^ (x.exp - e).toNat := Nat.pow_pos (by decide)
  generalize 10 ^ (x.exp - e).toNat = p at h hp
  have h'' : d.coeff * p = x.coeff * p := by
    generalize d.coeff * p = a at h ⊢
    generalize x.coeff * p = b at h ⊢
    cases hb : x.neg <;> simp [hb] at h <;> omega
  exact Nat.eq_of_mul_eq_mul_right hp h''

theorem signedScaled_nonpos (d : Dec) (e : Int) (h : d.neg = true) : signedScaled d e ≤ 0 := by
  unfold signedScaled; rw [h]
  generalize d.coeff * 10 ^ (d.exp - e).toNat = q
  simp only [if_true]; omega

theorem signedScaled_nonneg (d : Dec) (e : Int) (h : d.neg = false) : 0 ≤ signedScaled d e := by
  unfold signedScaled; rw [h]
  generalize d.coeff * 10 ^ (d.exp - e).toNat = q
  simp only [Bool.false_eq_true, if_false]; omega

/-- the key `CmpTotal` orders by: the class of form and sign; within a class the value (finite operands, at a
common scale `e`) or the payload (NaNs); among equal finite values the exponent, reversed for negatives -/
def totalKey (e : Int) (d : Dec) : Int × Int × Int :=
  (d.cmpOrder,
   match d.form with | .finite => signedScaled d e | .infinite => 0 | _ => (d.coeff : Int),
   match d.form with | .finite => if d.neg then -d.exp else d.exp | _ => 0)

theorem cmpTotal_eq_cmp3 (d x : Dec) (e : Int) (h1 : e ≤ d.exp) (h2 : e ≤ x.exp) :
    d.cmpTotal x = cmp3 (totalKey e d) (totalKey e x) := by
  unfold cmp3
  rw [show (totalKey e d).1 = d.cmpOrder from rfl, show (totalKey e x).1 = x.cmpOrder from rfl]
  rcases Int.lt_trichotomy d.cmpOrder x.cmpOrder with h | h | h
  · rw [cmpTotal_of_lt d x h, cmpInt_lt h]; rfl
  · obtain ⟨hf, hn⟩ := (cmpOrder_eq_iff d x).1 h
    rw [cmpInt_eq h, show lex 0 _ = _ from rfl]
    unfold totalKey
    cases hdf : d.form <;> rw [hdf] at hf <;> simp only [← hf]
    · exact cmpTotal_finite d x hdf hf.symm hn e h1 h2
    · rw [cmpTotal_infinite d x hdf hf.symm hn]; rfl
    · rw [cmpTotal_nan d x (by simp [hdf]) (by simp [hdf]) (hdf.trans hf) hn, cmpNat_eq_cmpInt]
      exact (lex_zero_right _).symm
    · rw [cmpTotal_nan d x (by simp [hdf]) (by simp [hdf]) (hdf.trans hf) hn, cmpNat_eq_cmpInt]
      exact (lex_zero_right _).symm
  · rw [cmpTotal_of_gt d x h, cmpInt_gt h]; rfl

theorem totalKey_eq_iff (d x : Dec) (e : Int) : totalKey e d = totalKey e x ↔ sameRepr d x := by
  unfold totalKey sameRepr
  rw [Prod.mk.injEq, Prod.mk.injEq, cmpOrder_eq_iff, and_assoc]
  refine and_congr_right fun hf => and_congr_right fun hn => ?_
  cases hdf : d.form <;> rw [hdf] at hf <;> simp only [← hf]
  · rw [← hn]
    constructor
    · rintro ⟨h2, h3⟩
      have he : d.exp = x.exp := by split at h3 <;> omega
      exact ⟨signedScaled_inj d x e hn he h2, he⟩
    · rintro ⟨hc, he⟩
      exact ⟨by unfold signedScaled; rw [hn, he, hc], by rw [he]⟩
  · exact ⟨fun _ => trivial, fun _ => ⟨trivial, trivial⟩⟩
  · exact ⟨fun h => Int.ofNat.inj h.1, fun h => ⟨congrArg _ h, trivial⟩⟩
  · exact ⟨fun h => Int.ofNat.inj h.1, fun h => ⟨congrArg _ h, trivial⟩⟩
end Apd.C15L
