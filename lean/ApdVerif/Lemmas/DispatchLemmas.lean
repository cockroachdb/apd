import ApdVerif.Model.Dispatch
/-!
# The dispatch table of `runCtxOp`, name by name

Reducing `runCtxOp` at a literal name compares strings down the `match`; done once here, the theorems that
range over the operation names rewrite with these equations.
-/
namespace Apd

theorem runCtxOp_eqs (c : Ctx) (x y : Dec) (i : Int) :
    runCtxOp "add" c x y i = some (addOp c x y false) ∧ runCtxOp "sub" c x y i = some (addOp c x y true) ∧
    runCtxOp "mul" c x y i = some (mulOp c x y) ∧ runCtxOp "quo" c x y i = some (quoOp c x y) ∧
    runCtxOp "quoint" c x y i = some (quoIntegerOp c x y) ∧ runCtxOp "rem" c x y i = some (remOp c x y) ∧
    runCtxOp "abs" c x y i = some (absOp c x) ∧ runCtxOp "neg" c x y i = some (negOp c x) ∧
    runCtxOp "round" c x y i = some (roundOp c x) ∧ runCtxOp "reduce" c x y i = some (reduceOp c x) ∧
    runCtxOp "cmp" c x y i = some (cmpOp c x y) ∧ runCtxOp "quantize" c x y i = some (quantizeOp c x i) ∧
    runCtxOp "rtie" c x y i = some (roundToIntegralExactOp c x) ∧
    runCtxOp "rtiv" c x y i = some (roundToIntegralValueOp c x) ∧
    runCtxOp "ceil" c x y i = some (ceilOp c x) ∧ runCtxOp "floor" c x y i = some (floorOp c x) ∧
    runCtxOp "sqrt" c x y i = some (sqrtOp c x) ∧ runCtxOp "cbrt" c x y i = cbrtOp c x ∧
    runCtxOp "exp" c x y i = expSpecials c x ∧ runCtxOp "ln" c x y i = logSpecials c x ∧
    runCtxOp "log10" c x y i = logSpecials c x ∧ runCtxOp "pow" c x y i = powIntOp c x y := by
  simp only [runCtxOp, and_self]

end Apd
