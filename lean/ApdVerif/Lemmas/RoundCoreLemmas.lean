import ApdVerif.Lemmas.SetExponent
import Mathlib.Tactic.Ring
import Mathlib.Tactic.Linarith
import Mathlib.Tactic.NormNum
import Mathlib.Tactic.SplitIfs
/-!
# The oracle on a decimal and what `setExponent` delivers

`specPack`, and the three theorems from which Round, Mul, Quo and the parser are assembled: what `setExponent` delivers in
the normal range, below it, and for a zero coefficient is what the specification asks for
(`setExponent_agrees_normal`, `setExponent_agrees_sub`, `setExponent_zero` with `agrees_zero`).
-/
namespace Apd
open Apd Apd.Oracle Cond

/-- the last step of `specRound`: the overflow test on the rounded coefficient `r.1` at the quantum `q` -/
def specPack (emax : Int) (neg sub : Bool) (q : Int) (r : Nat × Bool) : SpecOut :=
  if r.1 != 0 && q + (ndigits r.1 : Int) - 1 > emax then
    { inf := true, neg := neg, inexact := true, subnormal := sub, overflow := true }
  else { neg := neg, m := r.1, q := q, inexact := r.2, subnormal := sub }

theorem specPack_inf (emax : Int) (neg sub : Bool) (q : Int) (r : Nat × Bool) :
    (specPack emax neg sub q r).inf = true ↔ (r.1 ≠ 0 ∧ q + (ndigits r.1 : Int) - 1 > emax) := by
  unfold specPack
  split
  · rename_i h; simpa using h
  · rename_i h; simpa using h

theorem specPack_fin (emax : Int) (neg sub : Bool) (q : Int) (r : Nat × Bool)
    (h : ¬ (r.1 ≠ 0 ∧ q + (ndigits r.1 : Int) - 1 > emax)) :
    specPack emax neg sub q r = { neg := neg, m := r.1, q := q, inexact := r.2, subnormal := sub } :=
  if_neg (by simpa using h)

theorem specRound_of_pos (c : Ctx) (v : Exact) (hn : v.num ≠ 0) :
    specRound c v = specPack c.emax v.neg (decide (adjRat v.num v.den + v.e10 < c.emin))
      (max (adjRat v.num v.den + v.e10 - (c.prec : Int) + 1) c.etiny)
      (roundAt c.mode v.neg v.num v.den v.e10 (max (adjRat v.num v.den + v.e10 - (c.prec : Int) + 1) c.etiny)) := by
  have : (v.num == 0) = false := by simpa using hn
  simp only [specRound, this]; rfl

theorem specRound_of_zero (c : Ctx) (v : Exact) (hn : v.num = 0) :
    specRound c v = { neg := v.neg, m := 0, q := v.e10 } := by
  simp [specRound, hn]

theorem roundAt_div_bounds (mode : Mode) (neg : Bool) (n : Nat) (e q : Int) (h : e ≤ q) :
    n / 10 ^ (q - e).toNat ≤ (roundAt mode neg n 1 e q).1 ∧
    (roundAt mode neg n 1 e q).1 ≤ n / 10 ^ (q - e).toNat + 1 := by
  rw [roundAt_dec mode neg n e q h]; exact roundQuot_bounds _ _ _ _

/-- above `emax` the specification is an infinity: rounding to `prec` digits does not lower the adjusted exponent -/
theorem specRound_overflow (c : Ctx) (hc : c.WF) (n : Bool) (co : Nat) (e : Int) (hco : 0 < co)
    (hadj : c.emax < e + (ndigits co : Int) - 1) :
    specRound c { neg := n, num := co, den := 1, e10 := e } =
      { inf := true, neg := n, inexact := true, subnormal := false, overflow := true } := by
  obtain ⟨hp1, hpe, hemax, hemin, hemin0⟩ := hc
  have hnp := ndigits_pos co
  have het := c.etiny_eq
  rw [specRound_of_pos c _ (Nat.pos_iff_ne_zero.1 hco)]
  simp only [adjRat_one co hco]
  rw [max_eq_left (by omega), decide_eq_false (by omega)]
  generalize hqq : (ndigits co : Int) - 1 + e - (c.prec : Int) + 1 = q
  have key : 0 < (roundAt c.mode n co 1 e q).1 ∧ c.prec ≤ ndigits (roundAt c.mode n co 1 e q).1 := by
    by_cases hs : ndigits co ≤ c.prec
    · rw [roundAt_scale _ _ _ _ _ (by omega)]
      simp only [ndigits_mul_pow _ _ hco]
      exact ⟨Nat.mul_pos hco (Nat.pow_pos (by decide)), by omega⟩
    · have hge := (roundAt_div_bounds c.mode n co e q (by omega)).1
      have hD : (q - e).toNat = ndigits co - c.prec := by omega
      rw [hD] at hge
      obtain ⟨hy, hyd⟩ := ndigits_div_pow_sub co (ndigits co - c.prec) hco (by omega)
      have := ndigits_mono hy hge
      exact ⟨by omega, by omega⟩
  obtain ⟨k1, k2⟩ := key
  unfold specPack
  rw [if_pos (by simp only [Bool.and_eq_true, bne_iff_ne, ne_eq, decide_eq_true_eq]; omega)]

def AgreesS (c : Ctx) (s : SpecOut) (d : Dec) (fl : Cond) : Prop :=
  s.matches d = true ∧ FlagsOK s d fl ∧ fits c d = true

theorem agrees_iff {c : Ctx} {v : Exact} {d : Dec} {fl : Cond} : Agrees c v d fl ↔ AgreesS c (specRound c v) d fl :=
  Iff.rfl

theorem RoundedOnly.flagsOK {res : Cond} {inex : Bool} (h : RoundedOnly res inex) (neg : Bool) (m : Nat)
    (q : Int) (d : Dec) : FlagsOK { neg := neg, m := m, q := q, inexact := inex } d res := by
  obtain ⟨r1, r2, r3, r4, r5, r6, r7, r8, r9⟩ := h
  exact ⟨r1, r3, r4, r5, fun h _ => r2 (r1 ▸ h), fun h => (by rw [r5] at h; cases h), r6, r7, r8, r9⟩

theorem specPack_subnormal (emax : Int) (neg sub : Bool) (q : Int) (r : Nat × Bool) :
    (specPack emax neg sub q r).subnormal = sub := by
  unfold specPack; split <;> rfl

theorem AgreesS.or_subnormal {c : Ctx} {s : SpecOut} {d : Dec} {fl : Cond} (h : AgreesS c s d fl)
    (hs : s.subnormal = true) (p : Prop) [Decidable p] : AgreesS c s d (fl ||| if p then cSubnormal else {}) := by
  by_cases hp : p
  · rw [if_pos hp]
    obtain ⟨h1, ⟨f1, f2, f3, f4, f5, f6, f7, f8, f9, f10⟩, h3⟩ := h
    refine ⟨h1, ⟨?_, ?_, ?_, ?_, ?_, ?_, ?_, ?_, ?_, ?_⟩, h3⟩ <;>
      simp only [Cond.or_inexact, Cond.or_subnormal, Cond.or_underflow, Cond.or_overflow, Cond.or_rounded,
        Cond.or_divUndefined, Cond.or_divByZero, Cond.or_divImpossible, Cond.or_invalidOp, cSubnormal,
        Bool.or_false, Bool.or_true] <;> first | assumption | exact hs.symm
  · rw [if_neg hp, Cond.or_empty]; exact h

/-- **normal range**.  `res` carries the flags of a rounding already done; `δ` is 1 when the rounding carried into a
new digit that was divided off again, the padding `prec - nd` when nothing was rounded. -/
theorem setExponent_agrees_normal (c : Ctx) (hc : c.WF) (d : Dec) (hf : d.form = .finite) (res : Cond)
    (xs : List Int) (hns : NoSys (setExponent c d res xs).2) (hd0 : d.coeff ≠ 0)
    (hnd : ndigits d.coeff ≤ c.prec) (E : Int) (δ : Nat) (hE : sumInts xs = E + δ)
    (hadj : c.emin ≤ E + δ + (ndigits d.coeff : Int) - 1) (inex : Bool) (hres : RoundedOnly res inex) :
    AgreesS c (specPack c.emax d.neg false E (d.coeff * 10 ^ δ, inex))
      (setExponent c d res xs).1 (res ||| (setExponent c d res xs).2) := by
  obtain ⟨hp1, hpe, hemax, hemin, hemin0⟩ := hc
  obtain ⟨hx0, ha1, ha2⟩ := setExponent_noSys _ _ _ _ hE hns
  have hz : d.isZero = false := by simp [Dec.isZero, hd0]
  have hm := ndigits_mul_pow d.coeff δ (Nat.pos_of_ne_zero hd0)
  have hm0 : (d.coeff * 10 ^ δ != 0) = true := by
    have := Nat.mul_pos (Nat.pos_of_ne_zero hd0) (Nat.pow_pos (n := δ) (by decide : 0 < 10))
    simp; omega
  have hee : c.emin ≤ c.emax := by omega
  unfold specPack
  simp only [hm0, hm, Bool.true_and, decide_eq_true_eq]
  by_cases c3 : c.emax < E + δ + (ndigits d.coeff : Int) - 1
  · rw [setExponent_overflow c d res xs hE hx0 ha2 c3 hee hemin hz, if_pos (by omega)]
    obtain ⟨r1, r2, r3, r4, r5, r6, r7, r8, r9⟩ := hres
    refine ⟨?_, ?_, ?_⟩
    · simp [SpecOut.matches, seFinish]
    · simp [FlagsOK, SpecOut.underflow, seFinish, cOverflow, cInexact, r3, r4, r5, r6, r7, r8, r9]
    · simp [fits, seFinish]
  · rw [setExponent_normal c d res xs hE hx0 ha2 hadj (not_lt.1 c3) hemin, if_neg (by omega),
      seFinish_plain _ _ _ hres.2.2.1, Cond.or_self]
    refine ⟨?_, hres.flagsOK _ _ _ _, ?_⟩
    · simp [SpecOut.matches, hf]
    · simp [fits, hf]; omega

theorem setExponent_agrees_sub (c : Ctx) (hc : c.WF) (d : Dec) (hf : d.form = .finite) (res : Cond)
    (xs : List Int) (hns : NoSys (setExponent c d res xs).2) (hd0 : d.coeff ≠ 0)
    (hres : Quiet res) (r : Int) (hr : sumInts xs = r) (hadj : r + (ndigits d.coeff : Int) - 1 < c.emin) :
    (setExponent c d res xs).1.form = .finite ∧ c.etiny ≤ (setExponent c d res xs).1.exp ∧
    AgreesS c (specPack c.emax d.neg true c.etiny (roundAt c.mode d.neg d.coeff 1 r c.etiny))
      (setExponent c d res xs).1 (res ||| (setExponent c d res xs).2) := by
  subst hr
  obtain ⟨hp1, hpe, hemax, hemin, hemin0⟩ := hc
  obtain ⟨hx0, ha1, ha2⟩ := setExponent_noSys _ _ _ _ rfl hns
  obtain ⟨r1, r2, r3, r4, r5, r6, r7⟩ := hres
  have hz : d.isZero = false := by simp [Dec.isZero, hd0]
  have hpos := Nat.pos_of_ne_zero hd0
  have hnp := ndigits_pos d.coeff
  have het := c.etiny_eq
  by_cases c2 : sumInts xs < c.etiny
  · rw [setExponent_subnormal_round c d res xs rfl hx0 ha1 hadj (by omega) c2]
    -- fewer than `prec` digits are kept above Etiny, so the coefficient fits even after adding one
    have hndr : ndigits (roundAt c.mode d.neg d.coeff 1 (sumInts xs) c.etiny).1 ≤ c.prec := by
      rw [roundAt_dec _ _ _ _ _ c2.le]; exact ndigits_roundQuot_le _ _ _ _ _ hp1 (by omega)
    generalize roundAt c.mode d.neg d.coeff 1 (sumInts xs) c.etiny = ra at hndr ⊢
    obtain ⟨m, ix⟩ := ra
    have hndr : ndigits m ≤ c.prec := hndr
    have hpk : specPack c.emax d.neg true c.etiny (m, ix) =
        { neg := d.neg, m := m, q := c.etiny, inexact := ix, subnormal := true } :=
      if_neg (by simp only [Bool.and_eq_true, decide_eq_true_eq, not_and]; intro _; omega)
    rw [hpk]
    simp only [hz]
    refine ⟨hf, Int.le_refl _, ?_, ?_, ?_⟩
    · simp [SpecOut.matches, seFinish, hf]
    · by_cases hm : m = 0 <;> cases ix <;>
        simp [FlagsOK, SpecOut.underflow, seFinish, hm, cSubnormal, cInexact, cClamped, cRounded, cUnderflow,
          r1, r2, r3, r4, r5, r6, r7]
    · simp [fits, seFinish, hf]; omega
  · rw [setExponent_subnormal_exact c d res xs rfl hx0 ha1 hadj (by omega) (not_lt.1 c2),
      roundAt_scale _ _ _ _ _ (not_lt.1 c2)]
    have hpk : specPack c.emax d.neg true c.etiny (d.coeff * 10 ^ (sumInts xs - c.etiny).toNat, false) =
        { neg := d.neg, m := d.coeff * 10 ^ (sumInts xs - c.etiny).toNat, q := c.etiny, inexact := false,
          subnormal := true } :=
      if_neg (by
        simp only [ndigits_mul_pow _ _ hpos, Bool.and_eq_true, decide_eq_true_eq, not_and]; intro _; omega)
    rw [hpk]
    simp only [hz]
    refine ⟨hf, not_lt.1 c2, ?_, ?_, ?_⟩
    · simp [SpecOut.matches, seFinish, hf, not_lt.1 c2]
    · simp [FlagsOK, SpecOut.underflow, seFinish, cSubnormal, r1, r2, r3, r4, r5, r6, r7]
    · simp [fits, seFinish, hf]; omega

theorem setExponent_zero (c : Ctx) (d : Dec) (res : Cond) (xs : List Int)
    (hf : d.form = .finite) (h0 : d.coeff = 0) (hb : Benign res)
    (hns : NoSys (setExponent c d res xs).2) :
    (setExponent c d res xs).1.form = .finite ∧ (setExponent c d res xs).1.coeff = 0 ∧
    (setExponent c d res xs).1.neg = d.neg ∧ Benign (setExponent c d res xs).2 ∧
    (1 ≤ c.prec → c.emin ≤ c.emax → (setExponent c d res xs).1.exp ≤ c.emax) := by
  obtain ⟨k1, k2, k3⟩ := setExponent_noSys _ _ _ _ rfl hns
  have hz : d.isZero = true := by simp [Dec.isZero, hf, h0]
  obtain ⟨b1, b2, b3, b4, b5, b6, b7, b8⟩ := hb
  unfold setExponent
  rw [k1]
  simp only [MaxExponent, MinExponent]
  rw [if_neg (by omega), if_neg (by omega)]
  simp only [hz, h0, ndigits_zero, Nat.zero_mod, Nat.zero_div, bne_self_eq_false, Bool.false_and,
    Bool.not_true, Bool.false_eq_true, if_false, beq_self_eq_true, if_true]
  split_ifs <;> simp [Benign, seFinish, cClamped, cRounded, *] <;> omega

theorem matches_zero (neg : Bool) (q : Int) (d : Dec) (hf : d.form = .finite) (h0 : d.coeff = 0) (hn : d.neg = neg) :
    SpecOut.matches { neg := neg, m := 0, q := q } d = true := by
  simp [SpecOut.matches, hf, h0, hn]

/-- an exact zero: every fitting finite zero of the right sign agrees, whatever its exponent -/
theorem agrees_zero (c : Ctx) (v : Exact) (hv : v.num = 0) (d : Dec) (fl : Cond)
    (hf : d.form = .finite) (h0 : d.coeff = 0) (hn : d.neg = v.neg) (hb : Benign fl)
    (hp : 1 ≤ c.prec) (he : d.exp ≤ c.emax) : Agrees c v d fl := by
  obtain ⟨b1, b2, b3, b4, b5, b6, b7, b8⟩ := hb
  unfold Agrees FlagsOK
  rw [specRound_of_zero c v hv]
  refine ⟨matches_zero _ _ _ hf h0 hn, ?_, ?_⟩
  · simp [SpecOut.underflow, *]
  · simp [fits, hf, h0, ndigits_zero]
    omega

theorem agrees_inf (c : Ctx) (ex : Exact) (s : SpecOut) (hs : specRound c ex = s) (d : Dec) (fl : Cond)
    (hform : d.form = .infinite) (hinf : s.inf = true) (hneg : d.neg = s.neg)
    (hin : fl.inexact = true) (hsin : s.inexact = true) (hsub : fl.subnormal = s.subnormal)
    (hu : fl.underflow = s.subnormal) (ho : fl.overflow = true) (hso : s.overflow = true)
    (hdiv : fl.divUndefined = false ∧ fl.divByZero = false ∧ fl.divImpossible = false ∧ fl.invalidOp = false) :
    Agrees c ex d fl := by
  unfold Agrees
  rw [hs]
  refine ⟨?_, ?_, ?_⟩
  · unfold SpecOut.matches
    simp [hform, hinf, hneg]
  · unfold FlagsOK SpecOut.underflow
    rw [hso, hsin]
    refine ⟨hin, hsub, by simpa using hu, ho, ?_, fun _ => hin, hdiv⟩
    intro _ h; rw [hform] at h; cases h
  · unfold fits
    simp [hform]

end Apd
