import ApdVerif.Model.TransLog
import ApdVerif.Lemmas.Flags
/-!
# The `ErrDecimal` machine: one step, the stopping rule, and every exit of its loops (core Lean only)

The state after a step has not failed exactly when the state before had not and the operation, run in the context the
state carries, reported no error and raised no trapped condition (`ED.step_ok_iff`); both directions of the loop proofs
are read off it.  `loopDone` is the stopping rule `loop.done` of loop.go, which `cbrtIter` and `lnHalley` share (its test
`Stop` in rationals: `stop_iff`, `Lemmas/DecRound.lean`).

One rule per loop of `Context.Cbrt`, listing every exit.  A loop of `Model/Trans.lean` leaves in one of three ways: the
fuel runs out (`none`), the test says stop / `loop.done` says yes (`.inr`), an `ErrDecimal` step failed or `loop.done`
reported an error (`.inl`).  For an invariant `I` that every non-failed round preserves, the rule says what is known at
EACH exit.  At the error exit `I` still holds in the state in which the failing step was taken: a proof that the call
returns shows that the operands of that step were in range, so that it did not fail.  At the `none` exit the round
counter has grown by the fuel: a proof of termination picks an invariant that bounds the counter.  At the normal exit a
proof about a call that returned reads `I` off.  Nothing here mentions arithmetic.

`lnSeries` and `lnHalley` of `Model/TransLog.lean` have one analysis each (`Lemmas/LnAccLoops.lean`), hence no rule: the
cases of the induction principle Lean derives from the definition are the exits of one round.

Last, the error that comes out is a real one: a failed `ErrDecimal` reports an error other than `none`
(`ED.errOf_ne_none`), and so does every `.inl` exit of the four loops (`*_inl_ne`).
-/
namespace Apd

namespace ED

theorem failed_false_iff (e : ED) : e.failed = false ↔ e.err = .none ∧ goError e.c.traps e.fl = .none := by
  unfold ED.failed; simp

theorem fresh_not_failed (nc : Ctx) : ({ c := nc } : ED).failed = false :=
  (failed_false_iff _).2 ⟨rfl, goError_noFlags _⟩

theorem failed_of_not_delivered {e : ED} (h : ¬ Delivered e.err) : e.failed = true := by
  unfold ED.failed
  have : e.err ≠ .none := fun e0 => h (Or.inl e0)
  simp [this]

theorem errOf_of_err_ne {e : ED} (h : e.err ≠ .none) : e.errOf = e.err := by
  unfold ED.errOf; simp [h]

theorem step_of_failed {e : ED} (h : e.failed = true) (cur : Dec) (op : Ctx → Out) : e.step cur op = (e, cur) := by
  unfold ED.step; rw [if_pos h]

theorem step_of_ok {e : ED} (h : e.failed = false) (cur : Dec) (op : Ctx → Out) :
    e.step cur op = ({ e with fl := e.fl ||| (op e.c).fl, err := (op e.c).err }, (op e.c).d) := by
  unfold ED.step; rw [if_neg (by simp [h])]

theorem step_c (e : ED) (cur : Dec) (op : Ctx → Out) : (e.step cur op).1.c = e.c := by
  unfold ED.step; split <;> rfl

theorem step_ok_iff (e : ED) (cur : Dec) (op : Ctx → Out) :
    (e.step cur op).1.failed = false ↔
      e.failed = false ∧ (op e.c).err = .none ∧ goError e.c.traps (op e.c).fl = .none := by
  cases hf : e.failed with
  | true => rw [step_of_failed hf, hf]; simp
  | false =>
    rw [step_of_ok hf, failed_false_iff]
    simp only [goError_or_none, true_and]
    exact ⟨fun h => ⟨h.1, h.2.2⟩, fun h => ⟨h.1, ((failed_false_iff e).1 hf).2, h.2⟩⟩

theorem step_val {e : ED} (h : e.failed = false) (cur : Dec) (op : Ctx → Out) : (e.step cur op).2 = (op e.c).d := by
  rw [step_of_ok h]

theorem step_back {e : ED} {cur : Dec} {op : Ctx → Out} (h : (e.step cur op).1.failed = false) :
    e.failed = false ∧ (op e.c).err = .none ∧ (e.step cur op).2 = (op e.c).d ∧ (e.step cur op).1.c = e.c :=
  have h' := (step_ok_iff e cur op).1 h
  ⟨h'.1, h'.2.1, step_val h'.1 cur op, step_c e cur op⟩

theorem step_back_at {cc : Ctx} {e : ED} (hc : e.c = cc) {cur : Dec} {op : Ctx → Out} {r : ED × Dec}
    (hr : e.step cur op = r) (h : r.1.failed = false) :
    e.failed = false ∧ (op cc).err = .none ∧ r.2 = (op cc).d ∧ r.1.c = cc := by
  subst hc hr; exact step_back h

theorem step_fw {e : ED} (cur : Dec) {op : Ctx → Out} (he : e.failed = false) (h1 : (op e.c).err = .none)
    (h2 : goError e.c.traps (op e.c).fl = .none) :
    (e.step cur op).1.failed = false ∧ (e.step cur op).2 = (op e.c).d ∧ (e.step cur op).1.c = e.c :=
  ⟨(step_ok_iff e cur op).2 ⟨he, h1, h2⟩, step_val he cur op, step_c e cur op⟩

theorem errOf_ne_none {e : ED} (hf : e.failed = true) : e.errOf ≠ .none := by
  unfold ED.failed at hf
  unfold ED.errOf
  by_cases h1 : (e.err != ErrKind.none) = true
  · simp only [h1, if_true]; simpa using h1
  · simp only [h1, if_false, Bool.false_eq_true]
    simp only [h1, Bool.false_or] at hf
    simpa using hf

end ED

/-- the test of `loop.done` on the (rounded) difference `δ` of the last two iterates: zero, or at most one unit of the
`prec`-th digit of the new iterate `z` in magnitude -/
def Stop (prec : Int) (z δ : Dec) : Prop :=
  (δ.sign == 0) = true ∨
    (if δ.sign < 0 then δ.negD else δ).cmp { coeff := 1, exp := -prec + (ndigits z.coeff : Int) + z.exp } ≤ 0

instance (prec : Int) (z δ : Dec) : Decidable (Stop prec z δ) := by unfold Stop; infer_instance

theorem loopDone_eq (c : Ctx) (prec : Int) (maxIter : Nat) (l : LoopSt) (z : Dec) :
    loopDone c prec maxIter l z =
      if (addOp c l.prevZ z true).err ≠ .none then .error (addOp c l.prevZ z true).err
      else if Stop prec z (addOp c l.prevZ z true).d then .done
      else if l.i + 1 = maxIter then .error .other else .continue { i := l.i + 1, prevZ := z } := by
  unfold loopDone Stop
  dsimp only
  generalize addOp c l.prevZ z true = o
  by_cases he : o.err = .none
  · simp only [he, bne_self_eq_false, Bool.false_eq_true, if_false, ne_eq, not_true_eq_false]
    by_cases h0 : (o.d.sign == 0) = true
    · simp only [h0, if_true, true_or]
    · simp only [h0, Bool.false_eq_true, if_false, false_or, beq_iff_eq]
  · simp [he]

theorem loopDone_exits (c : Ctx) (prec : Int) (maxIter : Nat) (l : LoopSt) (z : Dec) :
    match loopDone c prec maxIter l z with
    | .error e => e ≠ .none
    | .done => (addOp c l.prevZ z true).err = .none ∧ Stop prec z (addOp c l.prevZ z true).d
    | .continue l' => (addOp c l.prevZ z true).err = .none ∧ ¬ Stop prec z (addOp c l.prevZ z true).d ∧
        l' = { i := l.i + 1, prevZ := z } ∧ l.i + 1 ≠ maxIter := by
  rw [loopDone_eq]
  by_cases he : (addOp c l.prevZ z true).err = .none
  · rw [if_neg (not_not_intro he)]
    by_cases hs : Stop prec z (addOp c l.prevZ z true).d
    · rw [if_pos hs]; exact ⟨he, hs⟩
    · rw [if_neg hs]
      by_cases hm : l.i + 1 = maxIter
      · rw [if_pos hm]; exact fun h => ErrKind.noConfusion h
      · rw [if_neg hm]; exact ⟨he, hs, rfl, hm⟩
  · rw [if_pos he]; exact he

theorem loopDone_error_ne {c : Ctx} {prec : Int} {maxIter : Nat} {l : LoopSt} {z : Dec} {e : ErrKind}
    (hl : loopDone c prec maxIter l z = .error e) : e ≠ .none := by
  have := loopDone_exits c prec maxIter l z; rw [hl] at this; exact this

theorem loopDone_continue_spec (c : Ctx) (prec : Int) (maxIter : Nat) (l l' : LoopSt) (z : Dec)
    (h : loopDone c prec maxIter l z = .continue l') : l'.i = l.i + 1 ∧ l'.prevZ = z ∧ l.i + 1 ≠ maxIter := by
  have := loopDone_exits c prec maxIter l z; rw [h] at this
  obtain ⟨-, -, rfl, hm⟩ := this; exact ⟨rfl, rfl, hm⟩

namespace CbrtL

/-- The result is a variable `r`: with the loop itself under the `match`, using the rule at the model's fuel makes the
elaborator run the loop. -/
theorem scaleLoop_rule (test : Dec → Bool) (k : Dec) (I : ED → Dec → Nat → Prop)
    (hI : ∀ e z n, I e z n → test z = true → (e.step z (fun c => mulOp c z k)).1.failed = false →
      I (e.step z (fun c => mulOp c z k)).1 (e.step z (fun c => mulOp c z k)).2 (n + 1)) :
    ∀ (fuel : Nat) (e : ED) (z : Dec) (n : Nat) (r : Option (Sum ErrKind (ED × Dec × Nat))),
      scaleLoop test k fuel e z n = r → I e z n →
      match r with
      | none => ∃ e' z', I e' z' (n + fuel)
      | some (.inr (e', z', n')) => I e' z' n' ∧ test z' = false
      | some (.inl er) => ∃ e' z' n', I e' z' n' ∧ test z' = true ∧
          (e'.step z' (fun c => mulOp c z' k)).1.failed = true ∧
          er = (e'.step z' (fun c => mulOp c z' k)).1.errOf := by
  intro fuel
  induction fuel with
  | zero => intro e z n r hr h; subst hr; exact ⟨e, z, h⟩
  | succ fuel ih =>
    intro e z n r hr h
    subst hr
    rw [scaleLoop]
    by_cases ht : test z = true
    · rw [if_pos ht]
      by_cases hf : (e.step z (fun c => mulOp c z k)).1.failed = true
      · simp only [hf, if_true]
        exact ⟨e, z, n, h, ht, hf, rfl⟩
      · have hf' : (e.step z (fun c => mulOp c z k)).1.failed = false := by simpa using hf
        simp only [hf', Bool.false_eq_true, if_false]
        have := ih _ _ (n + 1) _ rfl (hI e z n h ht hf')
        rwa [show n + (fuel + 1) = n + 1 + fuel by omega]
    · rw [if_neg ht]
      exact ⟨h, by simpa using ht⟩

theorem mulN_failed (k : Dec) : ∀ (m : Nat) (e : ED) (z : Dec), e.failed = true → (mulN k m e z).1.failed = true := by
  intro m
  induction m with
  | zero => intro e z he; exact he
  | succ m ih => intro e z he; simp only [mulN]; rw [ED.step_of_failed he]; exact ih _ _ he

theorem mulN_rule (k : Dec) (I : ED → Dec → Nat → Prop)
    (hI : ∀ e z n, I e z n → (e.step z (fun c => mulOp c z k)).1.failed = false →
      I (e.step z (fun c => mulOp c z k)).1 (e.step z (fun c => mulOp c z k)).2 (n + 1)) :
    ∀ (m : Nat) (e : ED) (z : Dec) (n : Nat), I e z n →
      ((mulN k m e z).1.failed = false → I (mulN k m e z).1 (mulN k m e z).2 (n + m)) ∧
      ((mulN k m e z).1.failed = true → e.failed = false → ∃ e' z' n', I e' z' n' ∧ n' < n + m ∧
          (e'.step z' (fun c => mulOp c z' k)).1.failed = true) := by
  intro m
  induction m with
  | zero =>
    intro e z n h
    exact ⟨fun _ => h, fun h1 h2 => absurd h1 (by simp [mulN, h2])⟩
  | succ m ih =>
    intro e z n h
    simp only [mulN]
    by_cases hf : (e.step z (fun c => mulOp c z k)).1.failed = true
    · refine ⟨fun hnf => ?_, fun _ _ => ⟨e, z, n, h, by omega, hf⟩⟩
      rw [mulN_failed _ _ _ _ hf] at hnf; cases hnf
    · have hf' : (e.step z (fun c => mulOp c z k)).1.failed = false := by simpa using hf
      obtain ⟨a, b⟩ := ih _ _ (n + 1) (hI e z n h hf')
      rw [show n + (m + 1) = n + 1 + m by omega]
      exact ⟨a, fun h1 _ => b h1 hf'⟩

/-- the five steps of the body of `cbrtIter` (z², x/z², +z, +z, /3); tied to the model by `cbrtIter_succ`, a `rfl` -/
def round (ax : Dec) (e : ED) (z : Dec) : ED × Dec :=
  let r1 := e.step z (fun c => mulOp c z z)
  let r2 := r1.1.step r1.2 (fun c => quoOp c ax r1.2)
  let r3 := r2.1.step r2.2 (fun c => addOp c r2.2 z false)
  let r4 := r3.1.step r3.2 (fun c => addOp c r3.2 z false)
  r4.1.step r4.2 (fun c => quoOp c r4.2 decThree)

theorem cbrtIter_succ (c : Ctx) (prec : Int) (maxIter : Nat) (ax : Dec) (fuel : Nat) (e : ED) (z : Dec) (l : LoopSt) :
    cbrtIter c prec maxIter ax (fuel + 1) e z l =
      if (round ax e z).1.failed then some (.inl (round ax e z).1.errOf) else
      match loopDone c prec maxIter l (round ax e z).2 with
      | .error er => some (.inl er)
      | .done => some (.inr (round ax e z).2)
      | .continue l' => cbrtIter c prec maxIter ax fuel (round ax e z).1 (round ax e z).2 l' := rfl

theorem cbrtIter_rule (cc : Ctx) (prec : Int) (maxIter : Nat) (ax : Dec) (I : ED → Dec → LoopSt → Prop)
    (hI : ∀ e z l l', I e z l → (round ax e z).1.failed = false →
      loopDone cc prec maxIter l (round ax e z).2 = .continue l' → I (round ax e z).1 (round ax e z).2 l') :
    ∀ (fuel : Nat) (e : ED) (z : Dec) (l : LoopSt) (r : Option (Sum ErrKind Dec)),
      cbrtIter cc prec maxIter ax fuel e z l = r → I e z l →
      match r with
      | none => ∃ e' z' l', I e' z' l' ∧ l'.i = l.i + fuel
      | some (.inr zf) => ∃ e0 z0 l0, I e0 z0 l0 ∧ (round ax e0 z0).1.failed = false ∧ zf = (round ax e0 z0).2 ∧
          loopDone cc prec maxIter l0 zf = .done
      | some (.inl er) => ∃ e0 z0 l0, I e0 z0 l0 ∧
          (((round ax e0 z0).1.failed = true ∧ er = (round ax e0 z0).1.errOf) ∨
           ((round ax e0 z0).1.failed = false ∧ loopDone cc prec maxIter l0 (round ax e0 z0).2 = .error er)) := by
  intro fuel
  induction fuel with
  | zero => intro e z l r hr h; subst hr; exact ⟨e, z, l, h, rfl⟩
  | succ fuel ih =>
    intro e z l r hr h
    rw [cbrtIter_succ] at hr
    cases hf : (round ax e z).1.failed with
    | true => rw [hf, if_pos rfl] at hr; subst hr; exact ⟨e, z, l, h, Or.inl ⟨hf, rfl⟩⟩
    | false =>
      rw [hf, if_neg Bool.false_ne_true] at hr
      split at hr
      · rename_i er hd; subst hr; exact ⟨e, z, l, h, Or.inr ⟨hf, hd⟩⟩
      · rename_i hd; subst hr; exact ⟨e, z, l, h, hf, rfl, hd⟩
      · rename_i l' hd
        have hi := (loopDone_continue_spec _ _ _ _ _ _ hd).1
        have := ih _ _ l' r hr (hI e z l l' h hf hd)
        rwa [show l.i + (fuel + 1) = l'.i + fuel by omega]

end CbrtL

/-! ## one round of `intPowLoop`, for its exact (`Lemmas/C12Lemmas`) and its rounded (`Lemmas/ExpAccLoops`) analysis -/

namespace C12L

def pR1 (e : ED) (b : Nat) (z n : Dec) : ED × Dec :=
  if b % 2 == 1 then e.step z (fun c => mulOp c z n) else (e, z)
def pR2 (e : ED) (b : Nat) (z n : Dec) : ED × Dec :=
  if b / 2 > 0 then (pR1 e b z n).1.step n (fun c => mulOp c n n) else ((pR1 e b z n).1, n)

theorem intPowLoop_succ (fuel : Nat) (e : ED) (b : Nat) (z n : Dec) :
    intPowLoop (fuel + 1) e b z n =
      if b == 0 then (e, z) else
      if (pR2 e b z n).1.failed then ((pR2 e b z n).1, (pR1 e b z n).2)
      else intPowLoop fuel (pR2 e b z n).1 (b / 2) (pR1 e b z n).2 (pR2 e b z n).2 := rfl

end C12L

theorem scaleLoop_inl_ne (test : Dec → Bool) (k : Dec) (fuel : Nat) (e : ED) (z : Dec) (n : Nat) {er : ErrKind}
    (h : scaleLoop test k fuel e z n = some (.inl er)) : er ≠ .none := by
  obtain ⟨_, _, _, -, -, hf, rfl⟩ :=
    CbrtL.scaleLoop_rule test k (fun _ _ _ => True) (fun _ _ _ _ _ _ => trivial) fuel e z n _ h trivial
  exact ED.errOf_ne_none hf

theorem cbrtIter_inl_ne (c : Ctx) (prec : Int) (maxIter : Nat) (ax : Dec) (fuel : Nat) (e : ED) (z : Dec)
    (l : LoopSt) {er : ErrKind} (hi : cbrtIter c prec maxIter ax fuel e z l = some (.inl er)) : er ≠ .none := by
  obtain ⟨_, _, _, -, h⟩ :=
    CbrtL.cbrtIter_rule c prec maxIter ax (fun _ _ _ => True) (fun _ _ _ _ _ _ _ => trivial) fuel e z l _ hi trivial
  rcases h with ⟨hf, he⟩ | ⟨-, hd⟩
  · rw [he]; exact ED.errOf_ne_none hf
  · exact loopDone_error_ne hd

theorem lnSeries_inl_ne (eps tmp2 : Dec) (fuel n : Nat) (e : ED) (tmp1 tmp3 : Dec) {e' : ED} {er : ErrKind} :
    lnSeries eps tmp2 fuel n e tmp1 tmp3 = some (e', .inl er) → er ≠ .none := by
  fun_induction lnSeries eps tmp2 fuel n e tmp1 tmp3 <;> intro h
  case case2 hf =>
    simp only [Option.some.injEq, Prod.mk.injEq, Sum.inl.injEq] at h; rw [← h.2]; exact ED.errOf_ne_none hf
  case case4 ih => exact ih h
  all_goals simp at h

theorem lnHalley_inl_ne (nc : Ctx) (prec : Int) (maxIter : Nat) (z : Dec) (fuel : Nat) (e : ED) (tmp1 : Dec)
    (l : LoopSt) (tape : Tape) {e' : ED} {er : ErrKind} {tp : Tape} :
    lnHalley nc prec maxIter z fuel e tmp1 l tape = some (e', .inl er, tp) → er ≠ .none := by
  fun_induction lnHalley nc prec maxIter z fuel e tmp1 l tape <;> intro h
  case case3 hl =>
    simp only [Option.some.injEq, Prod.mk.injEq, Sum.inl.injEq] at h; rw [← h.2.1]; exact loopDone_error_ne hl
  case case5 hf =>
    simp only [Option.some.injEq, Prod.mk.injEq, Sum.inl.injEq] at h; rw [← h.2.1]; exact ED.errOf_ne_none hf
  case case6 ih => exact ih h
  all_goals simp at h

end Apd
