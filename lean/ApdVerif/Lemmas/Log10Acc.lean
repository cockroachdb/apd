import ApdVerif.Lemmas.LnAccPre
/-!
# `Log10` on the model: `Ln` at `P+2` digits (half-even, wide), one multiplication by the `1/ln 10` table at `P`
digits, final rounding

`1/ln 10` is certified without a second series: the two digit strings of const.go multiply to `1` within `10^-2997`
(`inv_product`, by evaluation), and `ln10_cert` is reused; that costs one digit (94, not 95).
-/
namespace Apd.LnAcc
open Apd.Oracle Apd.Props Apd.RatSpec Apd.ExpAcc

theorem inv_product :
    ln10Coeff * invLn10Coeff ≤ 10 ^ 6005 + 10 ^ 3008 ∧ 10 ^ 6005 ≤ ln10Coeff * invLn10Coeff + 10 ^ 3008 := by
  decide +kernel

theorem abs_scaled {a b e s : ℝ} (hs : 0 ≤ s) (h1 : a ≤ b + e) (h2 : b ≤ a + e) : |a * s - b * s| ≤ e * s := by
  rw [← sub_mul, abs_mul, abs_of_nonneg hs]
  exact mul_le_mul_of_nonneg_right (abs_sub_le_iff.2 ⟨by linarith only [h1], by linarith only [h2]⟩) hs

theorem inv_product_real :
    |((ln10Coeff : ℝ) * (10 : ℝ) ^ ln10Exp) * ((invLn10Coeff : ℝ) * (10 : ℝ) ^ invLn10Exp) - 1| ≤
      (10 : ℝ) ^ (-(2997 : ℤ)) := by
  obtain ⟨p1, p2⟩ := inv_product
  have hp1 : ((ln10Coeff * invLn10Coeff : ℕ) : ℝ) ≤ (10 : ℝ) ^ (6005 : ℕ) + (10 : ℝ) ^ (3008 : ℕ) := by exact_mod_cast p1
  have hp2 : (10 : ℝ) ^ (6005 : ℕ) ≤ ((ln10Coeff * invLn10Coeff : ℕ) : ℝ) + (10 : ℝ) ^ (3008 : ℕ) := by exact_mod_cast p2
  have hprod : ((ln10Coeff : ℝ) * (10 : ℝ) ^ ln10Exp) * ((invLn10Coeff : ℝ) * (10 : ℝ) ^ invLn10Exp) =
      ((ln10Coeff * invLn10Coeff : ℕ) : ℝ) * (10 : ℝ) ^ (-(6005 : ℤ)) := by
    unfold ln10Exp invLn10Exp
    push_cast
    rw [show (-(6005 : ℤ)) = -3010 + -2995 by norm_num, zpow_add₀ ten_ne]
    ring
  have hs : (0 : ℝ) < (10 : ℝ) ^ (-(6005 : ℤ)) := zpow_pos (by norm_num) _
  have e1 : (10 : ℝ) ^ (6005 : ℕ) * (10 : ℝ) ^ (-(6005 : ℤ)) = 1 := by
    rw [zpow_neg, zpow_ofNat]
    exact mul_inv_cancel₀ (pow_ne_zero _ ten_ne)
  have e2 : (10 : ℝ) ^ (3008 : ℕ) * (10 : ℝ) ^ (-(6005 : ℤ)) = (10 : ℝ) ^ (-(2997 : ℤ)) := by
    rw [← zpow_natCast (10 : ℝ) 3008, ← zpow_add₀ ten_ne]
    congr 1
  rw [hprod, ← e1, ← e2]
  exact abs_scaled hs.le hp1 hp2

theorem inv_iota_le_one : (invLn10Coeff : ℝ) * (10 : ℝ) ^ invLn10Exp ≤ 1 := by
  have : invLn10Coeff ≤ 10 ^ 2995 := by decide +kernel
  have h' : (invLn10Coeff : ℝ) ≤ (10 : ℝ) ^ (2995 : ℕ) := by exact_mod_cast this
  unfold invLn10Exp
  have e : (10 : ℝ) ^ (2995 : ℕ) * (10 : ℝ) ^ (-(2995 : ℤ)) = 1 := by
    rw [zpow_neg, zpow_ofNat]
    exact mul_inv_cancel₀ (pow_ne_zero _ ten_ne)
  have hs2 : (0 : ℝ) < (10 : ℝ) ^ (-(2995 : ℤ)) := zpow_pos (by norm_num) _
  exact (mul_le_mul_of_nonneg_right h' hs2.le).trans_eq e

theorem invLn10_cert : |(invLn10Coeff : ℝ) * (10 : ℝ) ^ invLn10Exp - 1 / Real.log 10| ≤ (10 : ℝ) ^ (-(94 : ℤ)) := by
  have hη := inv_product_real
  have hc := ln10_cert
  have hι1 := inv_iota_le_one
  obtain ⟨l1, l2⟩ := ln10_bounds
  have hι0 : 0 ≤ (invLn10Coeff : ℝ) * (10 : ℝ) ^ invLn10Exp := by positivity
  generalize (ln10Coeff : ℝ) * (10 : ℝ) ^ ln10Exp = Lh at hη hc
  generalize (invLn10Coeff : ℝ) * (10 : ℝ) ^ invLn10Exp = ι at hη hι1 hι0 ⊢
  have hlog : 0 < Real.log 10 := lt_of_lt_of_le (by norm_num) l1
  have id : ι - 1 / Real.log 10 = ((Lh * ι - 1) + ι * (Real.log 10 - Lh)) / Real.log 10 := by
    field_simp; ring
  rw [id, abs_div, abs_of_pos hlog, div_le_iff₀ hlog]
  have hc' : |Real.log 10 - Lh| ≤ (10 : ℝ) ^ (-(95 : ℤ)) := by rw [abs_sub_comm]; exact hc
  have h3 : |ι * (Real.log 10 - Lh)| ≤ (10 : ℝ) ^ (-(95 : ℤ)) := by
    rw [abs_mul, abs_of_nonneg hι0]
    calc ι * |Real.log 10 - Lh| ≤ 1 * (10 : ℝ) ^ (-(95 : ℤ)) := mul_le_mul hι1 hc' (abs_nonneg _) (by norm_num)
      _ = _ := one_mul _
  have h4 : (10 : ℝ) ^ (-(2997 : ℤ)) ≤ (10 : ℝ) ^ (-(95 : ℤ)) := zpow_le_zpow_right₀ (by norm_num) (by norm_num)
  have h5 : (10 : ℝ) ^ (-(94 : ℤ)) = 10 * (10 : ℝ) ^ (-(95 : ℤ)) := by
    rw [show (-(94 : ℤ)) = 1 + -(95 : ℤ) by norm_num, zpow_add₀ ten_ne]; norm_num
  have hp95 : (0 : ℝ) < (10 : ℝ) ^ (-(95 : ℤ)) := zpow_pos (by norm_num) _
  rw [h5]
  generalize (10 : ℝ) ^ (-(95 : ℤ)) = a95 at *
  generalize (10 : ℝ) ^ (-(2997 : ℤ)) = a2997 at *
  calc |Lh * ι - 1 + ι * (Real.log 10 - Lh)| ≤ |Lh * ι - 1| + |ι * (Real.log 10 - Lh)| := abs_add_le _ _
    _ ≤ 2 * a95 := by linarith only [hη, h3, h4]
    _ ≤ 10 * a95 * Real.log 10 := by linarith only [mul_le_mul_of_nonneg_left l1 hp95.le, hp95]

theorem inv_table8 : ∀ i < 8,
    let d := constAt invLn10Coeff invLn10Exp invLn10StrLen i
    d.form = .finite ∧ d.neg = false ∧ d.exp = invLn10Exp + ((2995 - 2 ^ i : Nat) : Int) ∧
    2 * (d.coeff * 10 ^ (2995 - 2 ^ i)) ≤ 2 * invLn10Coeff + 10 ^ (2995 - 2 ^ i) ∧
    2 * invLn10Coeff ≤ 2 * (d.coeff * 10 ^ (2995 - 2 ^ i)) + 10 ^ (2995 - 2 ^ i) := by
  decide +kernel

theorem invLn10At_eq (p : Nat) : invLn10At p = constAt invLn10Coeff invLn10Exp invLn10StrLen (constIdx p) := rfl

theorem invLn10At_near (p : Nat) (hp1 : 3 ≤ p) (hp : p ≤ 90) :
    (invLn10At p).form = .finite ∧ |rv (invLn10At p) - 1 / Real.log 10| ≤ 1001 / 10000 * uR p ∧
    43 / 100 ≤ rv (invLn10At p) ∧ rv (invLn10At p) ≤ 44 / 100 := by
  rw [invLn10At_eq]
  obtain ⟨hi8, hpi⟩ := constIdx_bounds p (by omega) (by omega)
  obtain ⟨hf, hn, he, hlo, hhi⟩ := inv_table8 (constIdx p) hi8
  have hpow : 2 ^ constIdx p ≤ 2 ^ 7 := Nat.pow_le_pow_right (by decide) (by omega)
  -- half a unit `10^(-2^i) ≤ 10^-p` of the entry, and `10^-94 ≤ 10^(-p-4)` of the digit string
  have hnear' := table_near _ _ _ _ (-(p : ℤ)) (1 / Real.log 10) hn he hlo hhi (by unfold invLn10Exp; omega)
    (invLn10_cert.trans (zpow_le_zpow_right₀ (by norm_num) (by omega)))
  generalize constAt invLn10Coeff invLn10Exp invLn10StrLen (constIdx p) = d at hf hnear' ⊢
  have hnear : |rv d - 1 / Real.log 10| ≤ 1001 / 10000 * uR p := by
    have hu : uR p = 10 * (10 : ℝ) ^ (-(p : ℤ)) / 2 := by
      unfold uR; rw [sub_eq_add_neg, zpow_add₀ ten_ne, zpow_one]
    rw [hu]
    linarith only [hnear', zpow_pos (by norm_num : (0 : ℝ) < 10) (-(p : ℤ))]
  obtain ⟨l1, l2⟩ := ln10_bounds
  have hu1 := uR_small p hp1
  obtain ⟨n1, n2⟩ := abs_le.1 hnear
  have hinv1 : 433 / 1000 ≤ 1 / Real.log 10 := by
    rw [le_div_iff₀ (by linarith only [l1])]; linarith only [l2]
  have hinv2 : 1 / Real.log 10 ≤ 436 / 1000 := by
    rw [div_le_iff₀ (by linarith only [l1])]; linarith only [l1]
  exact ⟨hf, hnear, by linarith only [n1, hinv1, hu1], by linarith only [n2, hinv2, hu1]⟩

theorem agrees_abs (c : Ctx) (hP : 1 ≤ c.prec) (hm : c.mode = .halfEven) (ex : Exact) (d : Dec) (fl : Cond)
    (hn : 0 < ex.num) (hd : 0 < ex.den) (hA : Agrees c ex d fl) (hf : d.form = .finite)
    (hsub : fl.subnormal = false) :
    ∃ a : ℤ, (10 : ℚ) ^ a ≤ |ex.toRat| ∧ |ex.toRat| < (10 : ℚ) ^ (a + 1) ∧
      |d.toRat - ex.toRat| ≤ (10 : ℚ) ^ (a - (c.prec : ℤ) + 1) / 2 ∧ (10 : ℚ) ^ a ≤ |d.toRat| := by
  have ha := mag_isAdj ex hn hd
  have hq := quantum_of_not_subnormal c ex d fl hn hd hA hf hsub
  have herr := agrees_err c ex d fl (1 / 2) hn hd hA hf (Rat_roundInt_half_nearest c.mode (Or.inr (Or.inr hm)) ex.neg)
  rw [hq] at herr
  refine ⟨_, by rw [Exact.abs_toRat]; exact ha.1, by rw [Exact.abs_toRat]; exact ha.2, ?_,
    agrees_ge c ex d fl hP hn hd hA hf hq⟩
  rwa [div_eq_inv_mul, ← one_div]

theorem mul_abs (c : Ctx) (hw : Wide c) (hm : c.mode = .halfEven) (x y : Dec)
    (hx : x.form = .finite) (hy : y.form = .finite) (hx0 : rv x ≠ 0) (hy0 : rv y ≠ 0)
    (he : (mulOp c x y).err = .none) :
    (mulOp c x y).d.form = .finite ∧ ∃ a : ℤ, |rv x * rv y| < (10 : ℝ) ^ (a + 1) ∧
      |rv (mulOp c x y).d - rv x * rv y| ≤ (10 : ℝ) ^ (a - (c.prec : ℤ) + 1) / 2 ∧
      (10 : ℝ) ^ a ≤ |rv (mulOp c x y).d| := by
  obtain ⟨hf, hs⟩ := mulOp_wide c hw x y hx hy he
  refine ⟨hf, ?_⟩
  have hA := C01_mul c hw.wf x y hx hy (Or.inl he)
  have hxc : x.coeff ≠ 0 := fun h => hx0 ((rv_eq_zero_iff x).2 h)
  have hyc : y.coeff ≠ 0 := fun h => hy0 ((rv_eq_zero_iff y).2 h)
  have hn : 0 < (exactMul x y).num := Nat.mul_pos (Nat.pos_of_ne_zero hxc) (Nat.pos_of_ne_zero hyc)
  obtain ⟨a, -, h2, h3, h4⟩ := agrees_abs c hw.prec1 hm (exactMul x y) _ _ hn Nat.one_pos hA hf hs
  rw [Rat_exactMul_toRat] at h2 h3
  have c2 := (Rat.cast_lt (K := ℝ)).2 h2
  have c3 := (Rat.cast_le (K := ℝ)).2 h3
  have c4 := (Rat.cast_le (K := ℝ)).2 h4
  push_cast at c2 c3 c4
  exact ⟨a, c2, c3, c4⟩

theorem log10Nc_wide (c : Ctx) (h : c.prec + 2 ≤ 100000) : Wide (log10Nc c) :=
  ⟨rfl, rfl, by show 1 ≤ c.prec + 2; omega, by show ((c.prec + 2 : ℕ) : ℤ) ≤ 100000; omega⟩

/-- the relative size of the error of the inner `Ln` result, in units of `u₂ = uR (P+2)`:
`(200/199)·(1 + (N+5)/80)` rounded up (see `wide_result_real`) -/
noncomputable def lnRelE (u2 : ℝ) (N : Nat) : ℝ := u2 * (1031 / 1000 + 12564 / 1000000 * ((N : ℝ) + 5))

/-- the two extra digits of the inner `Ln` (`κ` and `a` are in units of `u₂/100`) leave the rounding `u₂` as the main
term -/
theorem wide_result_real (F l Λ a κ δr u2 : ℝ) (N : ℕ) (hu0 : 0 ≤ u2) (hu1 : u2 ≤ 1 / 200)
    (hκ : κ ≤ ((N : ℝ) + 5) / 16 * (20 * (u2 / 100))) (ha : a ≤ 9 / 100 * u2)
    (hFΛ : |F - Λ| ≤ a + κ * |F|) (hδr : |δr| ≤ u2) (hl : l = F * (1 + δr)) :
    |l - Λ| ≤ lnRelE u2 N * |l| + 9 / 100 * u2 := by
  -- a negative `κ` is no better than `0`
  have h := self_rel_round (le_max_right κ 0) hu0 (hu1.trans_lt (by norm_num)) hδr hl
    (hFΛ.trans (add_le_add le_rfl (mul_le_mul_of_nonneg_right (le_max_left κ 0) (abs_nonneg F))))
  have hκ' : max κ 0 ≤ ((N : ℝ) + 5) / 16 * (20 * (u2 / 100)) := max_le hκ (by positivity)
  -- `1 - u₂ ≥ 199/200`
  have hc : (max κ 0 + u2) / (1 - u2) ≤ lnRelE u2 N := by
    have hN : (0 : ℝ) ≤ N := by positivity
    have h1 := mul_le_mul_of_nonneg_left (show 199 / 200 ≤ 1 - u2 by linarith only [hu1])
      (show 0 ≤ lnRelE u2 N from mul_nonneg hu0 (by positivity))
    rw [div_le_iff₀ (by linarith only [hu1])]
    unfold lnRelE at h1 ⊢
    linarith only [h1, hκ', hu0, mul_nonneg hN hu0]
  linarith only [h, ha, mul_le_mul_of_nonneg_right hc (abs_nonneg l)]

theorem wide_round (nc : Ctx) (hw : Wide nc) (hm : nc.mode = .halfEven) (hp3 : 3 ≤ nc.prec) (F : Dec)
    (hFf : F.form = .finite) (hns : NoSys (ctxRound nc F).2) (Λ a κ : ℝ) (N : ℕ)
    (hκ : κ ≤ ((N : ℝ) + 5) / 16 * (20 * (uR nc.prec / 100))) (ha : a ≤ 9 / 100 * uR nc.prec)
    (hFΛ : |rv F - Λ| ≤ a + κ * |rv F|) :
    (ctxRound nc F).1.form = .finite ∧
      |rv (ctxRound nc F).1 - Λ| ≤ lnRelE (uR nc.prec) N * |rv (ctxRound nc F).1| + 9 / 100 * uR nc.prec := by
  obtain ⟨rf, δr, hδr, hv⟩ := round_rel nc hw hm F hFf hns
  exact ⟨rf, wide_result_real _ _ Λ a κ δr _ N (uR_pos _).le (uR_small _ hp3) hκ ha hFΛ hδr hv⟩

theorem ln_wide_result (c : Ctx) (hc1 : 1 ≤ c.prec) (hp : c.prec + 4 ≤ 90) (x : Dec) (tape tp : Tape) (l : Out)
    (hok : LnTapeOK (log10Nc c) x tape = true) (hsp : logSpecials (log10Nc c) x = none)
    (hl : lnT (log10Nc c) x tape = some (l, tp)) (he : l.err = .none) :
    l.d.form = .finite ∧
      |rv l.d - Real.log (rv x)| ≤ lnRelE (uR (c.prec + 2)) (lnTermsN (log10Nc c) x) * |rv l.d| +
        9 / 100 * uR (c.prec + 2) := by
  have hw := log10Nc_wide c (by omega)
  have hp3 : 3 ≤ (log10Nc c).prec := by show 3 ≤ c.prec + 2; omega
  have hu4 : uR ((log10Nc c).prec + 2) = uR (c.prec + 2) / 100 := uR_add_two (c.prec + 2)
  have hu0 := (uR_pos (c.prec + 2)).le
  by_cases hser : (lnA1 (log10Nc c) x).2.absD.cmp lnTenth ≤ 0 ∨ (lnA3 (log10Nc c) x).2.absD.cmp lnTenth ≤ 0
  · obtain ⟨F, Ff, hod, hns, hFΛ⟩ := ln_sum_series (log10Nc c) x tape tp l hok hsp hser hl (Or.inl he)
    rw [hu4] at hFΛ
    rw [hod]
    exact wide_round (log10Nc c) hw rfl hp3 F Ff hns _ 0 _ _ le_rfl (by positivity) (by rw [zero_add]; exact hFΛ)
  · rw [not_or] at hser
    have hu4s : uR ((log10Nc c).prec + 2) ≤ 1 / 200 := uR_small _ (by omega)
    obtain ⟨F, Ff, hod, hns, hFΛ⟩ := ln_sum_halley (log10Nc c) x tape tp l hok hsp hser.1 hser.2 hl (Or.inl he)
      (19125 / 10000) 9 ((xi_le _ _ (uR_pos _).le hu4s).trans (by norm_num)) (by norm_num) (by norm_num)
    have hN : lnTermsN (log10Nc c) x = 0 := by unfold lnTermsN; rw [if_neg hser.1, if_neg hser.2]
    rw [hu4] at hFΛ
    rw [hod, hN]
    exact wide_round (log10Nc c) hw rfl hp3 F Ff hns _ _ _ 0
      (by show _ ≤ (((0 : ℕ) : ℝ) + 5) / 16 * (20 * (uR (c.prec + 2) / 100)); push_cast; linarith only [hu0])
      (by show _ ≤ 9 / 100 * uR (c.prec + 2); linarith only [hu0]) hFΛ

theorem lnRelE_small (c : Ctx) (hc1 : 1 ≤ c.prec) (x : Dec) :
    lnRelE (uR (c.prec + 2)) (lnTermsN (log10Nc c) x) ≤ 7 / 1000 ∧
      0 ≤ lnRelE (uR (c.prec + 2)) (lnTermsN (log10Nc c) x) := by
  have hN : ((lnTermsN (log10Nc c) x : ℕ) : ℝ) ≤ ((c.prec + 2 + 11 : ℕ) : ℝ) + 2 := by
    exact_mod_cast lnTermsN_le (log10Nc c) x
  have hu0 := (uR_pos (c.prec + 2)).le
  have h1 := mul_le_mul_of_nonneg_right hN hu0
  unfold lnRelE
  exact ⟨by linarith only [h1, budget_u (c.prec + 2) (by omega), uR_small (c.prec + 2) (by omega)],
    mul_nonneg hu0 (by positivity)⟩

/-- `A = 10^(a-P+1)` is the unit of the last digit of the exact product `l·T`: `|l·T| < 10^(a+1)`, so
`|l·T|·u₂ ≤ A/20` (`hPA`) -/
theorem log10_product_real (Λ l T u2 A : ℝ) (N : ℕ) (hu0 : 0 ≤ u2) (hu1 : u2 ≤ 1 / 200)
    (hlb : |l - Λ| ≤ lnRelE u2 N * |l| + 9 / 100 * u2) (he1 : lnRelE u2 N ≤ 7 / 1000)
    (hT1 : 43 / 100 ≤ T) (hT2 : T ≤ 44 / 100) (hτ : |T - 1 / Real.log 10| ≤ 1001 / 10000 * u2)
    (hPA : |l * T| * u2 ≤ 1 / 20 * A) :
    |l * T - Λ / Real.log 10| ≤ (1 / 10 + ((N : ℝ) + 5) / 1500) * A + 1 / 25 * u2 := by
  have hl0 := abs_nonneg l
  have hT0 : 0 ≤ T := le_trans (by norm_num) hT1
  have hN0 : (0 : ℝ) ≤ N := by positivity
  have hY0 : 0 ≤ |l| * u2 := mul_nonneg hl0 hu0
  -- `|Λ| ≤ |l|(1+lnRelE) + b`, and the two parts of `T·l - (1/ln 10)·Λ` by `mul_err`
  have hΛ : |Λ| ≤ |l| + (lnRelE u2 N * |l| + 9 / 100 * u2) := by
    have := abs_sub_abs_le_abs_sub Λ l
    rw [abs_sub_comm] at this; linarith only [this, hlb]
  have tri := mul_err (ah := T) (bh := l) (a := 1 / Real.log 10) (b := Λ)
  rw [abs_of_nonneg hT0, mul_comm T l, one_div_mul_eq_div] at tri
  have h1 := mul_le_mul_of_nonneg_left hlb hT0
  have h2 := mul_le_mul hτ hΛ (abs_nonneg _) (by positivity)
  -- everything in terms of `Y = |l|·u₂`: `Y·T ≤ A/20`, `0.43·Y ≤ A/20`
  rw [abs_mul, abs_of_nonneg hT0] at hPA
  have hYT : |l| * u2 * T ≤ 1 / 20 * A := by linarith only [hPA]
  have hY : |l| * u2 * (43 / 100) ≤ |l| * u2 * T := mul_le_mul_of_nonneg_left hT1 hY0
  have e1 : lnRelE u2 N * |l| * T = (1031 / 1000 + 12564 / 1000000 * ((N : ℝ) + 5)) * (|l| * u2 * T) := by
    unfold lnRelE; ring
  have e2 := mul_le_mul_of_nonneg_left hYT (by positivity : (0 : ℝ) ≤ 1031 / 1000 + 12564 / 1000000 * ((N : ℝ) + 5))
  have e3 : lnRelE u2 N * |l| * (1001 / 10000 * u2) ≤ 7 / 1000 * |l| * (1001 / 10000 * u2) :=
    mul_le_mul_of_nonneg_right (mul_le_mul_of_nonneg_right he1 hl0) (by positivity)
  have e4 : 9 / 100 * u2 * T ≤ 9 / 100 * u2 * (44 / 100) := mul_le_mul_of_nonneg_left hT2 (by positivity)
  have e5 := mul_le_mul_of_nonneg_left hu1 hu0
  have hA0 : 0 ≤ A := by linarith only [hY, hYT, hY0]
  linarith only [tri, h1, h2, e1, e2, e3, e4, e5, hY, hYT, hu0, hA0, mul_nonneg hN0 hA0]

theorem log10Mc_wide (c : Ctx) (h1 : 1 ≤ c.prec) (h2 : c.prec ≤ 100000) : Wide (log10Mc c) :=
  ⟨rfl, rfl, h1, by show ((c.prec : ℕ) : ℤ) ≤ 100000; omega⟩

theorem log10T_run (c : Ctx) (x : Dec) (tape r' : Tape) (o : Out) (hsp : logSpecials c x = none)
    (h : log10T c x tape = some (o, r'))
    (hd : o.err = .none ∨ (o.err = .trap ∧ (o.fl &&& c.traps).any = true)) :
    ∃ (l : Out) (tp : Tape), lnT (log10Nc c) x tape = some (l, tp) ∧ l.err = .none ∧
      (mulOp (log10Mc c) l.d (invLn10At (c.prec + 2))).err = .none ∧
      o.d = (ctxRound c (mulOp (log10Mc c) l.d (invLn10At (c.prec + 2))).d).1 ∧
      NoSys (ctxRound c (mulOp (log10Mc c) l.d (invLn10At (c.prec + 2))).d).2 := by
  obtain ⟨hex, hns⟩ := (log10T_shape h).deliv hsp hd
  generalize o.d = d at hex ⊢
  generalize o.fl = fl at hex hns
  cases hex with
  | mk hl hle hme => exact ⟨_, _, hl, hle, hme, rfl, noSys_right _ _ hns⟩

theorem log10_main (c : Ctx) (hc : c.WF) (x : Dec) (tape r' : Tape) (o : Out)
    (hok : Log10TapeOK c x tape = true) (h : log10T c x tape = some (o, r'))
    (hd : o.err = .none ∨ (o.err = .trap ∧ (o.fl &&& c.traps).any = true)) (hf : o.d.form = .finite) :
    |rv o.d - Real.log (rv x) / Real.log 10| ≤
      (((rhoMode c.mode : ℚ) : ℝ) + 3 / 5 + ((lnTermsN (log10Nc c) x : ℕ) + 5 : ℝ) / 1500) *
        (10 : ℝ) ^ (ulpExp c o.d) + 1 / 25 * uR (c.prec + 2) := by
  unfold Log10TapeOK at hok
  simp only [Bool.and_eq_true, decide_eq_true_eq] at hok
  obtain ⟨⟨hP1, hP90⟩, hln⟩ := hok
  have hx := (lnTapeOK_parts _ x tape hln).1
  have hu0 := (uR_pos (c.prec + 2)).le
  cases hsp : logSpecials c x with
  | some o' =>
    obtain rfl := (log10T_shape h).of_some hsp
    obtain ⟨e1, e0⟩ := logSpecials_some c x hx o hsp hf
    have := rhoMode_nonneg c.mode
    rw [e1, e0, Real.log_one, zero_div, sub_zero, abs_zero]
    generalize lnTermsN (log10Nc c) x = N
    positivity
  | none =>
    obtain ⟨l, tp, hl, hlerr, hmerr, hod, hns⟩ := log10T_run c x tape r' o hsp h hd
    obtain ⟨lf, hlb⟩ := ln_wide_result c hP1 hP90 x tape tp l hln (logSpecials_none_indep c _ x hx hsp) hl hlerr
    obtain ⟨Tf, Tnear, T1, T2⟩ := invLn10At_near (c.prec + 2) (by omega) (by omega)
    have hw' := log10Mc_wide c hP1 (by omega)
    have he1s := (lnRelE_small c hP1 x).1
    obtain ⟨l1, _⟩ := ln10_bounds
    rw [hod] at hf ⊢
    generalize lnTermsN (log10Nc c) x = N at hlb he1s ⊢
    by_cases hl0 : rv l.d = 0
    · -- a zero logarithm (cannot happen, but costs nothing): the product is zero, `|ln x| ≤ 0.09u₂`
      obtain ⟨mf, δ, _, mv⟩ := mul_rel (log10Mc c) hw' rfl l.d (invLn10At (c.prec + 2)) lf Tf hmerr
      rw [hl0, zero_mul, zero_mul] at mv
      rw [hl0, abs_zero, mul_zero, zero_add, zero_sub, abs_neg] at hlb
      have hR : |Real.log (rv x) / Real.log 10| ≤ 1 / 25 * uR (c.prec + 2) := by
        rw [abs_div, abs_of_pos (lt_of_lt_of_le (by norm_num) l1), div_le_iff₀ (lt_of_lt_of_le (by norm_num) l1)]
        linarith only [hlb, mul_le_mul_of_nonneg_left l1 hu0, hu0]
      refine (round_final c hc _ mf _ (1 / 25 * uR (c.prec + 2)) 0
        (3 / 5 + ((N : ℕ) + 5 : ℝ) / 1500) le_rfl
        (by rw [zero_mul]; positivity) ?_ hns hf).trans_eq (by ring)
      rw [mv, zero_sub, abs_neg, abs_zero, mul_zero, add_zero]; exact hR
    · obtain ⟨mf, a, h2, h3, h4⟩ := mul_abs (log10Mc c) hw' rfl l.d (invLn10At (c.prec + 2)) lf Tf hl0
        (by linarith only [T1]) hmerr
      rw [show (log10Mc c).prec = c.prec from rfl] at h3
      generalize mulOp (log10Mc c) l.d (invLn10At (c.prec + 2)) = m at mf h3 h4 hns hf ⊢
      have hm0 : rv m.d ≠ 0 := fun h0 => by
        rw [h0, abs_zero] at h4
        exact absurd h4 (not_le.2 (zpow_pos (by norm_num) _))
      -- the unit `A = 10^(a-P+1)` of the product's last digit is at most that of `m`
      have hadj : a ≤ (ndigits m.d.coeff : ℤ) - 1 + m.d.exp := by
        have := C20L.exp_lt h4 (abs_rv_isAdj m.d (fun h0 => hm0 ((rv_eq_zero_iff _).2 h0))).2
        omega
      have hA := zpow_le_zpow_right₀ (by norm_num : (1 : ℝ) ≤ 10)
        (by omega : a - (c.prec : ℤ) + 1 ≤ (ndigits m.d.coeff : ℤ) - 1 + m.d.exp - (c.prec : ℤ) + 1)
      have hPA : |rv l.d * rv (invLn10At (c.prec + 2))| * uR (c.prec + 2) ≤
          1 / 20 * (10 : ℝ) ^ (a - (c.prec : ℤ) + 1) := by
        have e : (10 : ℝ) ^ (a + 1) * uR (c.prec + 2) = 1 / 20 * (10 : ℝ) ^ (a - (c.prec : ℤ) + 1) := by
          rw [show a + 1 = a - (c.prec : ℤ) + 1 + (c.prec : ℤ) by ring, zpow_add₀ ten_ne,
            zpow_natCast, mul_assoc, mul_comm _ (uR _), uR_pow]; ring
        exact (mul_le_mul_of_nonneg_right h2.le hu0).trans_eq e
      have hPy := log10_product_real _ _ _ _ _ N hu0 (uR_small _ (by omega)) hlb he1s T1 T2
        Tnear hPA
      refine (round_final_units c hc m.d mf hm0 _ (1 / 25 * uR (c.prec + 2))
        (3 / 5 + ((N : ℕ) + 5 : ℝ) / 1500) (by positivity) ?_ hns hf).trans_eq (by ring)
      have hκA := mul_le_mul_of_nonneg_left hA
        (by positivity : (0 : ℝ) ≤ 3 / 5 + ((N : ℕ) + 5 : ℝ) / 1500)
      linarith only [abs_sub_le (rv m.d) (rv l.d * rv (invLn10At (c.prec + 2))) (Real.log (rv x) / Real.log 10),
        h3, hPy, hκA]

end Apd.LnAcc
