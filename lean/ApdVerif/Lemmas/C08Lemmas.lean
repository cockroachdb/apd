import ApdVerif.Spec.Specials
import ApdVerif.Lemmas.RoundCoreLemmas
import ApdVerif.Lemmas.SqrtDefs
import ApdVerif.Lemmas.C15Lemmas
import ApdVerif.Lemmas.DispatchLemmas
/-!
# Special values: the table of `Spec/Specials.lean` against the prologues of the operations

The NaN rule is settled once (`nan_cases`). Past it an operand is finite or infinite, and each operation's
table is walked along its own conditions, which are those of the code up to the sign tests
(`sign_beq_neg`, `sign_beq_one`, `sign_neg_iff`, `cmp_decZero`) and, for Pow, the integrality tests (`pow_tests`).
-/
namespace Apd.C08L
open Apd Apd.Spec Cond

/-- the flag clauses of `Expect.meets` (`Spec/Specials.lean`) at an expectation that asks for no flag: `Benign`
(`clean_of_benign`) without Subnormal, which the table does not look at -/
def Clean (fl : Cond) : Prop :=
  fl.invalidOp = false ∧ fl.divByZero = false ∧ fl.divUndefined = false ∧ fl.divImpossible = false ∧
  fl.inexact = false ∧ fl.overflow = false ∧ fl.underflow = false

theorem clean_empty : Clean {} := ⟨rfl, rfl, rfl, rfl, rfl, rfl, rfl⟩

theorem clean_clamped : Clean cClamped := ⟨rfl, rfl, rfl, rfl, rfl, rfl, rfl⟩

theorem clean_of_benign {fl : Cond} (h : Benign fl) : Clean fl :=
  ⟨h.2.2.2.2.2.2.2, h.2.2.2.2.2.1, h.2.2.2.2.1, h.2.2.2.2.2.2.1, h.1, h.2.2.2.1, h.2.2.1⟩

theorem ctxRound_zero (c : Ctx) (n : Bool) (e : Int) (hns : NoSys (ctxRound c { neg := n, exp := e }).2) :
    ∃ e', (ctxRound c { neg := n, exp := e }).1 = { neg := n, exp := e' } ∧ Clean (ctxRound c { neg := n, exp := e }).2 := by
  -- with or without a precision, rounding a zero is `setExponent` on it
  have key : ∃ xs, ctxRound c { neg := n, exp := e } = setExponent c { neg := n, exp := e } {} xs := by
    by_cases hp : c.prec = 0
    · exact ⟨[e], ctxRound_prec0 c hp _ rfl⟩
    · rw [ctxRound_finite c _ rfl]
      exact ⟨[e, 0], roundX_short c _ true rfl (by omega) (by rw [ndigits_zero]; omega) (Or.inl rfl)⟩
  obtain ⟨xs, hk⟩ := key
  rw [hk] at hns ⊢
  obtain ⟨z1, z2, z3, z4, -⟩ := setExponent_zero c _ {} xs rfl rfl benign_empty hns
  generalize (setExponent c { neg := n, exp := e } {} xs).1 = d at z1 z2 z3
  obtain ⟨f, n', e', co⟩ := d
  exact ⟨e', by simp only at z1 z2 z3; rw [z1, z2, z3], clean_of_benign z4⟩

def Meets (e : Expect) (o : Out) : Prop := e.meets o.d o.fl = true

theorem meets_inf (n : Bool) (d : Dec) (fl : Cond) (hf : d.form = .infinite) (hn : d.neg = n) (hc : Clean fl) :
    (inf n).meets d fl = true := by
  obtain ⟨c1, c2, c3, c4, c5, c6, c7⟩ := hc
  simp [Expect.meets, inf, *]

theorem meets_zero (n : Bool) (e : Int) (fl : Cond) (hc : Clean fl) :
    (Spec.zero (some n)).meets { neg := n, exp := e } fl = true := by
  obtain ⟨c1, c2, c3, c4, c5, c6, c7⟩ := hc
  simp [Expect.meets, Spec.zero, *]

theorem Meets.of_inf {d : Dec} {n : Bool} (hf : (d.form == .infinite) = true) (hn : d.neg = n) :
    Meets (inf n) { d := d } :=
  meets_inf _ _ _ (eq_of_beq hf) hn clean_empty

theorem Meets.of_decInf (n : Bool) : Meets (inf n) { d := { decInf with neg := n } } :=
  meets_inf _ _ _ rfl rfl clean_empty

theorem Meets.of_invalid (c : Ctx) : Meets Spec.invalid (invalidNaN c) := by
  simp [Meets, Expect.meets, Spec.invalid, invalidNaN, decNaN, cInvalidOp]

theorem Meets.of_one (b : Bool) : Meets { Spec.one with neg := some b } { d := { decOne with neg := b } } := by
  cases b <;> rfl

theorem Meets.of_invalid_nan (b : Bool) (er : ErrKind) :
    Meets Spec.invalid { d := { decNaN with neg := b }, fl := cInvalidOp, err := er } := by
  cases b <;> rfl

theorem form_beq (a b : Form) : (a == b) = decide (a = b) := by cases a <;> cases b <;> rfl

/-- a one-shot closer for a table hypothesis `h`: split its `if`s, identify `e`, evaluate the model by `simp_all` -/
macro "c08_fin" h:ident : tactic => `(tactic| (
  (repeat' split at $h:ident) <;> (try simp at $h:ident) <;>
  (first | subst $h:ident | (obtain ⟨_, hq⟩ := $h:ident; subst hq) | (obtain ⟨_, _, hq⟩ := $h:ident; subst hq) | skip) <;>
  simp_all [Expect.meets, shouldSetAsNaN, setAsNaN, Dec.isNaN, Dec.isZero, Dec.sign, invalidNaN, decNaN, decInf,
    decZero, decOne, cInvalidOp, cDivUndefined, cDivByZero, cClamped, failWith, finish, form_beq]))

theorem nanRule_some {x : Dec} {yo : Option Dec} {e : Expect} (h : nanRule x yo = some e) (c : Ctx) :
    shouldSetAsNaN x yo = true ∧ Meets e (setAsNaN c x yo) := by
  obtain ⟨xf, xn, xe, xc⟩ := x
  cases yo with
  | none =>
    cases xf <;> simp [nanRule, nanOf] at h <;> subst h <;>
      simp [Meets, shouldSetAsNaN, setAsNaN, Dec.isNaN, Expect.meets, cInvalidOp]
  | some y =>
    obtain ⟨yf, yn, ye, yc⟩ := y
    cases xf <;> cases yf <;> simp [nanRule, nanOf] at h <;> subst h <;>
      simp [Meets, shouldSetAsNaN, setAsNaN, Dec.isNaN, Expect.meets, cInvalidOp]

theorem nanRule_none {x : Dec} {yo : Option Dec} (h : nanRule x yo = none) : shouldSetAsNaN x yo = false := by
  unfold shouldSetAsNaN Dec.isNaN
  cases yo <;> simp only [nanRule] at h <;> split_ifs at h with h1 h2 h3 h4
  · simpa using h1
  · simp [h1, h2, h3, h4]

theorem nan_cases {x : Dec} {yo : Option Dec} {tbl : Option Expect} {e : Expect} (c : Ctx)
    (h : (match nanRule x yo with | some e => some e | none => tbl) = some e) :
    (shouldSetAsNaN x yo = true ∧ Meets e (setAsNaN c x yo)) ∨ (shouldSetAsNaN x yo = false ∧ tbl = some e) := by
  cases hn : nanRule x yo with
  | some e' => rw [hn] at h; cases h; exact Or.inl (nanRule_some hn c)
  | none => rw [hn] at h; exact Or.inr ⟨nanRule_none hn, h⟩

theorem nan_prologue {c : Ctx} {x : Dec} {yo : Option Dec} {tbl : Option Expect} {e : Expect} {rest : Out}
    (h : (match nanRule x yo with | some e => some e | none => tbl) = some e)
    (hr : shouldSetAsNaN x yo = false → tbl = some e → Meets e rest) :
    Meets e (if shouldSetAsNaN x yo = true then setAsNaN c x yo else rest) := by
  rcases nan_cases c h with ⟨hn, hm⟩ | ⟨hn, ht⟩
  · rw [if_pos hn]; exact hm
  · rw [if_neg (ne_true_of_eq_false hn)]; exact hr hn ht

theorem nan_prologue' {c : Ctx} {x : Dec} {yo : Option Dec} {tbl : Option Expect} {e : Expect} {rest : Option Out}
    (h : (match nanRule x yo with | some e => some e | none => tbl) = some e)
    (hr : shouldSetAsNaN x yo = false → tbl = some e → ∃ o, rest = some o ∧ Meets e o) :
    ∃ o, (if shouldSetAsNaN x yo = true then some (setAsNaN c x yo) else rest) = some o ∧ Meets e o := by
  rcases nan_cases c h with ⟨hn, hm⟩ | ⟨hn, ht⟩
  · rw [if_pos hn]; exact ⟨_, rfl, hm⟩
  · rw [if_neg (ne_true_of_eq_false hn)]; exact hr hn ht

theorem notNaN_left {x : Dec} {yo : Option Dec} (h : shouldSetAsNaN x yo = false) : x.isNaN = false :=
  (Bool.or_eq_false_iff.1 h).1

theorem notNaN_right {x y : Dec} (h : shouldSetAsNaN x (some y) = false) : y.isNaN = false :=
  (Bool.or_eq_false_iff.1 h).2

theorem form_ne_finite {x : Dec} (h : x.isNaN = false) : (x.form != .finite) = (x.form == .infinite) := by
  revert h
  unfold Dec.isNaN
  cases x.form <;> decide

theorem form_finite {x : Dec} (hn : x.isNaN = false) (hx : (x.form == .infinite) = false) : x.form = .finite := by
  revert hn hx
  unfold Dec.isNaN
  cases x.form <;> decide

theorem isZero_of_inf {x : Dec} (h : (x.form == .infinite) = true) : x.isZero = false := by
  unfold Dec.isZero
  rw [eq_of_beq h]
  rfl

theorem isZero_eq (d : Dec) : Spec.isZero d = d.isZero := rfl

theorem Meets.of_round_inf (c : Ctx) {d : Dec} (hf : (d.form == .infinite) = true) :
    Meets (inf d.neg) (finish c (ctxRound c d)) := by
  rw [ctxRound_nonfinite c d (by rw [eq_of_beq hf]; decide)]
  exact meets_inf _ _ _ (eq_of_beq hf) rfl clean_empty

theorem Meets.of_round_zero (c : Ctx) {x : Dec} (hz : x.isZero = true) (e' : Int)
    (hd : Delivered (finish c (ctxRound c { x with exp := e' })).err) :
    Meets (Spec.zero (some x.neg)) (finish c (ctxRound c { x with exp := e' })) := by
  obtain ⟨f, n, e, co⟩ := x
  simp only [Dec.isZero, Bool.and_eq_true, beq_iff_eq] at hz
  obtain ⟨rfl, rfl⟩ := hz
  obtain ⟨e'', h1, h2⟩ := ctxRound_zero c n e' (noSys_of_delivered _ _ hd)
  unfold Meets finish
  rw [h1]
  exact meets_zero n e'' _ h2

theorem sign_beq_neg (x : Dec) : (x.sign == -1) = (!x.isZero && x.neg) := by
  unfold Dec.sign Dec.isZero
  cases (x.form == .finite && x.coeff == 0) <;> cases x.neg <;> rfl

theorem sign_beq_one (x : Dec) : (x.sign == 1) = (!x.isZero && !x.neg) := by
  unfold Dec.sign Dec.isZero
  cases (x.form == .finite && x.coeff == 0) <;> cases x.neg <;> rfl

theorem sign_neg_iff (x : Dec) : x.sign < 0 ↔ (!x.isZero && x.neg) = true := by
  unfold Dec.sign Dec.isZero
  cases (x.form == .finite && x.coeff == 0) <;> cases x.neg <;> decide

theorem sign_cases (x : Dec) : x.sign = 0 ∨ x.sign = -1 ∨ x.sign = 1 := by
  unfold Dec.sign
  split_ifs <;> simp

theorem cmp_decZero (x : Dec) : x.cmp decZero = x.sign := by
  unfold Dec.cmp
  rcases sign_cases x with h | h | h <;> rw [h] <;> rfl

theorem cmp_one (x : Dec) (hf : x.form = .finite) (hn : x.neg = false) : x.cmp decOne = cmpOne x := by
  rw [C15L.cmp_finite x decOne hf rfl]
  obtain ⟨f, n, e, co⟩ := x
  simp only at hf hn; subst hf hn
  unfold cmpOne signedScaled cmpInt decOne
  simp only [Bool.false_eq_true, if_false, Int.one_mul, Nat.one_mul]
  by_cases he : e ≥ 0
  · have h1 : min e 0 = 0 := by omega
    simp only [he, h1, if_true, Int.sub_zero, Int.toNat_zero, Nat.pow_zero, Nat.cast_one, beq_iff_eq]
    generalize co * 10 ^ e.toNat = A
    split_ifs <;> omega
  · have h1 : min e 0 = e := by omega
    have h2 : (0 - e).toNat = (-e).toNat := by congr 1; omega
    simp only [he, h1, if_false, Int.sub_self, Int.toNat_zero, Nat.pow_zero, Nat.mul_one, h2, beq_iff_eq]
    generalize 10 ^ (-e).toNat = P
    split_ifs <;> omega

/-- reduces `specials` at a literal operation name to the NaN rule followed by that operation's rows -/
macro "table_at " h:ident : tactic =>
  `(tactic| simp only [specials, List.contains_cons, List.contains_nil, String.reduceBEq, Bool.or_false, Bool.or_true,
      Bool.false_eq_true, if_false, if_true] at $h:ident)

/-- one step along a table: the values `hs` of the conditions just split on decide the `if`s of the table row `ht`
and of the code in the goal -/
macro "row " ht:ident " [" hs:Lean.Parser.Tactic.simpLemma,* "]" : tactic =>
  `(tactic| simp only [isInf, isZero_eq, $hs,*, if_true, if_false, Bool.false_eq_true, Bool.and_self, Bool.and_true,
      Bool.and_false, Bool.true_and, Bool.false_and, Bool.or_self, Bool.or_true, Bool.or_false, Bool.true_or,
      Bool.not_true, Bool.not_false, Option.some.injEq, reduceCtorEq] at $ht:ident ⊢)

theorem inf_row {c : Ctx} {x : Dec} {e e0 : Expect} {rest : Out}
    (h : (match nanRule x none with
      | some e => some e
      | none => if isInf x = true then some e0 else none) = some e)
    (hr : (x.form == .infinite) = true → Meets e0 rest) :
    Meets e (if shouldSetAsNaN x none = true then setAsNaN c x none else rest) := by
  refine nan_prologue h fun _ ht => ?_
  cases hx : (x.form == .infinite) <;> row ht [hx]
  subst ht
  exact hr hx

/-- Add and Sub with the second operand's sign as the operation sees it -/
theorem addsub_table (c : Ctx) (x y : Dec) (yn : Bool) (e : Expect) (rest : Out)
    (ht : (if (isInf x && isInf y) = true then if (x.neg != yn) = true then some invalid else some (inf x.neg)
      else if isInf x = true then some (inf x.neg) else if isInf y = true then some (inf yn) else none) = some e) :
    Meets e (if (x.form == .infinite || y.form == .infinite) = true then
        if (x.form == .infinite && y.form == .infinite && x.neg != yn) = true then invalidNaN c
        else if (x.form == .infinite) = true then { d := x } else { d := { decInf with neg := yn } }
      else rest) := by
  cases hx : (x.form == .infinite) <;> cases hy : (y.form == .infinite) <;> row ht [hx, hy]
  · subst ht; exact Meets.of_decInf _
  · subst ht; exact Meets.of_inf hx rfl
  · cases hs : (x.neg != yn) <;> row ht [hs] <;> subst ht
    · exact Meets.of_inf hx rfl
    · exact Meets.of_invalid c

theorem addsub_meets (c : Ctx) (x y : Dec) (e : Expect) (sub : Bool)
    (h : specials (if sub then "sub" else "add") x y = some e) : Meets e (addOp c x y sub) := by
  unfold addOp
  cases sub <;>
    table_at h <;>
    refine nan_prologue h fun _ ht => ?_ <;>
    simp only [Bool.bne_true, Bool.bne_false] <;>
    exact addsub_table c x y _ e _ ht

theorem upscale_cases (x y : Dec) :
    upscale x y = none ∨ ∃ s, upscale x y =
      some (x.coeff * 10 ^ (x.exp - min x.exp y.exp).toNat, y.coeff * 10 ^ (y.exp - min x.exp y.exp).toNat, s) := by
  unfold upscale
  by_cases h1 : x.exp = y.exp
  · right; refine ⟨x.exp, ?_⟩
    have hm : min x.exp y.exp = x.exp := by omega
    simp [h1]
  · by_cases h2 : x.exp < y.exp
    · have hm : min x.exp y.exp = x.exp := by omega
      have hb : (x.exp == y.exp) = false := by simpa using h1
      simp only [hb, h2, hm, if_true, Bool.false_eq_true, if_false, Int.sub_self, Int.toNat_zero, Nat.pow_zero,
        Nat.mul_one]
      split_ifs
      · left; rfl
      · right; exact ⟨_, rfl⟩
    · have hm : min x.exp y.exp = y.exp := by omega
      have hb : (x.exp == y.exp) = false := by simpa using h1
      simp only [hb, h2, hm, Bool.false_eq_true, if_false, Int.sub_self, Int.toNat_zero, Nat.pow_zero,
        Nat.mul_one]
      split_ifs
      · left; rfl
      · right; exact ⟨_, rfl⟩

theorem mul_meets (c : Ctx) (x y : Dec) (e : Expect) (h : specials "mul" x y = some e) : Meets e (mulOp c x y) := by
  table_at h
  unfold mulOp
  refine nan_prologue h fun _ ht => ?_
  cases hi : (x.form == .infinite || y.form == .infinite) <;> cases hz : (x.isZero || y.isZero) <;>
    row ht [hi, hz] <;> subst ht
  · exact Meets.of_decInf _
  · exact Meets.of_invalid c

theorem quoSpecials_table (c : Ctx) {x y : Dec} (b : Bool) {e : Expect}
    (h : (match nanRule x (some y) with
      | some e => some e
      | none =>
        if (isInf x && isInf y) = true then some invalid
        else if isInf x = true then some (inf (x.neg != y.neg))
        else if isInf y = true then some (zero (some (x.neg != y.neg)))
        else if isZero y = true then
          if isZero x = true then some { form := .nan, divUndefined := true }
          else some { form := .infinite, neg := some (x.neg != y.neg), divByZero := true }
        else none) = some e) :
    ∃ o, quoSpecials c x y b = some o ∧ Meets e o := by
  unfold quoSpecials
  refine nan_prologue' h fun hn ht => ?_
  cases hx : (x.form == .infinite) <;> cases hy : (y.form == .infinite) <;> row ht [hx, hy]
  · cases hzy : y.isZero <;> row ht [hzy]
    cases hzx : x.isZero <;> row ht [hzx] <;> subst ht
    · exact ⟨_, rfl, by simp [Meets, Expect.meets, decInf, cDivByZero]⟩
    · exact ⟨_, rfl, rfl⟩
  · subst ht
    cases b
    · exact ⟨_, rfl, meets_zero _ _ _ clean_empty⟩
    · exact ⟨_, rfl, meets_zero _ _ _ clean_clamped⟩
  · subst ht; exact ⟨_, rfl, Meets.of_decInf _⟩
  · subst ht; exact ⟨_, rfl, Meets.of_invalid c⟩

theorem quos_meets {c : Ctx} {x y : Dec} {e : Expect} (h : ∀ b, ∃ o, quoSpecials c x y b = some o ∧ Meets e o) :
    Meets e (quoOp c x y) ∧ Meets e (quoIntegerOp c x y) := by
  obtain ⟨o, ho, hm⟩ := h true
  obtain ⟨o', ho', hm'⟩ := h false
  unfold quoOp quoIntegerOp
  rw [ho, ho']
  exact ⟨hm, hm'⟩

theorem rem_meets (c : Ctx) (x y : Dec) (e : Expect) (h : specials "rem" x y = some e) : Meets e (remOp c x y) := by
  table_at h
  unfold remOp
  refine nan_prologue h fun hn ht => ?_
  rw [form_ne_finite (notNaN_left hn)]
  cases hx : (x.form == .infinite) <;> row ht [hx]
  · cases hy : (y.form == .infinite) <;> row ht [hy]
    cases hzy : y.isZero <;> row ht [hzy]
    cases hzx : x.isZero <;> row ht [hzx] <;> subst ht
    · exact Meets.of_invalid c
    · rfl
  · subst ht; exact Meets.of_invalid c

theorem cmp_meets (c : Ctx) (x y : Dec) (e : Expect) (h : specials "cmp" x y = some e) : Meets e (cmpOp c x y) := by
  table_at h
  unfold cmpOp
  exact nan_prologue h fun _ ht => nomatch ht

theorem quantize_meets (c : Ctx) (x y : Dec) (i : Int) (e : Expect) (h : specials "quantize" x y = some e) :
    Meets e (quantizeOp c x i) := by
  table_at h
  unfold quantizeOp
  refine inf_row h fun hx => ?_
  simp only [hx, Bool.true_or, if_true]
  exact Meets.of_invalid c

theorem abs_meets (c : Ctx) (x y : Dec) (e : Expect) (h : specials "abs" x y = some e) : Meets e (absOp c x) := by
  table_at h
  unfold absOp
  exact inf_row h (Meets.of_round_inf c (d := x.absD))

theorem neg_meets (c : Ctx) (x y : Dec) (e : Expect) (h : specials "neg" x y = some e) : Meets e (negOp c x) := by
  table_at h
  unfold negOp
  refine inf_row h fun hx => ?_
  unfold Dec.negD
  rw [isZero_of_inf hx, if_neg Bool.false_ne_true]
  exact Meets.of_round_inf c (d := { x with neg := !x.neg }) hx

theorem round_meets (c : Ctx) (x y : Dec) (e : Expect) (h : specials "round" x y = some e) : Meets e (roundOp c x) := by
  table_at h
  unfold roundOp
  exact inf_row h (Meets.of_round_inf c)

theorem reduce_meets (c : Ctx) (x y : Dec) (e : Expect) (h : specials "reduce" x y = some e) : Meets e (reduceOp c x) := by
  table_at h
  unfold reduceOp
  refine inf_row h fun hx => ?_
  have hf : x.form ≠ .finite := by rw [eq_of_beq hx]; decide
  have hr : reduceD x = (x, 0) := by unfold reduceD; rw [if_pos (by simpa using hf)]
  rw [ctxRound_nonfinite c x hf]
  simp only [hr]
  exact meets_inf _ _ _ (eq_of_beq hx) rfl clean_empty

theorem toIntegral_table (c : Ctx) {x : Dec} {e : Expect}
    (h : (match nanRule x none with
      | some e => some e
      | none => if isInf x = true then some (inf x.neg) else none) = some e) :
    ∃ o, toIntegralSpecials c x = some o ∧ Meets e o := by
  unfold toIntegralSpecials
  refine nan_prologue' h fun hn ht => ?_
  rw [form_ne_finite (notNaN_left hn)]
  cases hx : (x.form == .infinite) <;> row ht [hx]
  subst ht
  exact ⟨_, rfl, Meets.of_inf hx rfl⟩

theorem toIntegral_meets {c : Ctx} {x : Dec} {e : Expect} (h : ∃ o, toIntegralSpecials c x = some o ∧ Meets e o) :
    Meets e (roundToIntegralExactOp c x) ∧ Meets e (roundToIntegralValueOp c x) ∧ Meets e (ceilOp c x) ∧
      Meets e (floorOp c x) := by
  obtain ⟨o, ho, hm⟩ := h
  unfold roundToIntegralExactOp roundToIntegralValueOp ceilOp floorOp
  rw [ho]
  exact ⟨hm, hm, hm, hm⟩

theorem sqrt_table (c : Ctx) {x : Dec} {e : Expect}
    (h : (match nanRule x none with
      | some e => some e
      | none =>
        if isInf x = true then if x.neg = true then some invalid else some (inf false)
        else if isZero x = true then some (zero (some x.neg)) else if x.neg = true then some invalid else none) =
      some e) :
    ∃ o, rootSpecials c x 2 = some o ∧ (Delivered o.err → Meets e o) := by
  rcases nan_cases c h with ⟨hn, hm⟩ | ⟨hn, ht⟩
  · exact ⟨_, rootSpecials_nan c 2 hn, fun _ => hm⟩
  · cases hx : (x.form == .infinite)
    · cases hz : x.isZero
      · cases hneg : x.neg <;> row ht [hx, hz, hneg]
        subst ht
        exact ⟨_, by rw [rootSpecials_other c 2 hn hx hz, hneg]; rfl, fun _ => Meets.of_invalid c⟩
      · row ht [hx, hz]
        subst ht
        exact ⟨_, rootSpecials_zero c 2 hn hz, Meets.of_round_zero c hz _⟩
    · cases hneg : x.neg <;> row ht [hx, hneg] <;>
        subst ht <;> refine ⟨_, by rw [rootSpecials_inf c 2 hn hx, hneg], fun _ => ?_⟩
      · exact Meets.of_inf hx hneg
      · exact Meets.of_invalid c

theorem cbrt_table (c : Ctx) {x : Dec} {e : Expect}
    (h : (match nanRule x none with
      | some e => some e
      | none => if isInf x = true then some (inf x.neg) else if isZero x = true then some (zero (some x.neg)) else none) =
      some e) :
    ∃ o, rootSpecials c x 3 = some o ∧ (Delivered o.err → Meets e o) := by
  rcases nan_cases c h with ⟨hn, hm⟩ | ⟨hn, ht⟩
  · exact ⟨_, rootSpecials_nan c 3 hn, fun _ => hm⟩
  · cases hx : (x.form == .infinite)
    · cases hz : x.isZero <;> row ht [hx, hz]
      subst ht
      exact ⟨_, rootSpecials_zero c 3 hn hz, Meets.of_round_zero c hz _⟩
    · row ht [hx]
      subst ht
      exact ⟨_, rootSpecials_inf c 3 hn hx, fun _ => Meets.of_inf hx rfl⟩

theorem sqrt_meets (c : Ctx) (x y : Dec) (e : Expect) (h : specials "sqrt" x y = some e)
    (hd : Delivered (sqrtOp c x).err) : Meets e (sqrtOp c x) := by
  table_at h
  obtain ⟨o, ho, hm⟩ := sqrt_table c h
  unfold sqrtOp at hd ⊢
  rw [ho] at hd ⊢
  exact hm hd

theorem cbrt_meets (c : Ctx) (x y : Dec) (e : Expect) (h : specials "cbrt" x y = some e) :
    ∃ o, cbrtOp c x = some o ∧ (Delivered o.err → Meets e o) := by
  table_at h
  obtain ⟨o, ho, hm⟩ := cbrt_table c h
  unfold cbrtOp
  rw [ho]
  exact ⟨o, rfl, hm⟩

theorem exp_meets (c : Ctx) (x y : Dec) (e : Expect) (h : specials "exp" x y = some e) :
    ∃ o, expSpecials c x = some o ∧ Meets e o := by
  table_at h
  unfold expSpecials
  refine nan_prologue' h fun _ ht => ?_
  cases hx : (x.form == .infinite)
  · cases hz : x.isZero <;> row ht [hx, hz]
    subst ht
    exact ⟨_, rfl, rfl⟩
  · cases hneg : x.neg <;> row ht [hx, hneg] <;>
      subst ht
    · exact ⟨_, rfl, rfl⟩
    · exact ⟨_, rfl, rfl⟩

theorem log_meets (c : Ctx) (x y : Dec) (e : Expect) (b : Bool)
    (h : specials (if b then "ln" else "log10") x y = some e) :
    ∃ o, logSpecials c x = some o ∧ Meets e o := by
  have h' : (match nanRule x none with
      | some e => some e
      | none =>
        if isZero x = true then some (inf true) else if x.neg = true then some invalid
        else if isInf x = true then some (inf false)
        else if (cmpOne x == 0) = true then some (zero (some false)) else none) = some e := by
    cases b <;> table_at h <;> exact h
  unfold logSpecials
  refine nan_prologue' h' fun hn ht => ?_
  simp only [sign_neg_iff, cmp_decZero, sign_beq_zero]
  cases hx : (x.form == .infinite)
  · cases hz : x.isZero
    · cases hneg : x.neg <;> row ht [hx, hz, hneg]
      · rw [cmp_one x (form_finite (notNaN_left hn) hx) hneg]
        cases hc : (cmpOne x == 0) <;> row ht [hc]
        subst ht; exact ⟨_, rfl, rfl⟩
      · subst ht; exact ⟨_, rfl, Meets.of_invalid c⟩
    · row ht [hx, hz]
      subst ht; exact ⟨_, rfl, rfl⟩
  · cases hneg : x.neg <;> row ht [hx, isZero_of_inf hx, hneg] <;>
      subst ht
    · exact ⟨_, rfl, rfl⟩
    · exact ⟨_, rfl, Meets.of_invalid c⟩

theorem modf_facts (y : Dec) (hf : y.form = .finite) :
    (modf y).2.isZero = isInt y ∧
    isOddInt y = (isInt y && ((modf y).1.coeff % 2 == 1) && ((modf y).1.exp == 0)) := by
  obtain ⟨f, n, e, co⟩ := y
  simp only at hf; subst hf
  unfold modf isInt isOddInt Dec.isZero
  by_cases he : e > 0
  · have h1 : e ≥ 0 := by omega
    have h2 : ¬ e = 0 := by omega
    simp [he, h1, h2]
  · simp only [he, if_false]
    by_cases hnd : -e > (ndigits co : Int)
    · have hlt : co < 10 ^ (-e).toNat := lt_pow_of_ndigits_le co (-e).toNat (by omega)
      have h1 : ¬ e ≥ 0 := by have := ndigits_pos co; omega
      simp [hnd, h1, Nat.mod_eq_of_lt hlt, Nat.div_eq_of_lt hlt]
    · simp only [hnd, if_false]
      by_cases h0 : e = 0
      · subst h0; simp [Nat.mod_one]
      · have h1 : ¬ e ≥ 0 := by omega
        simp [h1]

/-- the code's parity and integrality tests on the exponent are the table's `isOddInt` and `isInt` -/
theorem pow_tests (x : Dec) {y : Dec} (hy : y.isNaN = false) :
    (x.neg && y.form == .finite && (modf y).2.isZero && (modf y).1.coeff % 2 == 1 && (modf y).1.exp == 0) =
      (x.neg && isOddInt y) ∧
    (y.form == .infinite || !(modf y).2.isZero) = (isInf y || !isInt y) := by
  cases hi : (y.form == .infinite)
  · have hf := form_finite hy hi
    obtain ⟨h1, h2⟩ := modf_facts y hf
    rw [h1, h2, hf]
    simp [isInf, hf, Bool.and_assoc]
  · have hff : (Form.infinite == Form.finite) = false := rfl
    simp [isInf, isOddInt, eq_of_beq hi, hff]

theorem pow_meets (c : Ctx) (x y : Dec) (e : Expect) (h : specials "pow" x y = some e) :
    ∃ o, powSpecials c x y = some o ∧ Meets e o := by
  table_at h
  unfold powSpecials
  refine nan_prologue' h fun hn ht => ?_
  obtain ⟨b1, b2⟩ := pow_tests x (notNaN_right hn)
  simp only [b1, b2, sign_beq_zero, sign_beq_one, sign_neg_iff]
  generalize (x.neg && isOddInt y) = n at ht ⊢
  cases hx : (x.form == .infinite)
  · cases hzx : x.isZero <;> cases hzy : y.isZero <;> row ht [hx, hzx, hzy]
    · cases hy : (y.form == .infinite) <;> row ht [hy]
      · rw [← (modf_facts y (form_finite (notNaN_right hn) hy)).1] at ht
        cases hneg : x.neg <;> cases hI : (modf y).2.isZero <;> row ht [hneg, hI, decide_true, decide_false]
        subst ht; exact ⟨_, rfl, Meets.of_invalid c⟩
      · cases hneg : x.neg <;> row ht [hneg]
        · rw [cmp_one x (form_finite (notNaN_left hn) hx) hneg]
          cases hc : (cmpOne x == 0) <;> cases hg : (decide (cmpOne x > 0) != y.neg) <;> row ht [hc, hg] <;>
            subst ht <;> exact ⟨_, rfl, rfl⟩
        · subst ht; exact ⟨_, rfl, Meets.of_invalid c⟩
    · subst ht; exact ⟨_, rfl, rfl⟩
    · cases hny : y.neg <;> row ht [hny] <;>
        subst ht
      · exact ⟨_, rfl, meets_zero n 0 _ clean_empty⟩
      · exact ⟨_, rfl, Meets.of_decInf n⟩
    · subst ht; exact ⟨_, rfl, Meets.of_invalid_nan n _⟩
  · row ht [hx, isZero_of_inf hx]
    cases hzy : y.isZero <;> row ht [hzy]
    · rcases Bool.eq_false_or_eq_true (x.neg && (y.form == .infinite || !isInt y)) with hc | hc <;> row ht [hc]
      · subst ht; exact ⟨_, rfl, Meets.of_invalid_nan n _⟩
      · cases hny : y.neg <;> row ht [hny] <;>
          subst ht
        · exact ⟨_, rfl, Meets.of_decInf n⟩
        · exact ⟨_, rfl, meets_zero n 0 _ clean_empty⟩
    · subst ht; exact ⟨_, rfl, Meets.of_one n⟩

theorem powIntOp_of_specials {c : Ctx} {x y : Dec} {o : Out} (h : powSpecials c x y = some o) :
    powIntOp c x y = some o := by
  simp [powIntOp, h]

end Apd.C08L
