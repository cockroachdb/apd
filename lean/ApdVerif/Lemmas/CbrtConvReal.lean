import ApdVerif.Lemmas.CbrtNewton
import Mathlib.Tactic.Ring
import Mathlib.Tactic.Linarith
import Mathlib.Tactic.NormNum
import Mathlib.Tactic.Positivity
import Mathlib.Tactic.FieldSimp
import Mathlib.Tactic.IntervalCases
/-!
# `Context.Cbrt` converges — the numerical core

The first iterate: scaling, Turkowski's quadratic estimate (within 3 % of `∛t` on `[0.1249, 1]`, `poly_bound`) and
scaling back are known up to a number of roundings (`Upto`), which gives its cube relative to the operand (`chain_cube`).
Near the root an exact Newton step from within `E ≤ 0.073` lands within `1.11·E²` above it and the five rounded operations
add `Θ` (`newton_step`), so the error follows `Ebound k = 0.07·10^(-k) + 0.3·t²`, and from round `P + 1` on two consecutive
iterates differ by less than the stopping threshold (`stop_ok`).  A first iterate far from the root (many scaling rounds,
`pow_block`) gets there in seven rounds through the intervals
`[0.24, 4.15] → [0.997, 5.963] → 3.995 → 2.692 → 1.846 → 1.332 → 1.079 → 1 ± 0.009` (`newton_wide`, `near_step`).
-/
namespace Apd.CbrtR

theorem pow_one_sub_ge (ε : ℚ) (K : ℕ) (h1 : ε ≤ 1) : 1 - K * ε ≤ (1 - ε) ^ K := by
  have := one_add_mul_le_pow (show (-2 : ℚ) ≤ -ε by linarith) K
  have e : (1 + -ε) = 1 - ε := by ring
  rw [e] at this
  linarith

theorem pow_one_add_le (ε β : ℚ) (K : ℕ) (h0 : 0 ≤ ε) (hβ : (K : ℚ) * ε ≤ β) (hβ1 : β < 1) :
    (1 + ε) ^ K ≤ 1 / (1 - β) := by
  have hb : 0 < 1 - β := by linarith
  rcases Nat.eq_zero_or_pos K with hK | hK
  · subst hK
    simp only [pow_zero]
    rw [le_div_iff₀ hb]
    simp at hβ
    linarith
  · have hK1 : (1 : ℚ) ≤ K := by exact_mod_cast hK
    have hε1 : ε ≤ β := by nlinarith
    have h1 := pow_one_sub_ge ε K (by linarith)
    have hpos : 0 < (1 - ε) ^ K := by apply pow_pos; linarith
    have hprod : (1 + ε) ^ K * (1 - ε) ^ K ≤ 1 := by
      rw [← mul_pow]
      apply pow_le_one₀
      · nlinarith
      · nlinarith
    rw [le_div_iff₀ hb]
    have h2 : 1 - β ≤ (1 - ε) ^ K := by linarith
    have h3 : 0 ≤ (1 + ε) ^ K := by positivity
    calc (1 + ε) ^ K * (1 - β) ≤ (1 + ε) ^ K * (1 - ε) ^ K := mul_le_mul_of_nonneg_left h2 h3
      _ ≤ 1 := hprod

theorem seven_pow (m : ℕ) : (10 : ℚ) ^ m ≤ (7 : ℚ) ^ (2 * m) := by
  rw [pow_mul]
  exact pow_le_pow_left₀ (by norm_num) (by norm_num) m

/-- a value that gains a factor 7 with each of `n` steps and stays within `m` decades has made fewer than `2m` steps,
since `7² > 10`: what bounds the rounds of a scaling loop of `Cbrt`, under the side condition (`CbrtC.down_count`,
`up_count`) and without it (`CbrtC.scaleLoop_total`) -/
theorem scale_count {lo hi : ℚ} {n m : ℕ} (hlo : 0 < lo) (h : lo * 7 ^ n ≤ hi) (hm : hi < lo * 10 ^ m) : n < 2 * m := by
  by_contra hc
  have h1 : (7 : ℚ) ^ (2 * m) ≤ 7 ^ n := pow_le_pow_right₀ (by norm_num) (by omega)
  have h2 := mul_le_mul_of_nonneg_left ((seven_pow m).trans h1) hlo.le
  linarith

/-- Turkowski's polynomial with the constants of `context.go` -/
def pc (t : ℚ) : ℚ := (-(46946116 / 100000000) * t + 1072302 / 1000000) * t + 3812513 / 10000000

theorem pc_mono (u v : ℚ) (huv : u ≤ v) (hv : v ≤ 1) : pc u ≤ pc v := by
  unfold pc
  nlinarith [mul_nonneg (sub_nonneg.2 huv) (sub_nonneg.2 hv)]

theorem pc_pos (t : ℚ) (h0 : 0 ≤ t) (h1 : t ≤ 1) : 0 < pc t := by
  unfold pc
  nlinarith [mul_nonneg h0 (sub_nonneg.2 h1)]

theorem poly_seg (u v t : ℚ) (hu : 0 ≤ u) (hut : u ≤ t) (htv : t ≤ v) (hv : v ≤ 1)
    (h1 : pc v ^ 3 ≤ (103 / 100) ^ 3 * u) (h2 : (97 / 100) ^ 3 * v ≤ pc u ^ 3) :
    (97 / 100) ^ 3 * t ≤ pc t ^ 3 ∧ pc t ^ 3 ≤ (103 / 100) ^ 3 * t := by
  have m1 := pc_mono u t hut (le_trans htv hv)
  have m2 := pc_mono t v htv hv
  have p1 := pc_pos u hu (le_trans hut (le_trans htv hv))
  have p2 := pc_pos t (le_trans hu hut) (le_trans htv hv)
  have c1 : pc u ^ 3 ≤ pc t ^ 3 := pow_le_pow_left₀ p1.le m1 3
  have c2 : pc t ^ 3 ≤ pc v ^ 3 := pow_le_pow_left₀ p2.le m2 3
  constructor
  · calc (97 / 100) ^ 3 * t ≤ (97 / 100) ^ 3 * v := mul_le_mul_of_nonneg_left htv (by norm_num)
      _ ≤ pc u ^ 3 := h2
      _ ≤ pc t ^ 3 := c1
  · calc pc t ^ 3 ≤ pc v ^ 3 := c2
      _ ≤ (103 / 100) ^ 3 * u := h1
      _ ≤ (103 / 100) ^ 3 * t := mul_le_mul_of_nonneg_left hut (by norm_num)

/-- the hypotheses of `poly_seg` along a list of break points that starts at `u` -/
def Segs : ℚ → List ℚ → Prop
  | _, [] => True
  | u, v :: l => u ≤ v ∧ v ≤ 1 ∧ pc v ^ 3 ≤ (103 / 100) ^ 3 * u ∧ (97 / 100) ^ 3 * v ≤ pc u ^ 3 ∧ Segs v l

theorem poly_segs : ∀ (l : List ℚ) (u v t : ℚ), Segs u (v :: l) → 0 ≤ u → u ≤ t → t ≤ (v :: l).getLastD 0 →
    (97 / 100) ^ 3 * t ≤ pc t ^ 3 ∧ pc t ^ 3 ≤ (103 / 100) ^ 3 * t
  | [], u, v, t, ⟨_, h2, h3, h4, _⟩, h0, hut, htv => poly_seg u v t h0 hut htv h2 h3 h4
  | w :: l, u, v, t, ⟨h1, h2, h3, h4, h5⟩, h0, hut, htv => by
    rcases le_total t v with h | h
    · exact poly_seg u v t h0 hut h h2 h3 h4
    · exact poly_segs l v w t h5 (h0.trans h1) h htv

/-- **the first estimate is within 3 % of the cube root** on `[0.1249, 1]` (on cubes): 36 pieces on each of which
the monotone `pc` is compared with the end points -/
theorem poly_bound (t : ℚ) (h0 : 1249 / 10000 ≤ t) (h1 : t ≤ 1) :
    (97 / 100) ^ 3 * t ≤ pc t ^ 3 ∧ pc t ^ 3 ≤ (103 / 100) ^ 3 * t :=
  poly_segs [713/5000, 157/1000, 853/5000, 457/2500, 97/500, 1023/5000, 537/2500, 2249/10000, 47/200, 1227/5000, 1281/5000, 2677/10000, 2801/10000, 367/1250, 3087/10000, 3259/10000, 1729/5000, 923/2500, 1987/5000, 4319/10000, 4653/10000, 621/1250, 2633/5000, 5549/10000, 5821/10000, 3043/5000, 127/200, 3309/5000, 6899/10000, 1801/2500, 472/625, 7979/10000, 4283/5000, 597/625, 1] (1249/10000) (661/5000) t (by norm_num [Segs, pc]) (by norm_num) h0 h1

/-- `d` is `v` up to `n` roundings of relative size `ε` -/
def Upto (ε : ℚ) (n : ℕ) (v d : ℚ) : Prop := v * (1 - ε) ^ n ≤ d ∧ d ≤ v * (1 + ε) ^ n

theorem rel_lo_hi {d v ε : ℚ} (hv : 0 < v) (h : |d - v| ≤ ε * |v|) : v * (1 - ε) ≤ d ∧ d ≤ v * (1 + ε) := by
  rw [abs_of_pos hv] at h
  obtain ⟨l, u⟩ := abs_le.mp h
  constructor <;> linarith

namespace Upto
variable {ε v d d' c : ℚ} {n m : ℕ}

theorem round (h : Upto ε n v d) (hε0 : 0 ≤ ε) (hε : ε ≤ 1) (l : d * (1 - ε) ≤ d') (u : d' ≤ d * (1 + ε)) :
    Upto ε (n + 1) v d' := by
  constructor
  · rw [pow_succ, ← mul_assoc]
    exact (mul_le_mul_of_nonneg_right h.1 (by linarith)).trans l
  · rw [pow_succ, ← mul_assoc]
    exact u.trans (mul_le_mul_of_nonneg_right h.2 (by linarith))

theorem round_abs (h : Upto ε n v d) (hε0 : 0 ≤ ε) (hε : ε ≤ 1) (hd : 0 < d) (h' : |d' - d| ≤ ε * |d|) :
    Upto ε (n + 1) v d' :=
  h.round hε0 hε (rel_lo_hi hd h').1 (rel_lo_hi hd h').2

theorem mul_right (h : Upto ε n v d) (hc : 0 ≤ c) : Upto ε n (v * c) (d * c) := by
  constructor
  · rw [mul_right_comm]; exact mul_le_mul_of_nonneg_right h.1 hc
  · rw [mul_right_comm]; exact mul_le_mul_of_nonneg_right h.2 hc

theorem add_right (h : Upto ε n v d) (hε0 : 0 ≤ ε) (hε : ε ≤ 1) (hc : 0 ≤ c) : Upto ε n (v + c) (d + c) := by
  have h1 : c * (1 - ε) ^ n ≤ c * 1 := mul_le_mul_of_nonneg_left (pow_le_one₀ (by linarith) (by linarith)) hc
  have h2 : c * 1 ≤ c * (1 + ε) ^ n := mul_le_mul_of_nonneg_left (one_le_pow₀ (by linarith)) hc
  constructor
  · rw [add_mul]; linarith [h.1]
  · rw [add_mul]; linarith [h.2]

theorem trans {e : ℚ} (h : Upto ε n v d) (h' : Upto ε m d e) (hε0 : 0 ≤ ε) (hε : ε ≤ 1) : Upto ε (n + m) v e := by
  constructor
  · rw [pow_add, ← mul_assoc]
    exact (mul_le_mul_of_nonneg_right h.1 (pow_nonneg (by linarith) m)).trans h'.1
  · rw [pow_add, ← mul_assoc]
    exact h'.2.trans (mul_le_mul_of_nonneg_right h.2 (pow_nonneg (by linarith) m))

theorem cube (h : Upto ε n v d) (hv : 0 ≤ v) (hε : ε ≤ 1) : Upto ε (3 * n) (v ^ 3) (d ^ 3) := by
  have h0 : 0 ≤ v * (1 - ε) ^ n := mul_nonneg hv (pow_nonneg (by linarith) n)
  constructor
  · rw [mul_comm 3, pow_mul, ← mul_pow]; exact pow_le_pow_left₀ h0 h.1 3
  · rw [mul_comm 3, pow_mul, ← mul_pow]; exact pow_le_pow_left₀ (h0.trans h.1) h.2 3

theorem start (ε s kq : ℚ) : Upto ε 0 (s * kq ^ 0) s := by simp [Upto]

theorem step {s kq : ℚ} (h : Upto ε n (s * kq ^ n) d) (hk : 0 ≤ kq) (hε0 : 0 ≤ ε) (hε : ε ≤ 1)
    (l : d * kq * (1 - ε) ≤ d') (u : d' ≤ d * kq * (1 + ε)) : Upto ε (n + 1) (s * kq ^ (n + 1)) d' := by
  rw [pow_succ, ← mul_assoc]; exact (h.mul_right hk).round hε0 hε l u

theorem chain_ge {y kq : ℚ} {j M : ℕ} (h : Upto ε j (y * kq ^ j) d) (hj : j ≤ M) (hy : 0 ≤ y) (hk0 : 0 ≤ kq)
    (hk1 : kq ≤ 1) (hε0 : 0 ≤ ε) (hε : ε ≤ 1) : y * kq ^ M * (1 - ε) ^ M ≤ d := by
  refine le_trans ?_ h.1
  rw [mul_assoc, mul_assoc, ← mul_pow, ← mul_pow]
  exact mul_le_mul_of_nonneg_left (pow_le_pow_of_le_one (mul_nonneg hk0 (by linarith))
    (mul_le_one₀ hk1 (by linarith) (by linarith)) hj) hy

theorem chain_le {y kq : ℚ} {j M : ℕ} (h : Upto ε j (y * kq ^ j) d) (hj : j ≤ M) (hy : 0 ≤ y) (hk1 : 1 ≤ kq)
    (hε0 : 0 ≤ ε) : d ≤ y * kq ^ M * (1 + ε) ^ M := by
  refine le_trans h.2 ?_
  rw [mul_assoc, mul_assoc, ← mul_pow, ← mul_pow]
  exact mul_le_mul_of_nonneg_left (pow_le_pow_right₀ (one_le_mul_of_one_le_of_one_le hk1 (by linarith)) hj) hy

theorem range {lo hi : ℚ} (h : Upto ε n v d) (hv : 0 ≤ v) (hlo : lo ≤ (1 - ε) ^ n) (hhi : (1 + ε) ^ n ≤ hi) :
    v * lo ≤ d ∧ d ≤ v * hi :=
  ⟨(mul_le_mul_of_nonneg_left hlo hv).trans h.1, h.2.trans (mul_le_mul_of_nonneg_left hhi hv)⟩

theorem near (h : Upto ε n v d) (hv : 0 ≤ v) (hn : n ≤ 4) (hε0 : 0 ≤ ε) (hε : ε ≤ 1 / 2000) :
    v * (998 / 1000) ≤ d ∧ d ≤ v * (1003 / 1000) := by
  have hn' : (n : ℚ) * ε ≤ 4 * (1 / 2000) := mul_le_mul (by exact_mod_cast hn) hε hε0 (by norm_num)
  have a1 := pow_one_sub_ge ε n (by linarith)
  have a2 := pow_one_add_le ε (2 / 1000) n hε0 (by linarith) (by norm_num)
  exact h.range hv (by linarith) (a2.trans (by norm_num))

end Upto

/-- the first operation `m1 ≈ z·c1` (a negative value) and the exact sum `m1 + c2`: since `|z·c1| ≤ z·c1 + c2` the
sum is `z·c1 + c2` up to one rounding -/
theorem est_m1 (z m1 ε : ℚ) (hz0 : 0 < z) (hz1 : z ≤ 1) (hε0 : 0 ≤ ε) (hε : ε ≤ 1 / 2000)
    (h1 : |m1 - z * -(46946116 / 100000000)| ≤ ε * |z * -(46946116 / 100000000)|) :
    -(47 / 100) ≤ m1 ∧ m1 ≤ -(46 / 100) * z ∧
    Upto ε 1 (z * -(46946116 / 100000000) + 1072302 / 1000000) (m1 + 1072302 / 1000000) := by
  rw [abs_of_neg (by linarith : z * -(46946116 / 100000000) < 0)] at h1
  obtain ⟨l1, u1⟩ := abs_le.mp h1
  have hεz : 0 ≤ ε * z := mul_nonneg hε0 hz0.le
  have hεz1 : ε * z ≤ ε := mul_le_of_le_one_right hε0 hz1
  have hεz2 : ε * z ≤ 1 / 2000 * z := mul_le_mul_of_nonneg_right hε hz0.le
  refine ⟨by linarith, by linarith, ?_, ?_⟩
  · rw [pow_one]; linarith
  · rw [pow_one]; linarith

theorem newton_step (a n w E Θ : ℝ) (hE : E ≤ 73 / 1000) (ha : |a - 1| ≤ E)
    (hn : 3 * a ^ 2 * n = 2 * a ^ 3 + 1) (hΘ : Θ ≤ 3 / 1000) (hw : |w - n| ≤ Θ * n) :
    |w - 1| ≤ 112 / 100 * E ^ 2 + Θ := by
  obtain ⟨a1, a2⟩ := abs_le.mp ha
  have ha0 : 0 < a := by linarith
  have hq : 2 * a + 1 ≤ 111 / 100 * (3 * a ^ 2) := by
    have ha' : 927 / 1000 ≤ a := by linarith
    nlinarith only [mul_le_mul_of_nonneg_right ha' ha0.le, ha']
  have hn1 := CbrtN.newton_ge_one ha0 hn
  have h7 : n - 1 ≤ 111 / 100 * E ^ 2 :=
    (CbrtN.newton_sub_one_le ha0 hn hq).trans (mul_le_mul_of_nonneg_left (sq_le_sq' a1 a2) (by norm_num))
  obtain ⟨w1, w2⟩ := abs_le.mp hw
  have hΘn : Θ * (n - 1) ≤ 3 / 1000 * (111 / 100 * E ^ 2) := mul_le_mul hΘ h7 hn1 (by norm_num)
  exact abs_le.mpr ⟨by linarith only [w1, hn1, hΘn, sq_nonneg E], by linarith only [w2, h7, hΘn, sq_nonneg E]⟩

/-- the bound on the relative error of the `k`-th iterate (`t = 10^(-P)`) -/
noncomputable def Ebound (k : ℕ) (t : ℝ) : ℝ := 7 / 100 * (1 / 10) ^ k + 3 / 10 * t ^ 2

theorem Ebound_le (k : ℕ) (t : ℝ) (ht0 : 0 ≤ t) (ht : t ≤ 1 / 10) : 0 ≤ Ebound k t ∧ Ebound k t ≤ 73 / 1000 := by
  unfold Ebound
  have h1 : (0 : ℝ) < (1 / 10) ^ k := by positivity
  have h2 : ((1 : ℝ) / 10) ^ k ≤ 1 := pow_le_one₀ (by norm_num) (by norm_num)
  have h3 : t ^ 2 ≤ (1 / 10) ^ 2 := pow_le_pow_left₀ ht0 ht 2
  have h4 : 0 ≤ t ^ 2 := sq_nonneg t
  constructor <;> linarith

theorem Ebound_step (k : ℕ) (t : ℝ) (ht0 : 0 ≤ t) (ht : t ≤ 1 / 10) :
    112 / 100 * Ebound k t ^ 2 + 251 / 1000 * t ^ 2 ≤ Ebound (k + 1) t := by
  obtain ⟨e0, e1⟩ := Ebound_le k t ht0 ht
  have hsq : Ebound k t ^ 2 ≤ 73 / 1000 * Ebound k t := by rw [sq]; exact mul_le_mul_of_nonneg_right e1 e0
  have e : Ebound (k + 1) t = 1 / 10 * Ebound k t + 27 / 100 * t ^ 2 := by unfold Ebound; rw [pow_succ]; ring
  rw [e]
  linarith [sq_nonneg t]

/-- **the stopping rule fires**: from round `P + 1` on, two consecutive iterates differ by less than a tenth of
`10^(-P)` times the new one (with room for the rounding of the difference) -/
theorem stop_ok (a w t s : ℝ) (ht0 : 0 < t) (ht : t ≤ 1 / 10) (hs0 : 0 ≤ s) (hs : s ≤ t / 10)
    (ha : |a - 1| ≤ 7 / 100 * s + 3 / 10 * t ^ 2) (hw : |w - 1| ≤ 7 / 100 * (s * (1 / 10)) + 3 / 10 * t ^ 2) :
    |a - w| * (2001 / 2000) ≤ w * (t / 10) := by
  obtain ⟨a1, a2⟩ := abs_le.mp ha
  obtain ⟨w1, w2⟩ := abs_le.mp hw
  have ht2 : t ^ 2 ≤ t / 10 := by
    rw [sq, div_eq_mul_inv]; exact mul_le_mul_of_nonneg_left (by linarith only [ht]) ht0.le
  have habs : |a - w| ≤ 7 / 100 * s + 7 / 100 * (s * (1 / 10)) + 6 / 10 * t ^ 2 :=
    abs_le.mpr ⟨by linarith only [a1, w2], by linarith only [a2, w1]⟩
  have hwt : (1 - 4 / 1000) * t ≤ w * t :=
    mul_le_mul_of_nonneg_right (by linarith only [w1, hs, ht2, ht, hs0]) ht0.le
  linarith only [habs, hwt, hs, ht2, hs0, ht0]

/-- scaling (`N` roundings, factor `S`), estimate (4 roundings), scaling back (`M` roundings, factor `T`, `T³·S = 1`):
the cube of the result is within `[0.97³·lo, 1.03³·hi]` of the operand, `lo ≤ (1-ε)^K`, `(1+ε)^K ≤ hi` for the
`K = N + 12 + 3M` roundings involved -/
theorem chain_cube (X z2 y w ε S T lo hi : ℚ) (N M : ℕ) (hX : 0 < X) (hT : 0 < T) (hST : T ^ 3 * S = 1)
    (hε0 : 0 ≤ ε) (hε : ε ≤ 1 / 2000)
    (hlo : lo ≤ (1 - ε) ^ (N + 12 + 3 * M)) (hhi : (1 + ε) ^ (N + 12 + 3 * M) ≤ hi)
    (h2 : Upto ε N (X * S) z2) (hz1 : 1249 / 10000 ≤ z2) (hz2 : z2 ≤ 1)
    (hy : Upto ε 4 (pc z2) y) (hw : Upto ε M (y * T) w) :
    (97 / 100) ^ 3 * lo * X ≤ w ^ 3 ∧ w ^ 3 ≤ (103 / 100) ^ 3 * hi * X := by
  obtain ⟨pb1, pb2⟩ := poly_bound z2 hz1 hz2
  have hε1 : ε ≤ 1 := by linarith
  have hpc := pc_pos z2 (by linarith) hz2
  have hT3 : 0 < T ^ 3 := by positivity
  -- `w³` is `(pc z2)³·T³` up to `12 + 3M` roundings, `(pc z2)³` is within 3 % of `z2`, `z2·T³` is `X` up to `N`
  have hw3 := (((hy.mul_right hT.le).trans hw hε0 hε1).cube (by positivity) hε1)
  have h2' := h2.mul_right hT3.le
  rw [mul_assoc, mul_comm S, hST, mul_one] at h2'
  have e : 3 * (4 + M) = 12 + 3 * M := by ring
  rw [mul_pow, e] at hw3
  have q1 : 0 ≤ (1 - ε) ^ (12 + 3 * M) := pow_nonneg (by linarith) _
  have q2 : 0 ≤ (1 + ε) ^ (12 + 3 * M) := pow_nonneg (by linarith) _
  constructor
  · calc (97 / 100) ^ 3 * lo * X ≤ (97 / 100) ^ 3 * (X * (1 - ε) ^ (N + 12 + 3 * M)) := by
          rw [mul_assoc, mul_comm lo]
          exact mul_le_mul_of_nonneg_left (mul_le_mul_of_nonneg_left hlo hX.le) (by norm_num)
      _ = (97 / 100) ^ 3 * (X * (1 - ε) ^ N) * (1 - ε) ^ (12 + 3 * M) := by rw [add_assoc, pow_add]; ring
      _ ≤ (97 / 100) ^ 3 * (z2 * T ^ 3) * (1 - ε) ^ (12 + 3 * M) :=
          mul_le_mul_of_nonneg_right (mul_le_mul_of_nonneg_left h2'.1 (by norm_num)) q1
      _ ≤ pc z2 ^ 3 * T ^ 3 * (1 - ε) ^ (12 + 3 * M) := by
          rw [← mul_assoc]
          exact mul_le_mul_of_nonneg_right (mul_le_mul_of_nonneg_right pb1 hT3.le) q1
      _ ≤ w ^ 3 := hw3.1
  · calc w ^ 3 ≤ pc z2 ^ 3 * T ^ 3 * (1 + ε) ^ (12 + 3 * M) := hw3.2
      _ ≤ (103 / 100) ^ 3 * (z2 * T ^ 3) * (1 + ε) ^ (12 + 3 * M) := by
          rw [← mul_assoc]
          exact mul_le_mul_of_nonneg_right (mul_le_mul_of_nonneg_right pb2 hT3.le) q2
      _ ≤ (103 / 100) ^ 3 * (X * (1 + ε) ^ N) * (1 + ε) ^ (12 + 3 * M) :=
          mul_le_mul_of_nonneg_right (mul_le_mul_of_nonneg_left h2'.2 (by norm_num)) q2
      _ = (103 / 100) ^ 3 * (X * (1 + ε) ^ (N + 12 + 3 * M)) := by rw [add_assoc, pow_add]; ring
      _ ≤ (103 / 100) ^ 3 * hi * X := by
          rw [mul_assoc, mul_comm hi]
          exact mul_le_mul_of_nonneg_left (mul_le_mul_of_nonneg_left hhi hX.le) (by norm_num)

/-- many roundings, in blocks: `K·ε ≤ 4` keeps `(1 ± ε)^K` within `[1/65, 65]` -/
theorem pow_block (ε : ℚ) (K : ℕ) (hε0 : 0 ≤ ε) (hε : ε ≤ 1 / 2000) (hK : (K : ℚ) * ε ≤ 4) :
    1 / 65 ≤ (1 - ε) ^ K ∧ (1 + ε) ^ K ≤ 65 := by
  obtain ⟨m, hm⟩ : ∃ m, m = K / 64 + 1 := ⟨_, rfl⟩
  have hKm : K ≤ 64 * m := by omega
  have hmε : (m : ℚ) * ε ≤ 63 / 1000 := by
    have h1 : ((K / 64 : ℕ) : ℚ) ≤ (K : ℚ) / 64 := by
      rw [le_div_iff₀ (by norm_num)]
      have : K / 64 * 64 ≤ K := Nat.div_mul_le_self K 64
      exact_mod_cast this
    have h2 : (m : ℚ) = ((K / 64 : ℕ) : ℚ) + 1 := by rw [hm]; push_cast; ring
    rw [h2]
    have h3 : ((K / 64 : ℕ) : ℚ) * ε ≤ (K : ℚ) / 64 * ε := mul_le_mul_of_nonneg_right h1 hε0
    linarith only [h3, hK, hε]
  have a1 := pow_one_sub_ge ε m (by linarith only [hε])
  have a2 := pow_one_add_le ε (63 / 1000) m hε0 hmε (by norm_num)
  have h1e : 0 ≤ 1 - ε := by linarith only [hε]
  constructor
  · have b1 : (1 - ε) ^ (64 * m) ≤ (1 - ε) ^ K := pow_le_pow_of_le_one h1e (by linarith only [hε0]) hKm
    have b2 : (937 / 1000 : ℚ) ^ 64 ≤ ((1 - ε) ^ m) ^ 64 := pow_le_pow_left₀ (by norm_num) (by linarith only [a1, hmε]) 64
    have b3 : ((1 - ε) ^ m) ^ 64 = (1 - ε) ^ (64 * m) := by rw [← pow_mul, mul_comm]
    have b4 : (1 / 65 : ℚ) ≤ (937 / 1000) ^ 64 := by norm_num
    linarith only [b1, b2, b3, b4]
  · have b1 : (1 + ε) ^ K ≤ (1 + ε) ^ (64 * m) := pow_le_pow_right₀ (by linarith only [hε0]) hKm
    have b2 : ((1 + ε) ^ m) ^ 64 ≤ (1 / (1 - 63 / 1000) : ℚ) ^ 64 := pow_le_pow_left₀ (by positivity) a2 64
    have b3 : ((1 + ε) ^ m) ^ 64 = (1 + ε) ^ (64 * m) := by rw [← pow_mul, mul_comm]
    have b4 : (1 / (1 - 63 / 1000) : ℚ) ^ 64 ≤ 65 := by norm_num
    linarith only [b1, b2, b3, b4]

theorem ratio_of_cube (z X : ℚ) (r : ℝ) (hr : 0 < r) (hr3 : (X : ℝ) = r ^ 3) (hz : 0 < z) (A B l u : ℚ)
    (h1 : A * X ≤ z ^ 3) (h2 : z ^ 3 ≤ B * X) (hl : l ^ 3 ≤ A) (hu0 : 0 ≤ u) (hu : B ≤ u ^ 3) :
    (l : ℝ) ≤ (z : ℝ) / r ∧ (z : ℝ) / r ≤ (u : ℝ) := by
  have hX : (0 : ℝ) < X := by rw [hr3]; positivity
  have hX' : (0 : ℚ) < X := by exact_mod_cast hX
  have hq0 : (0 : ℝ) ≤ (z : ℝ) / r := div_nonneg (by exact_mod_cast hz.le) hr.le
  have hq : ((z : ℝ) / r) ^ 3 = ((z ^ 3 / X : ℚ) : ℝ) := by push_cast; rw [div_pow, hr3]
  have k1 : l ^ 3 ≤ z ^ 3 / X := hl.trans ((le_div_iff₀ hX').2 h1)
  have k2 : z ^ 3 / X ≤ u ^ 3 := ((div_le_iff₀ hX').2 h2).trans hu
  constructor
  · refine le_of_pow_le_pow_left₀ (n := 3) (by norm_num) hq0 ?_
    rw [hq]; exact_mod_cast k1
  · refine le_of_pow_le_pow_left₀ (n := 3) (by norm_num) (by exact_mod_cast hu0) ?_
    rw [hq]; exact_mod_cast k2

theorem start_close (z X : ℚ) (r : ℝ) (hr : 0 < r) (hr3 : (X : ℝ) = r ^ 3) (hz : 0 < z)
    (h1 : (97 / 100) ^ 3 * (9 / 10) * X ≤ z ^ 3) (h2 : z ^ 3 ≤ (103 / 100) ^ 3 * (10 / 9) * X) :
    |(z : ℝ) / r - 1| ≤ 7 / 100 := by
  obtain ⟨l, u⟩ := ratio_of_cube z X r hr hr3 hz _ _ (93 / 100) (107 / 100) h1 h2 (by norm_num) (by norm_num)
    (by norm_num)
  push_cast at l u
  exact abs_le.mpr ⟨by linarith, by linarith⟩

theorem start_wide (z X : ℚ) (r : ℝ) (hr : 0 < r) (hr3 : (X : ℝ) = r ^ 3) (hz : 0 < z)
    (h1 : (97 / 100) ^ 3 * (1 / 65) * X ≤ z ^ 3) (h2 : z ^ 3 ≤ (103 / 100) ^ 3 * 65 * X) :
    24 / 100 ≤ (z : ℝ) / r ∧ (z : ℝ) / r ≤ 415 / 100 := by
  have := ratio_of_cube z X r hr hr3 hz _ _ (24 / 100) (415 / 100) h1 h2 (by norm_num) (by norm_num) (by norm_num)
  push_cast at this
  exact this

/-- `n ≤ V` holds between two points at which it holds (the map `a ↦ (2a³+1)/(3a²)` decreases up to the root and
increases after it): `g a = 3Va² - 2a³ - 1` has `g a - g L = (a-L)·(…) ≥ 0` for `L ≤ a ≤ V`, and likewise with `U` -/
theorem newton_le_between {a L U V : ℝ} (hL : 0 < L) (hLa : L ≤ a) (haU : a ≤ U)
    (hfL : 2 * L ^ 3 + 1 ≤ 3 * V * L ^ 2) (hfU : 2 * U ^ 3 + 1 ≤ 3 * V * U ^ 2) :
    2 * a ^ 3 + 1 ≤ 3 * V * a ^ 2 := by
  have ha0 : 0 < a := hL.trans_le hLa
  rcases le_total a V with h | h
  · have key : 0 ≤ (a - L) * (3 * V * (a + L) - 2 * (a ^ 2 + a * L + L ^ 2)) :=
      mul_nonneg (sub_nonneg.2 hLa) (by
        nlinarith only [mul_nonneg (sub_nonneg.2 h) ha0.le, mul_nonneg (sub_nonneg.2 h) hL.le,
          mul_nonneg (sub_nonneg.2 hLa) hL.le, mul_nonneg (sub_nonneg.2 hLa) ha0.le])
    linarith only [key, hfL]
  · have hU0 : 0 < U := ha0.trans_le haU
    have key : 0 ≤ (U - a) * (2 * (U ^ 2 + U * a + a ^ 2) - 3 * V * (U + a)) :=
      mul_nonneg (sub_nonneg.2 haU) (by
        nlinarith only [mul_nonneg (sub_nonneg.2 h) ha0.le, mul_nonneg (sub_nonneg.2 h) hU0.le,
          mul_nonneg (sub_nonneg.2 haU) hU0.le, mul_nonneg (sub_nonneg.2 haU) ha0.le])
    linarith only [key, hfU]

theorem newton_wide (a n w L U V Θ : ℝ) (hL : 0 < L) (hLa : L ≤ a) (haU : a ≤ U)
    (hfL : 2 * L ^ 3 + 1 ≤ 3 * V * L ^ 2) (hfU : 2 * U ^ 3 + 1 ≤ 3 * V * U ^ 2)
    (hn : 3 * a ^ 2 * n = 2 * a ^ 3 + 1) (hΘ0 : 0 ≤ Θ) (hΘ1 : Θ ≤ 1) (hw : |w - n| ≤ Θ * n) :
    (1 - Θ) ≤ w ∧ w ≤ V * (1 + Θ) := by
  have ha0 : 0 < a := hL.trans_le hLa
  have hn1 := CbrtN.newton_ge_one ha0 hn
  have hnV : n ≤ V :=
    le_of_mul_le_mul_left (hn.trans_le ((newton_le_between hL hLa haU hfL hfU).trans_eq (by ring)))
      (show 0 < 3 * a ^ 2 by positivity)
  obtain ⟨w1, w2⟩ := abs_le.mp hw
  exact ⟨by linarith only [w1, mul_nonneg hn1 (sub_nonneg.2 hΘ1)],
    by linarith only [w2, mul_le_mul_of_nonneg_right hnV (by linarith : (0 : ℝ) ≤ 1 + Θ)]⟩

/-- the intervals `[Wlo k, Whi k]` that contain `z_k / r` during the first seven rounds (`Whi 7` bounds the eighth
iterate); `Wv k` bounds the exact Newton step on the `k`-th interval -/
noncomputable def Wlo : ℕ → ℝ
  | 0 => 24 / 100
  | _ => 997 / 1000

noncomputable def Whi : ℕ → ℝ
  | 0 => 415 / 100
  | 1 => 5963 / 1000
  | 2 => 3995 / 1000
  | 3 => 2692 / 1000
  | 4 => 1846 / 1000
  | 5 => 1332 / 1000
  | 6 => 1079 / 1000
  | _ => 1009 / 1000

noncomputable def Wv : ℕ → ℝ
  | 0 => 59471 / 10000
  | 1 => 4981 / 1250
  | 2 => 26843 / 10000
  | 3 => 18407 / 10000
  | 4 => 2657 / 2000
  | 5 => 10759 / 10000
  | _ => 10057 / 10000

theorem wide_tab (k : ℕ) (hk : k < 7) :
    (0 < Wlo k ∧ 0 ≤ Wv k) ∧ 2 * Wlo k ^ 3 + 1 ≤ 3 * Wv k * Wlo k ^ 2 ∧ 2 * Whi k ^ 3 + 1 ≤ 3 * Wv k * Whi k ^ 2 ∧
      Wv k * (1 + 251 / 100000) ≤ Whi (k + 1) ∧ 24 / 100 ≤ Wlo k ∧ Whi k ≤ 5963 / 1000 := by
  interval_cases k <;> norm_num [Wlo, Whi, Wv]

/-- where `a = z_k / r` lies: in the wide intervals for `k < 7`, then within `Ebound (k - 7)` of 1 -/
def Near (k : ℕ) (t a : ℝ) : Prop :=
  if k < 7 then Wlo k ≤ a ∧ a ≤ Whi k else |a - 1| ≤ Ebound (k - 7) t

theorem near_lt {k : ℕ} {t a : ℝ} (hk : k < 7) : Near k t a ↔ Wlo k ≤ a ∧ a ≤ Whi k := by
  unfold Near; rw [if_pos hk]

theorem near_ge {k : ℕ} {t a : ℝ} (hk : 7 ≤ k) : Near k t a ↔ |a - 1| ≤ Ebound (k - 7) t := by
  unfold Near; rw [if_neg (by omega)]

theorem near_range (k : ℕ) (t a : ℝ) (ht0 : 0 ≤ t) (ht : t ≤ 1 / 10) (h : Near k t a) :
    24 / 100 ≤ a ∧ a ≤ 5963 / 1000 := by
  by_cases hk : k < 7
  · obtain ⟨h1, h2⟩ := (near_lt hk).1 h
    obtain ⟨-, -, -, -, b1, b2⟩ := wide_tab k hk
    exact ⟨b1.trans h1, h2.trans b2⟩
  · obtain ⟨e0, e1⟩ := Ebound_le (k - 7) t ht0 ht
    obtain ⟨l, u⟩ := abs_le.mp ((near_ge (by omega)).1 h)
    constructor <;> linarith

/-- `0.251·t²` is the `5.02·ε` of `CbrtN.five_ops` at `ε = t²/20` -/
theorem near_step (k : ℕ) (t a n w : ℝ) (ht0 : 0 ≤ t) (ht : t ≤ 1 / 10) (h : Near k t a)
    (hn : 3 * a ^ 2 * n = 2 * a ^ 3 + 1) (hw : |w - n| ≤ 251 / 1000 * t ^ 2 * n) : Near (k + 1) t w := by
  have hΘ0 : (0 : ℝ) ≤ 251 / 1000 * t ^ 2 := by positivity
  have hΘ : 251 / 1000 * t ^ 2 ≤ 251 / 100000 := by have := pow_le_pow_left₀ ht0 ht 2; linarith only [this]
  by_cases hk : k < 7
  · obtain ⟨h1, h2⟩ := (near_lt hk).1 h
    obtain ⟨⟨hL, hV⟩, f1, f2, f3, -⟩ := wide_tab k hk
    obtain ⟨c1, c2⟩ := newton_wide a n w _ _ _ _ hL h1 h2 f1 f2 hn hΘ0 (by linarith only [hΘ]) hw
    have c3 : w ≤ Whi (k + 1) := c2.trans ((mul_le_mul_of_nonneg_left (by linarith only [hΘ]) hV).trans f3)
    by_cases hk1 : k + 1 < 7
    · exact (near_lt hk1).2 ⟨by show (997 / 1000 : ℝ) ≤ w; linarith only [c1, hΘ], c3⟩
    · obtain rfl : k = 6 := by omega
      have c3' : w ≤ 1009 / 1000 := c3
      refine (near_ge (by omega)).2 (abs_le.mpr ?_)
      show -(7 / 100 * (1 / 10) ^ 0 + 3 / 10 * t ^ 2) ≤ w - 1 ∧ w - 1 ≤ 7 / 100 * (1 / 10) ^ 0 + 3 / 10 * t ^ 2
      rw [pow_zero]
      exact ⟨by linarith only [c1, hΘ, hΘ0], by linarith only [c3', hΘ0]⟩
  · obtain ⟨e0, e1⟩ := Ebound_le (k - 7) t ht0 ht
    have := newton_step a n w _ _ e1 ((near_ge (by omega)).1 h) hn (by linarith only [hΘ]) hw
    refine (near_ge (by omega)).2 ?_
    rw [show k + 1 - 7 = k - 7 + 1 by omega]
    exact this.trans (Ebound_step (k - 7) t ht0 ht)

end Apd.CbrtR

#print axioms Apd.CbrtR.poly_bound
#print axioms Apd.CbrtR.newton_step
#print axioms Apd.CbrtR.Ebound_step
#print axioms Apd.CbrtR.stop_ok
