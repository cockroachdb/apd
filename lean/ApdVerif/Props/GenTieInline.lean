import ApdVerif.Model.BigInt
import ApdVerif.Gen.Inline
/-!
# Regenerated tie for the uint64 fast-path helpers of bigint.go

`ApdVerif/Gen/Inline.lean` is re-extracted from the Go source on every run (harness/cmd/xlate);
`bits.Add64/Sub64/Mul64` and the wrapping `uint64` subtraction are the `Nat < 2^64` definitions of
`ApdVerif/Gen/Prelude.lean`.  The hand-written helpers of `ApdVerif/Model/BigInt.lean` (about which C16 is
proved) are equal to the generated ones on all `uint64` inputs.  If the Go source of one of these
functions changes, the regenerated definition changes and the theorem below stops checking.
-/
namespace Apd.Props

theorem GenTie_addInline (xVal yVal : Nat) (xNeg yNeg : Bool)
    (hx : xVal < 2 ^ 64) (hy : yVal < 2 ^ 64) :
    Gen.addInline xVal yVal xNeg yNeg = BigInt.addInline xVal yVal xNeg yNeg := by
  unfold Gen.addInline BigInt.addInline Gen.add64 Gen.sub64 Gen.sub64w Gen.two64
  by_cases hs : xNeg = yNeg
  · subst hs
    have e : (xVal + yVal) / 2 ^ 64 = 0 ↔ xVal + yVal < 2 ^ 64 := by omega
    by_cases h : xVal + yVal < 2 ^ 64 <;> simp [h, e]
  · by_cases hlt : xVal < yVal
    · have h1 : ¬ (yVal ≤ xVal) := by omega
      have h2 : (yVal + 2 ^ 64 - xVal % 2 ^ 64) % 2 ^ 64 = yVal - xVal := by omega
      have h3 : ¬ (yVal - xVal = 0) := by omega
      simp [hs, hlt, h1, h2, h3]
    · have h1 : yVal ≤ xVal := by omega
      have h2 : (xVal - yVal = 0) ↔ (xVal = yVal) := by omega
      by_cases he : xVal = yVal <;> simp [hs, hlt, h1, h2, he]

theorem GenTie_mulInline (xVal yVal : Nat) (xNeg yNeg : Bool)
    (_hx : xVal < 2 ^ 64) (_hy : yVal < 2 ^ 64) :
    Gen.mulInline xVal yVal xNeg yNeg = BigInt.mulInline xVal yVal xNeg yNeg := by
  unfold Gen.mulInline BigInt.mulInline Gen.mul64 Gen.two64
  have e : (xVal * yVal) / 2 ^ 64 = 0 ↔ xVal * yVal < 2 ^ 64 := by
    generalize xVal * yVal = p; omega
  by_cases h : xVal * yVal < 2 ^ 64 <;> simp [h, e]

theorem GenTie_quoInline (xVal yVal : Nat) (xNeg yNeg : Bool)
    (_hx : xVal < 2 ^ 64) (_hy : yVal < 2 ^ 64) :
    Gen.quoInline xVal yVal xNeg yNeg = BigInt.quoInline xVal yVal xNeg yNeg := by
  rfl

theorem GenTie_remInline (xVal yVal : Nat) (xNeg yNeg : Bool)
    (_hx : xVal < 2 ^ 64) (_hy : yVal < 2 ^ 64) :
    Gen.remInline xVal yVal xNeg yNeg = BigInt.remInline xVal yVal xNeg yNeg := by
  rfl

#print axioms Apd.Props.GenTie_addInline
#print axioms Apd.Props.GenTie_mulInline
#print axioms Apd.Props.GenTie_quoInline
#print axioms Apd.Props.GenTie_remInline

end Apd.Props
