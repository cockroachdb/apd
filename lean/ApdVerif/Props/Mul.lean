import ApdVerif.Props.RoundCore
/-! # Mul agrees with the specification (exact product, `setExponent`, then `round`: no double rounding)

Between the package's exponent limits the `setExponent` step only adds the exponents, so `Mul` is `Round` of the exact
product `x.prod y` (`mulOp_eq_round`), and a `Mul` without a system flag was inside the window `MulWin`
(`mulOp_noSys_inv`).  `C01_mul_prec0` is for Precision 0, where rounding is disabled. -/
namespace Apd.MulL
open Apd.Oracle

section Flags
variable (a b : Cond)
@[simp] theorem or_sysOverflow : (a ||| b).sysOverflow = (a.sysOverflow || b.sysOverflow) := rfl
@[simp] theorem or_sysUnderflow : (a ||| b).sysUnderflow = (a.sysUnderflow || b.sysUnderflow) := rfl
@[simp] theorem or_overflow : (a ||| b).overflow = (a.overflow || b.overflow) := rfl
@[simp] theorem or_underflow : (a ||| b).underflow = (a.underflow || b.underflow) := rfl
@[simp] theorem or_inexact : (a ||| b).inexact = (a.inexact || b.inexact) := rfl
@[simp] theorem or_subnormal : (a ||| b).subnormal = (a.subnormal || b.subnormal) := rfl
@[simp] theorem or_rounded : (a ||| b).rounded = (a.rounded || b.rounded) := rfl
@[simp] theorem or_divUndefined : (a ||| b).divUndefined = (a.divUndefined || b.divUndefined) := rfl
@[simp] theorem or_divByZero : (a ||| b).divByZero = (a.divByZero || b.divByZero) := rfl
@[simp] theorem or_divImpossible : (a ||| b).divImpossible = (a.divImpossible || b.divImpossible) := rfl
@[simp] theorem or_invalidOp : (a ||| b).invalidOp = (a.invalidOp || b.invalidOp) := rfl
@[simp] theorem or_clamped : (a ||| b).clamped = (a.clamped || b.clamped) := rfl
end Flags

theorem seFinish_eq (d : Dec) (r : Int) (res : Cond) :
    seFinish d r res = ({ d with exp := r },
      if res.inexact && res.subnormal then res ||| Cond.cUnderflow else res) := rfl

theorem dec_eta (d : Dec) : ({ d with exp := d.exp } : Dec) = d := by cases d; rfl

end Apd.MulL

namespace Apd

/-- the exact product of two finite decimals: what `Context.Mul` hands to `Rounder.Round` -/
def Dec.prod (x y : Dec) : Dec :=
  { form := .finite, neg := x.neg != y.neg, exp := x.exp + y.exp, coeff := x.coeff * y.coeff }

theorem Dec.prod_exp (x y : Dec) : (x.prod y).exp = x.exp + y.exp := rfl
theorem Dec.prod_coeff (x y : Dec) : (x.prod y).coeff = x.coeff * y.coeff := rfl

/-- the exponents of an exact product stay inside the package limits -/
def MulWin (x y : Dec) : Prop :=
  (-100000 ≤ x.exp ∧ x.exp ≤ 100000) ∧ (-100000 ≤ y.exp ∧ y.exp ≤ 100000) ∧ -100000 ≤ x.exp + y.exp ∧
  x.exp + y.exp + (ndigits (x.coeff * y.coeff) : Int) - 1 ≤ 100000

end Apd

namespace Apd.Props
open Apd Apd.Oracle

theorem mulOp_finite (c : Ctx) (x y : Dec) (hx : x.form = .finite) (hy : y.form = .finite) :
    mulOp c x y =
      finish c ((ctxRound c (setExponent c
          { form := .finite, neg := x.neg != y.neg, exp := 0, coeff := x.coeff * y.coeff } {} [x.exp, y.exp]).1).1,
        (setExponent c
          { form := .finite, neg := x.neg != y.neg, exp := 0, coeff := x.coeff * y.coeff } {} [x.exp, y.exp]).2 |||
        (ctxRound c (setExponent c
          { form := .finite, neg := x.neg != y.neg, exp := 0, coeff := x.coeff * y.coeff } {} [x.exp, y.exp]).1).2) := by
  simp [mulOp, shouldSetAsNaN, Dec.isNaN, hx, hy]

/-- **between the package limits `Mul` is `Round` of the exact product**, once the two exponents and the adjusted
exponent of the product have passed `setExponent` (the hypotheses are what `setExponent_noSys` returns) -/
theorem mulOp_eq_round (c : Ctx) (hemin : c.emin = -100000) (hemax : c.emax = 100000) (x y : Dec)
    (hx : x.form = .finite) (hy : y.form = .finite) (hck : checkXs [x.exp, y.exp] = none)
    (lo : -100000 ≤ x.exp + y.exp + (ndigits (x.coeff * y.coeff) : Int) - 1)
    (hi : x.exp + y.exp + (ndigits (x.coeff * y.coeff) : Int) - 1 ≤ 100000) :
    mulOp c x y = finish c (ctxRound c (x.prod y)) := by
  rw [mulOp_finite c x y hx hy, setExponent_normal c _ {} _ (sumInts_pair _ _) hck (by exact hi)
    (by rw [hemin]; exact lo) (by rw [hemax]; exact hi) (by omega), seFinish_plain _ _ _ rfl, Cond.empty_or]
  rfl

/-- a `Mul` between the package limits that raised no system flag: the exponents are inside the window, since
`setExponent` and then `Round` looked at them, and `Round` was given the exact product -/
theorem mulOp_noSys_inv (c : Ctx) (hemin : c.emin = -100000) (hemax : c.emax = 100000) (hp : c.prec ≠ 0) (x y : Dec)
    (hx : x.form = .finite) (hy : y.form = .finite) (hns : NoSys (mulOp c x y).fl) :
    MulWin x y ∧ mulOp c x y = finish c (ctxRound c (x.prod y)) := by
  have h1 := hns
  rw [mulOp_finite _ x y hx hy] at h1
  obtain ⟨k1, k2, k3⟩ := setExponent_noSys _ _ _ _ (sumInts_pair _ _) (NoSys.or_iff.1 h1).1
  have e := mulOp_eq_round c hemin hemax x y hx hy k1 k2 k3
  rw [e, ctxRound_finite _ _ rfl] at hns
  obtain ⟨ea, k4⟩ := (checkXs_cons_iff _ _).1 k1
  exact ⟨⟨ea, ((checkXs_cons_iff _ _).1 k4).1, (roundX_noSys_exp c _ rfl hp hns).1, k3⟩, e⟩

theorem mulOp_exact (c : Ctx) (hp : 1 ≤ c.prec) (hemin : c.emin = -100000) (hemax : c.emax = 100000) (x y : Dec)
    (hx : x.form = .finite) (hy : y.form = .finite) (hnd : ndigits (x.coeff * y.coeff) ≤ c.prec) (W : MulWin x y) :
    mulOp c x y = { d := x.prod y } := by
  obtain ⟨⟨e1, e2⟩, ⟨e3, e4⟩, e5, hi⟩ := W
  have hnp := ndigits_pos (x.coeff * y.coeff)
  rw [mulOp_eq_round c hemin hemax x y hx hy (checkXs_pair _ _ e1 e2 e3 e4) (by omega) hi,
    ctxRound_id c _ rfl hp hnd (by omega) (by omega)
      (by show c.emin ≤ x.exp + y.exp + (ndigits (x.coeff * y.coeff) : Int) - 1; omega) (hemax ▸ hi) e5]
  simp only [finish, goError_noFlags]

/-- `setThenRound` with rounding disabled: the exact value, whenever the specification has an opinion -/
theorem setThenRound_prec0 (c : Ctx) (hc : c.WF0) (hp : c.prec = 0) (neg : Bool) (N : Nat) (xs : List Int)
    (r : Int) (hr : sumInts xs = r)
    (h : NoSys ((setExponent c { form := .finite, neg := neg, exp := 0, coeff := N } {} xs).2 |||
      (ctxRound c (setExponent c { form := .finite, neg := neg, exp := 0, coeff := N } {} xs).1).2)) :
    AgreesExact c { neg := neg, num := N, den := 1, e10 := r }
      (ctxRound c (setExponent c { form := .finite, neg := neg, exp := 0, coeff := N } {} xs).1).1
      ((setExponent c { form := .finite, neg := neg, exp := 0, coeff := N } {} xs).2 |||
        (ctxRound c (setExponent c { form := .finite, neg := neg, exp := 0, coeff := N } {} xs).1).2) := by
  obtain ⟨h1, h2⟩ := NoSys.or_iff.1 h
  intro s hs
  rw [specExact_dec] at hs
  by_cases hN : N = 0
  · subst hN
    cases hs
    obtain ⟨z1, z2, z3, z4, -⟩ := setExponent_zero c _ {} xs rfl rfl benign_empty h1
    generalize setExponent c { form := .finite, neg := neg, exp := 0, coeff := 0 } {} xs = r1 at *
    rw [ctxRound_prec0 c hp r1.1 z1] at h2 ⊢
    obtain ⟨w1, w2, w3, w4, -⟩ := setExponent_zero c r1.1 {} _ z1 z2 benign_empty h2
    obtain ⟨b1, -, b3, b4, -⟩ := benign_or z4 w4
    exact ⟨matches_zero _ _ _ w1 w2 (w3.trans z3), b1, b4, b3⟩
  · rw [if_neg hN] at hs
    split at hs
    · cases hs
    · rename_i hrange
      cases hs
      obtain ⟨hx0, -, ha2⟩ := setExponent_noSys _ _ _ _ hr h1
      rw [setExponent_normal c _ {} xs hr hx0 ha2 (by dsimp only; omega) (by dsimp only; omega) hc.2.2.2.1,
        seFinish_plain _ _ _ rfl] at h2 ⊢
      rw [Cond.empty_or]
      exact C01_roundCore_prec0 c hc hp { form := .finite, neg := neg, exp := r, coeff := N } rfl h2 _
        (by rw [exactRound_eq, specExact_dec, if_neg hN, if_neg hrange])

theorem C01_mul (c : Ctx) (hc : c.WF) (x y : Dec) (hx : x.form = .finite) (hy : y.form = .finite)
    (h : Delivered (mulOp c x y).err) :
    Agrees c (exactMul x y) (mulOp c x y).d (mulOp c x y).fl := by
  rw [mulOp_finite c x y hx hy] at h ⊢
  exact setThenRound c hc _ _ _ _ (sumInts_pair _ _) (noSys_of_delivered _ _ h)

theorem C01_mul_prec0 (c : Ctx) (hc : c.WF0) (hp : c.prec = 0) (x y : Dec)
    (hx : x.form = .finite) (hy : y.form = .finite) (h : Delivered (mulOp c x y).err) :
    AgreesExact c (exactMul x y) (mulOp c x y).d (mulOp c x y).fl := by
  rw [mulOp_finite c x y hx hy] at h ⊢
  exact setThenRound_prec0 c hc hp _ _ _ _ (sumInts_pair _ _) (noSys_of_delivered _ _ h)

end Apd.Props

#print axioms Apd.Props.C01_mul
#print axioms Apd.Props.C01_mul_prec0
