import ApdVerif.Model.Arith
import ApdVerif.Gen.Misc
/-!
# Regenerated tie (constants, cmpOrder, etiny): definitions re-extracted from the Go source on every run
(`ApdVerif/Gen/*.lean`, written by harness/cmd/xlate) are the ones the hand-written model uses.
If the Go source changes one of these functions, the regenerated definition changes and the
corresponding theorem below stops checking.
-/
namespace Apd.Props

/-- index of a form in the Go iota order -/
def formIdx : Form → Int
  | .finite => 0 | .infinite => 1 | .nanSignaling => 2 | .nan => 3

theorem GenTie_consts :
    Gen.MaxExponent = Apd.MaxExponent ∧ Gen.MinExponent = Apd.MinExponent ∧
    Gen.digitsTableSize = 128 ∧ Gen.powerTenTableSize = 128 ∧ Gen.inlineWords = 2 ∧
    Gen.lowestZeroNegativeCoefficientCockroach = -2000 ∧ Gen.adjExponentLimit = -6 ∧
    Gen.unknownNumDigits = -1 ∧ Gen.systemErrors = 3 ∧
    Gen.bigOne = 1 ∧ Gen.bigTwo = 2 ∧ Gen.bigFive = 5 ∧ Gen.bigTen = 10 := by
  refine ⟨rfl, rfl, rfl, rfl, rfl, rfl, rfl, rfl, rfl, rfl, rfl, rfl, rfl⟩

theorem GenTie_forms :
    Gen.formOrder = [("Finite", 0), ("Infinite", 1), ("NaNSignaling", 2), ("NaN", 3)] := by
  rfl

theorem GenTie_cmpOrder (d : Dec) :
    Gen.Decimal_cmpOrder (formIdx d.form) d.neg = d.cmpOrder := by
  rcases d with ⟨f, n, e, c⟩
  cases f <;> cases n <;> rfl

theorem GenTie_etiny (c : Ctx) :
    Gen.Context_etiny c.prec c.emin = c.emin - (c.prec : Int) + 1 := by
  rfl

#print axioms Apd.Props.GenTie_consts
#print axioms Apd.Props.GenTie_forms
#print axioms Apd.Props.GenTie_cmpOrder
#print axioms Apd.Props.GenTie_etiny

end Apd.Props
