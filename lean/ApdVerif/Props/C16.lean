import ApdVerif.Lemmas.C16Lemmas
import ApdVerif.Lemmas.BitLen
import Mathlib.Data.Nat.Size
import Mathlib.Data.Int.Bitwise
/-!
# C16 — `apd.BigInt` behaves exactly like `math/big.Int`

Model: `ApdVerif/Model/BigInt.lean` (`Rep`, `Rep.abs`, `Rep.Canon`, one function per Go method).
Reference semantics: Lean's `Int` (`+ - *`, truncated `Int.tdiv`/`Int.tmod` = Go's `Quo`/`Rem`, `Int.sign`,
order, two's-complement bit, bit length of `|v|`).

Every theorem has the shape "for canonical operands, the abstract value of the new receiver is the `Int`
operation applied to the abstract values of the operands, and the new receiver is canonical" (mutators),
or "the returned bool/int equals the `Int` predicate/function of the abstract value" (observers).

* Operands unchanged: the model is functional — each method *returns* the new receiver and has no
  access to the operands' storage, so `x`, `y` are unchanged by construction (receiver = operand aliasing
  is the call `Add z z y`: operands are read — `innerAsUint64`/`inner` — before the receiver is replaced).
* All big-path theorems are stated for an arbitrary `ra : Bool` (whether math/big re-allocated although
  the result would have fit in the inline array), `ra = false` being the default rule of the model.
-/
namespace Apd.Props
open Apd Apd.BigInt

/-! ## `inner` / `updateInner` : the lemma covering the ~40 plain wrappers
`z.updateInner(zi.Op(x.inner(), y.inner(), ...))` -/

theorem C16_inner (z : Rep) : inner z = z.abs := inner_eq_abs z

/-- `updateInner`: heap stays heap; inline moves to heap iff the value is non-zero and math/big re-allocated —
necessarily so when `|v| ≥ 2^128`. -/
theorem C16_updateInner (ra : Bool) (z : Rep) (v : Int) (hz : z.Canon) :
    (updateInnerWith ra z v).abs = v ∧ (updateInnerWith ra z v).Canon ∧
    (updateInnerWith ra z v).tag =
      (if z.tag = .heap ∨ (v ≠ 0 ∧ (ra = true ∨ 2 ^ 128 ≤ v.natAbs)) then .heap
       else if v < 0 then .inlineNeg else .inlinePos) :=
  ⟨updateInnerWith_abs ra z v, updateInnerWith_canon ra z v hz, updateInnerWith_tag ra z v⟩

/-- with `ra = false` (math/big never re-allocates while the value fits): heap exactly when already heap or
`|v| ≥ 2^128` -/
theorem C16_updateInner_rule (z : Rep) (v : Int) (hz : z.Canon) :
    (updateInner z v).abs = v ∧ (updateInner z v).Canon ∧
    ((updateInner z v).tag = .heap ↔ (z.tag = .heap ∨ 2 ^ 128 ≤ v.natAbs)) := by
  refine ⟨updateInnerWith_abs _ z v, updateInnerWith_canon _ z v hz, ?_⟩
  unfold updateInner
  rw [updateInnerWith_tag]
  have h0 : v = 0 → ¬ (2 ^ 128 ≤ v.natAbs) := by intro h; subst h; norm_num
  by_cases h1 : z.tag = .heap
  · simp [h1]
  · by_cases h2 : 2 ^ 128 ≤ v.natAbs
    · have : v ≠ 0 := fun h => h0 h h2
      simp [-Nat.reducePow, h1, h2, this]
    · simp only [h1, h2, Bool.false_eq_true, or_self, and_false, if_false]
      split_ifs <;> simp

/-- a generic unary/binary wrapper `z.Op(x, y) = z.updateInner(big.Op(x.inner, y.inner))` computes
`op` on the abstract values and re-establishes `Canon`; this is all the remaining wrapper methods do
(And, AndNot, Binomial, Div, DivMod, Exp, GCD, Lsh, Mod, ModInverse, ModSqrt, MulRange, Not, Or, Rand,
Rsh, SetBit, SetBits, SetBytes, SetString, Sqrt, Xor, SetMathBigInt, GobDecode, Scan, Unmarshal*, …);
the read-only ones (Bits, Bytes, String, Text, Format, ProbablyPrime, TrailingZeroBits, MathBigInt, …)
are `big.Op(z.inner())`, i.e. `op z.abs` by `C16_inner`. -/
theorem C16_wrapper (op : Int → Int → Int) (ra : Bool) (z x y : Rep) (hz : z.Canon) :
    (updateInnerWith ra z (op (inner x) (inner y))).abs = op x.abs y.abs ∧
    (updateInnerWith ra z (op (inner x) (inner y))).Canon := by
  rw [inner_eq_abs, inner_eq_abs]
  exact ⟨updateInnerWith_abs _ _ _, updateInnerWith_canon _ _ _ hz⟩

/-- once the receiver is a real `*big.Int`, the big path keeps it there -/
theorem C16_heap_sticky (ra : Bool) (z : Rep) (v : Int) (h : z.tag = .heap) :
    (updateInnerWith ra z v).tag = .heap := by
  rw [updateInnerWith_tag]; simp [h]

theorem C16_updateInnerFromUint64 (z : Rep) (v : Nat) (n : Bool) (hv : v < 2 ^ 64) :
    (updateInnerFromUint64 z v n).abs = (if n then -(v : Int) else v) ∧
    (updateInnerFromUint64 z v n).Canon ∧ (updateInnerFromUint64 z v n).tag ≠ .heap :=
  ⟨updateInnerFromUint64_abs z v n, updateInnerFromUint64_canon z v n hv,
   updateInnerFromUint64_tag z v n⟩

theorem C16_Add (z x y : Rep) (ra : Bool) (hz : z.Canon) (hx : x.Canon) (hy : y.Canon) :
    (BigInt.Add z x y ra).abs = x.abs + y.abs ∧ (BigInt.Add z x y ra).Canon := by
  unfold BigInt.Add
  split
  · exact fast2_sound addInline_sound hx hy ‹_› z
  · exact C16_wrapper (· + ·) ra z x y hz

theorem C16_Sub (z x y : Rep) (ra : Bool) (hz : z.Canon) (hx : x.Canon) (hy : y.Canon) :
    (BigInt.Sub z x y ra).abs = x.abs - y.abs ∧ (BigInt.Sub z x y ra).Canon := by
  unfold BigInt.Sub
  split
  · exact fast2_sound subInline_sound hx hy ‹_› z
  · exact C16_wrapper (· - ·) ra z x y hz

theorem C16_Mul (z x y : Rep) (ra : Bool) (hz : z.Canon) (hx : x.Canon) (hy : y.Canon) :
    (BigInt.Mul z x y ra).abs = x.abs * y.abs ∧ (BigInt.Mul z x y ra).Canon := by
  unfold BigInt.Mul
  split
  · exact fast2_sound mulInline_sound hx hy ‹_› z
  · exact C16_wrapper (· * ·) ra z x y hz

theorem C16_Quo (z x y : Rep) (ra : Bool) (hz : z.Canon) (hx : x.Canon) (hy : y.Canon)
    (hy0 : y.abs ≠ 0) :
    ∃ z', BigInt.Quo z x y ra = some z' ∧ z'.abs = Int.tdiv x.abs y.abs ∧ z'.Canon := by
  unfold BigInt.Quo
  split
  · exact ⟨_, rfl, fast2_sound quoInline_sound hx hy ‹_› z⟩
  · rw [if_neg (by rw [inner_eq_abs]; exact hy0)]
    exact ⟨_, rfl, C16_wrapper Int.tdiv ra z x y hz⟩

theorem C16_Rem (z x y : Rep) (ra : Bool) (hz : z.Canon) (hx : x.Canon) (hy : y.Canon)
    (hy0 : y.abs ≠ 0) :
    ∃ z', BigInt.Rem z x y ra = some z' ∧ z'.abs = Int.tmod x.abs y.abs ∧ z'.Canon := by
  unfold BigInt.Rem
  split
  · exact ⟨_, rfl, fast2_sound remInline_sound hx hy ‹_› z⟩
  · rw [if_neg (by rw [inner_eq_abs]; exact hy0)]
    exact ⟨_, rfl, C16_wrapper Int.tmod ra z x y hz⟩

theorem C16_QuoRem (z x y r : Rep) (ra rb : Bool) (hz : z.Canon) (hx : x.Canon) (hy : y.Canon)
    (hr : r.Canon) (hy0 : y.abs ≠ 0) :
    ∃ q m, BigInt.QuoRem z x y r ra rb = some (q, m) ∧ q.abs = Int.tdiv x.abs y.abs ∧
      m.abs = Int.tmod x.abs y.abs ∧ q.Canon ∧ m.Canon := by
  unfold BigInt.QuoRem
  split
  · rename_i hq hm
    obtain ⟨eq, cq⟩ := fast2_sound quoInline_sound hx hy hq z
    obtain ⟨em, cm⟩ := fast2_sound remInline_sound hx hy hm r
    exact ⟨_, _, rfl, eq, em, cq, cm⟩
  · rw [if_neg (by rw [inner_eq_abs]; exact hy0)]
    obtain ⟨eq, cq⟩ := C16_wrapper Int.tdiv ra z x y hz
    obtain ⟨em, cm⟩ := C16_wrapper Int.tmod rb r x y hr
    exact ⟨_, _, rfl, eq, em, cq, cm⟩

theorem C16_QuoRem_identity (z x y r : Rep) (ra rb : Bool) (hz : z.Canon) (hx : x.Canon)
    (hy : y.Canon) (hr : r.Canon) (hy0 : y.abs ≠ 0) :
    ∃ q m, BigInt.QuoRem z x y r ra rb = some (q, m) ∧ x.abs = q.abs * y.abs + m.abs ∧
      m.abs.natAbs < y.abs.natAbs := by
  obtain ⟨q, m, h, eq, em, -, -⟩ := C16_QuoRem z x y r ra rb hz hx hy hr hy0
  refine ⟨q, m, h, ?_, ?_⟩
  · rw [eq, em, mul_comm]; exact (Int.mul_tdiv_add_tmod _ _).symm
  · rw [em]
    rw [Int.natAbs_tmod]
    exact Nat.mod_lt _ (by omega)

/-- division by zero: the fast path declines and math/big panics (`none`) -/
theorem C16_div_by_zero (z x y r : Rep) (ra rb : Bool) (hx : x.Canon) (hy : y.Canon)
    (hy0 : y.abs = 0) :
    BigInt.Quo z x y ra = none ∧ BigInt.Rem z x y ra = none ∧ BigInt.QuoRem z x y r ra rb = none := by
  have hi : inner y = 0 := by rw [inner_eq_abs]; exact hy0
  refine ⟨?_, ?_, ?_⟩
  · unfold BigInt.Quo; split
    · exact absurd hy0 (fast2_div_ne_zero (Or.inl rfl) hx hy ‹_›)
    · exact if_pos hi
  · unfold BigInt.Rem; split
    · exact absurd hy0 (fast2_div_ne_zero (Or.inr rfl) hx hy ‹_›)
    · exact if_pos hi
  · unfold BigInt.QuoRem; split
    · rename_i hq _; exact absurd hy0 (fast2_div_ne_zero (Or.inl rfl) hx hy hq)
    · exact if_pos hi

theorem cmpInt_spec (a b : Int) :
    (cmpInt a b = -1 ↔ a < b) ∧ (cmpInt a b = 0 ↔ a = b) ∧ (cmpInt a b = 1 ↔ a > b) := by
  unfold cmpInt
  by_cases h1 : a < b
  · have : a ≠ b := by omega
    have : ¬ a > b := by omega
    simp [*]
  · by_cases h2 : a > b
    · have : a ≠ b := by omega
      simp [*]
    · have : a = b := by omega
      simp [*]

theorem cmpInt_eq_compare (a b : Int) :
    cmpInt a b = match compare a b with | .lt => -1 | .eq => 0 | .gt => 1 := by
  unfold cmpInt
  rcases lt_trichotomy a b with h | h | h
  · simp [h, compare_lt_iff_lt.mpr h]
  · subst h; simp
  · have h' : ¬ a < b := by omega
    simp [h, h', compare_gt_iff_gt.mpr h]

theorem C16_Cmp (z y : Rep) (hz : z.Canon) (hy : y.Canon) :
    BigInt.Cmp z y = cmpInt z.abs y.abs := by
  unfold BigInt.Cmp
  split
  · rename_i zv zn yv yn h1 h2
    obtain ⟨ez, -, nz, -⟩ := innerAsUint64_some h1 hz
    obtain ⟨ey, -, ny, -⟩ := innerAsUint64_some h2 hy
    rw [ez, ey]
    unfold cmpInt
    -- `Canon` has no negative zero (`nz`, `ny`): that decides the cases of opposite signs
    cases zn <;> cases yn <;> simp at nz ny ⊢ <;> split_ifs <;> omega
  · rw [inner_eq_abs, inner_eq_abs]

theorem C16_CmpAbs (z y : Rep) (hz : z.Canon) (hy : y.Canon) :
    BigInt.CmpAbs z y = cmpInt (z.abs.natAbs : Int) (y.abs.natAbs : Int) := by
  unfold BigInt.CmpAbs
  split
  · rename_i zv zn yv yn h1 h2
    obtain ⟨ez, -, nz, -⟩ := innerAsUint64_some h1 hz
    obtain ⟨ey, -, ny, -⟩ := innerAsUint64_some h2 hy
    rw [ez, ey]
    unfold cmpInt
    cases zn <;> cases yn <;> simp
  · rw [inner_eq_abs, inner_eq_abs]

theorem C16_Sign (z : Rep) (hz : z.Canon) : BigInt.Sign z = Int.sign z.abs := by
  obtain ⟨h0, h1, h2⟩ := hz
  rcases z with ⟨t, w0, w1, b⟩
  cases t
  · simp only [BigInt.Sign, Rep.abs, Rep.mag]
    by_cases hw : w0 = 0 ∧ w1 = 0
    · obtain ⟨rfl, rfl⟩ := hw; simp
    · have : 0 < ((w0 + 2 ^ 64 * w1 : Nat) : Int) := by omega
      rw [Int.sign_eq_one_of_pos this]
      have : ¬ ((w0 == 0 && w1 == 0) = true) := by simpa using hw
      simp [this]
  · simp only [BigInt.Sign, Rep.abs, Rep.mag]
    have hm := h2 rfl
    simp only [Rep.mag, ne_eq] at hm
    have : -((w0 + 2 ^ 64 * w1 : Nat) : Int) < 0 := by omega
    rw [Int.sign_eq_neg_one_of_neg this]
  · simp [BigInt.Sign, Rep.abs]

theorem C16_Abs (z x : Rep) (ra : Bool) (hz : z.Canon) (hx : x.Canon) :
    (BigInt.Abs z x ra).abs = (x.abs.natAbs : Int) ∧ (BigInt.Abs z x ra).Canon := by
  unfold BigInt.Abs
  split_ifs with h
  · rw [isInline_iff] at h
    refine ⟨?_, hx.1, hx.2.1, fun h => Tag.noConfusion h⟩
    rw [abs_inline h, natAbs_sgn]; rfl
  · rw [inner_eq_abs]
    exact ⟨updateInnerWith_abs _ _ _, updateInnerWith_canon _ _ _ hz⟩

theorem C16_Neg (z x : Rep) (ra : Bool) (hz : z.Canon) (hx : x.Canon) :
    (BigInt.Neg z x ra).abs = -x.abs ∧ (BigInt.Neg z x ra).Canon := by
  unfold BigInt.Neg
  split_ifs with h h'
  · -- negative or zero: the words with a positive tag
    rw [isInline_iff] at h
    refine ⟨?_, hx.1, hx.2.1, fun h => Tag.noConfusion h⟩
    show (x.mag : Int) = -x.abs
    rw [abs_inline h]
    rcases Bool.or_eq_true_iff.1 h' with ht | h0
    · rw [ht, sgn_true, Int.neg_neg]
    · simp only [Bool.and_eq_true, beq_iff_eq] at h0
      have : x.mag = 0 := by rw [Rep.mag, h0.1, h0.2]
      rw [this]; cases (x.tag == Tag.inlineNeg) <;> rfl
  · -- positive and non-zero: the words with the sentinel
    rw [isInline_iff] at h
    simp only [Bool.or_eq_true, Bool.and_eq_true, beq_iff_eq, not_or, not_and] at h'
    have ht : (x.tag == Tag.inlineNeg) = false := beq_eq_false_iff_ne.2 h'.1
    refine ⟨?_, hx.1, hx.2.1, fun _ => ?_⟩
    · show -(x.mag : Int) = -x.abs
      rw [abs_inline h, ht, sgn_false]
    · show x.w0 + 2 ^ 64 * x.w1 ≠ 0
      intro h0; exact h'.2 (by omega) (by omega)
  · rw [inner_eq_abs]
    exact ⟨updateInnerWith_abs _ _ _, updateInnerWith_canon _ _ _ hz⟩

theorem C16_Set (z x : Rep) (ra : Bool) (hz : z.Canon) (hx : x.Canon) :
    (BigInt.Set z x ra).abs = x.abs ∧ (BigInt.Set z x ra).Canon := by
  unfold BigInt.Set
  split_ifs with h
  · exact ⟨rfl, hx⟩
  · rw [inner_eq_abs]
    exact ⟨updateInnerWith_abs _ _ _, updateInnerWith_canon _ _ _ hz⟩

/-- `SetInt64(x)` for every `int64` x, `MinInt64` included (there `x = -x` wraps to itself and
`uint64(x) = 2^63`) -/
theorem C16_SetInt64 (z : Rep) (x : Int) (hlo : -(2 ^ 63) ≤ x) (hhi : x < 2 ^ 63) :
    (BigInt.SetInt64 z x).abs = x ∧ (BigInt.SetInt64 z x).Canon := by
  unfold BigInt.SetInt64
  simp only
  have hv : toUint64 (if decide (x < 0) = true then wrap64 (-x) else x) = x.natAbs := by
    unfold toUint64 wrap64
    split_ifs with h
    · simp only [decide_eq_true_eq] at h; omega
    · simp only [decide_eq_true_eq] at h; omega
  rw [hv]
  refine ⟨?_, updateInnerFromUint64_canon _ _ _ (by omega)⟩
  rw [updateInnerFromUint64_abs]
  by_cases h : x < 0 <;> simp only [h, decide_true, decide_false, sgn_true, sgn_false] <;> omega

theorem C16_SetUint64 (z : Rep) (x : Nat) (hx : x < 2 ^ 64) :
    (BigInt.SetUint64 z x).abs = x ∧ (BigInt.SetUint64 z x).Canon := by
  unfold BigInt.SetUint64
  exact ⟨by rw [updateInnerFromUint64_abs]; rfl, updateInnerFromUint64_canon _ _ _ hx⟩

theorem intBit_zero (v : Int) : intBit v 0 = (v % 2).toNat := by
  simp [intBit]

/-- `intBit` is `Int.testBit` (Batteries): the bit of the infinite two's-complement expansion -/
theorem intBit_eq_testBit (v : Int) (i : Nat) : intBit v i = if Int.testBit v i then 1 else 0 := by
  have hp : (0 : Int) < 2 ^ i := by positivity
  unfold intBit
  cases v with
  | ofNat m =>
    simp only [Int.testBit, Int.ofNat_eq_natCast, Nat.testBit_eq_decide_div_mod_eq]
    have : ((m : Int) / 2 ^ i) = ((m / 2 ^ i : Nat) : Int) := by push_cast; rfl
    rw [this]
    generalize m / 2 ^ i = q
    by_cases h : q % 2 = 1 <;> simp [h] <;> omega
  | negSucc m =>
    simp only [Int.testBit, Nat.testBit_eq_decide_div_mod_eq]
    rw [Int.negSucc_ediv _ hp]
    have : ((m : Int) / 2 ^ i) = ((m / 2 ^ i : Nat) : Int) := by push_cast; rfl
    rw [show (m : Int).ediv (2 ^ i) = ((m / 2 ^ i : Nat) : Int) from this]
    generalize m / 2 ^ i = q
    by_cases h : q % 2 = 1 <;> simp [h] <;> omega

/-- `Bit(i)`: the `i == 0` fast path reads `_inline[0] & 1`, which is the two's-complement bit 0
also for negative inline values -/
theorem C16_Bit (z : Rep) (i : Nat) : BigInt.Bit z i = intBit z.abs i := by
  unfold BigInt.Bit
  split_ifs with h
  · simp only [Bool.and_eq_true, beq_iff_eq] at h
    obtain ⟨rfl, h⟩ := h
    rw [intBit_zero, Nat.and_one_is_mod, abs_inline ((isInline_iff z).1 h), Rep.mag]
    cases (z.tag == Tag.inlineNeg) <;> simp only [sgn_true, sgn_false] <;> omega
  · rw [inner_eq_abs]

theorem C16_Bit0 (z : Rep) : (BigInt.Bit z 0 : Int) = z.abs % 2 := by
  rw [C16_Bit, intBit_zero]; omega

theorem bitLen_le_iff (n k : Nat) : bitLen n ≤ k ↔ n < 2 ^ k := bitLenExpr_le_iff n k

theorem bitLen_spec (n : Nat) : n < 2 ^ bitLen n ∧ (n ≠ 0 → 2 ^ (bitLen n - 1) ≤ n) :=
  ⟨(bitLen_le_iff n _).mp le_rfl, fun h => (bitLenExpr_spec n h).2.1⟩

theorem bitLen_eq_size (n : Nat) : bitLen n = Nat.size n := by
  apply le_antisymm
  · rw [bitLen_le_iff]; exact Nat.lt_size_self n
  · rw [Nat.size_le]; exact (bitLen_spec n).1

theorem bitLen_high (w0 w1 : Nat) (h0 : w0 < 2 ^ 64) (h1 : w1 ≠ 0) :
    bitLen (w0 + 2 ^ 64 * w1) = 64 + bitLen w1 := by
  have hn : w0 + 2 ^ 64 * w1 ≠ 0 := by omega
  unfold bitLen
  rw [if_neg hn, if_neg h1, ← Nat.add_assoc]
  congr 1
  rw [Nat.log2_eq_iff hn]
  obtain ⟨l, u⟩ := (Nat.log2_eq_iff h1).mp rfl
  have e1 : 2 ^ (64 + w1.log2) = 2 ^ 64 * 2 ^ w1.log2 := Nat.pow_add ..
  have e2 : 2 ^ (64 + w1.log2 + 1) = 2 ^ 64 * (2 ^ w1.log2 * 2) := by
    rw [Nat.pow_succ, Nat.pow_add, Nat.mul_assoc]
  rw [Nat.pow_succ] at u
  rw [e1, e2]
  generalize 2 ^ w1.log2 = p at *
  omega

theorem C16_BitLen (z : Rep) (hz : z.Canon) : BigInt.BitLen z = bitLen z.abs.natAbs := by
  unfold BigInt.BitLen
  split_ifs with h hw1 hw0
  · rw [abs_inline ((isInline_iff z).1 h), natAbs_sgn, Rep.mag,
      bitLen_high _ _ hz.1 (by simpa using hw1)]
  · simp only [bne_iff_ne, ne_eq, not_not] at hw1
    rw [abs_inline ((isInline_iff z).1 h), natAbs_sgn, Rep.mag, hw1, Nat.mul_zero, Nat.add_zero,
      Nat.zero_mul, Nat.zero_add]
  · simp only [bne_iff_ne, ne_eq, not_not] at hw1 hw0
    rw [abs_inline ((isInline_iff z).1 h), natAbs_sgn, Rep.mag, hw1, hw0]; rfl
  · rw [inner_eq_abs]

theorem C16_IsInt64 (z : Rep) (hz : z.Canon) :
    BigInt.IsInt64 z = decide (-(2 ^ 63) ≤ z.abs ∧ z.abs < 2 ^ 63) := by
  unfold BigInt.IsInt64
  split
  · rename_i zv zn h
    obtain ⟨ez, bz, nz, -⟩ := innerAsUint64_some h hz
    rw [ez, Bool.eq_iff_iff]
    simp only [Bool.or_eq_true, Bool.and_eq_true, decide_eq_true_eq, beq_iff_eq]
    unfold toInt64 wrap64
    cases zn
    · simp only [sgn_false, Bool.false_eq_true, false_and, or_false]
      split_ifs <;> omega
    · -- a negative value is not zero (`Canon`), so `-2^63` is the only one whose magnitude does not fit
      have := nz rfl
      simp only [sgn_true, true_and]
      split_ifs <;> omega
  · rw [inner_eq_abs]

theorem C16_IsUint64 (z : Rep) (hz : z.Canon) :
    BigInt.IsUint64 z = decide (0 ≤ z.abs ∧ z.abs < 2 ^ 64) := by
  unfold BigInt.IsUint64
  split
  · rename_i zv zn h
    obtain ⟨ez, bz, nz, -⟩ := innerAsUint64_some h hz
    rw [ez, Bool.eq_iff_iff]
    simp only [Bool.not_eq_true', decide_eq_true_eq]
    cases zn
    · simp only [sgn_false, true_iff]; omega
    · have := nz rfl
      simp only [sgn_true, Bool.true_eq_false, false_iff]; omega
  · rw [inner_eq_abs]

/-- math/big's `Int64` of a sign and a magnitude (the low 64 bits reinterpreted, then negated) is the value
wrapped -/
theorem int64_signMag (neg : Bool) (m : Nat) :
    (if neg then wrap64 (-toInt64 (m % 2 ^ 64)) else toInt64 (m % 2 ^ 64)) = wrap64 (sgn neg m) := by
  unfold toInt64 wrap64
  cases neg <;> simp only [sgn_true, sgn_false, if_true, Bool.false_eq_true, if_false] <;> split_ifs <;> omega

/-- `Int64()` wraps into `[-2^63, 2^63)` on the inline and on the heap path alike -/
theorem C16_Int64 (z : Rep) (hz : z.Canon) : BigInt.Int64 z = wrap64 z.abs := by
  unfold BigInt.Int64
  split
  · rename_i zv zn h
    obtain ⟨ez, bz, -⟩ := innerAsUint64_some h hz
    rw [ez, ← int64_signMag, Nat.mod_eq_of_lt bz]
  · rw [inner_eq_abs]
    have e : z.abs = sgn (decide (z.abs < 0)) z.abs.natAbs := by
      by_cases h : z.abs < 0 <;> simp only [h, decide_true, decide_false, sgn_true, sgn_false] <;> omega
    conv_rhs => rw [e, ← int64_signMag]
    simp only [decide_eq_true_eq]

theorem C16_Int64_exact (z : Rep) (hz : z.Canon) (h : BigInt.IsInt64 z = true) :
    BigInt.Int64 z = z.abs := by
  rw [C16_IsInt64 z hz, decide_eq_true_eq] at h
  rw [C16_Int64 z hz]; unfold wrap64; omega

/-- `Uint64()` is the low 64 bits of `|v|`: math/big ignores the sign -/
theorem C16_Uint64 (z : Rep) (hz : z.Canon) : BigInt.Uint64 z = z.abs.natAbs % 2 ^ 64 := by
  unfold BigInt.Uint64
  split
  · rename_i zv zn h
    obtain ⟨ez, bz, -⟩ := innerAsUint64_some h hz
    rw [ez]
    cases zn
    · simp only [sgn_false]; omega
    · simp only [sgn_true]; omega
  · rw [inner_eq_abs]

theorem C16_Uint64_exact (z : Rep) (hz : z.Canon) (h : BigInt.IsUint64 z = true) :
    (BigInt.Uint64 z : Int) = z.abs := by
  rw [C16_IsUint64 z hz, decide_eq_true_eq] at h
  rw [C16_Uint64 z hz]; omega

theorem C16_zero_never_negative (r : Rep) (hr : r.Canon) (h0 : r.abs = 0) :
    BigInt.Sign r = 0 ∧ BigInt.Cmp r BigInt.zero = 0 := by
  refine ⟨by rw [C16_Sign r hr, h0]; rfl, ?_⟩
  rw [C16_Cmp r _ hr canon_zero, h0, abs_zero]
  rfl

theorem C16_zero_observers (r : Rep) (hr : r.Canon) (h0 : r.abs = 0) :
    BigInt.IsUint64 r = true ∧ BigInt.IsInt64 r = true ∧ BigInt.BitLen r = 0 ∧
    BigInt.CmpAbs r BigInt.zero = 0 := by
  refine ⟨?_, ?_, ?_, ?_⟩
  · rw [C16_IsUint64 r hr, h0]; decide
  · rw [C16_IsInt64 r hr, h0]; decide
  · rw [C16_BitLen r hr, h0]; rfl
  · rw [C16_CmpAbs r _ hr canon_zero, h0, abs_zero]; rfl

/-- a representation violating `Canon` (sentinel set, all words zero: the state the fast paths produced before
/repo commit 026bb4d, DESIGN §7) is observably wrong although its value is 0 -/
theorem C16_negative_zero_is_observable :
    let bad : Rep := { tag := .inlineNeg, w0 := 0, w1 := 0, big := 0 }
    bad.abs = 0 ∧ BigInt.Sign bad = -1 ∧ BigInt.Cmp bad BigInt.zero = -1 ∧
      BigInt.IsUint64 bad = false := by
  decide

/-! ## the driver entry point `stepWith` keeps `Canon` -/

theorem Quo_some_canon {z x y q : Rep} {ra : Bool} (hz : z.Canon) (hx : x.Canon) (hy : y.Canon)
    (h : BigInt.Quo z x y ra = some q) : q.Canon := by
  by_cases hy0 : y.abs = 0
  · rw [(C16_div_by_zero z x y z ra ra hx hy hy0).1] at h; cases h
  · obtain ⟨q', h', -, c⟩ := C16_Quo z x y ra hz hx hy hy0
    rw [h] at h'; cases h'; exact c

theorem Rem_some_canon {z x y q : Rep} {ra : Bool} (hz : z.Canon) (hx : x.Canon) (hy : y.Canon)
    (h : BigInt.Rem z x y ra = some q) : q.Canon := by
  by_cases hy0 : y.abs = 0
  · rw [(C16_div_by_zero z x y z ra ra hx hy hy0).2.1] at h; cases h
  · obtain ⟨q', h', -, c⟩ := C16_Rem z x y ra hz hx hy hy0
    rw [h] at h'; cases h'; exact c

theorem QuoRem_some_canon {z x y r q m : Rep} {ra rb : Bool} (hz : z.Canon) (hx : x.Canon)
    (hy : y.Canon) (hr : r.Canon) (h : BigInt.QuoRem z x y r ra rb = some (q, m)) : q.Canon := by
  by_cases hy0 : y.abs = 0
  · rw [(C16_div_by_zero z x y r ra rb hx hy hy0).2.2] at h; cases h
  · obtain ⟨q', m', h', -, -, c, -⟩ := C16_QuoRem z x y r ra rb hz hx hy hr hy0
    rw [h] at h'; cases h'; exact c

theorem C16_stepWith_canon (ra : Bool) (r a b r' : Rep) (m s : String) (hr : r.Canon) (ha : a.Canon)
    (hb : b.Canon) (h : BigInt.stepWith ra r m a b = some (r', s)) : r'.Canon := by
  unfold BigInt.stepWith at h
  simp only at h
  split at h
  all_goals try (simp only [Option.some.injEq, Prod.mk.injEq] at h; obtain ⟨rfl, -⟩ := h)
  -- the observers hand back the receiver itself
  all_goals try exact hr
  · exact (C16_Add _ _ _ _ hr ha hb).2
  · exact (C16_Sub _ _ _ _ hr ha hb).2
  · exact (C16_Mul _ _ _ _ hr ha hb).2
  · obtain ⟨q, hq, h⟩ := Option.bind_eq_some_iff.1 h
    cases h
    exact Quo_some_canon hr ha hb hq
  · obtain ⟨q, hq, h⟩ := Option.bind_eq_some_iff.1 h
    cases h
    exact Rem_some_canon hr ha hb hq
  · obtain ⟨⟨q, m⟩, hq, h⟩ := Option.bind_eq_some_iff.1 h
    cases h
    exact QuoRem_some_canon hr ha hb canon_zero hq
  · exact (C16_Abs _ _ _ hr ha).2
  · exact (C16_Neg _ _ _ hr ha).2
  · exact (C16_Set _ _ _ hr ha).2
  · split_ifs at h with hc
    cases h
    exact (C16_SetInt64 _ _ hc.1 hc.2).2
  · split_ifs at h with hc
    cases h
    exact (C16_SetUint64 _ _ (by omega)).2
  · split_ifs at h
    cases h
    exact hr
  · cases h

theorem C16_step_canon (r a b r' : Rep) (m s : String) (hr : r.Canon) (ha : a.Canon) (hb : b.Canon)
    (h : BigInt.step r m a b = some (r', s)) : r'.Canon :=
  C16_stepWith_canon false r a b r' m s hr ha hb h

#print axioms Apd.Props.C16_inner
#print axioms Apd.Props.C16_updateInner
#print axioms Apd.Props.C16_updateInner_rule
#print axioms Apd.Props.C16_wrapper
#print axioms Apd.Props.C16_heap_sticky
#print axioms Apd.Props.C16_updateInnerFromUint64
#print axioms Apd.Props.C16_Add
#print axioms Apd.Props.C16_Sub
#print axioms Apd.Props.C16_Mul
#print axioms Apd.Props.C16_Quo
#print axioms Apd.Props.C16_Rem
#print axioms Apd.Props.C16_QuoRem
#print axioms Apd.Props.C16_QuoRem_identity
#print axioms Apd.Props.C16_div_by_zero
#print axioms Apd.Props.C16_Cmp
#print axioms Apd.Props.C16_CmpAbs
#print axioms Apd.Props.C16_Sign
#print axioms Apd.Props.C16_Abs
#print axioms Apd.Props.C16_Neg
#print axioms Apd.Props.C16_Set
#print axioms Apd.Props.C16_SetInt64
#print axioms Apd.Props.C16_SetUint64
#print axioms Apd.Props.C16_Bit
#print axioms Apd.Props.C16_Bit0
#print axioms Apd.Props.C16_BitLen
#print axioms Apd.Props.bitLen_eq_size
#print axioms Apd.Props.C16_IsInt64
#print axioms Apd.Props.C16_IsUint64
#print axioms Apd.Props.C16_Int64
#print axioms Apd.Props.C16_Int64_exact
#print axioms Apd.Props.C16_Uint64
#print axioms Apd.Props.C16_Uint64_exact
#print axioms Apd.Props.C16_zero_never_negative
#print axioms Apd.Props.C16_zero_observers
#print axioms Apd.Props.C16_negative_zero_is_observable
#print axioms Apd.Props.intBit_eq_testBit
#print axioms Apd.Props.C16_stepWith_canon
#print axioms Apd.Props.C16_step_canon

end Apd.Props
