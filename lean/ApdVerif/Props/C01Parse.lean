import ApdVerif.Props.C14
import ApdVerif.Props.RoundCore
/-!
# C01 — context-aware parsing returns the denoted value rounded once

`Context.SetString` / `Context.NewFromString` (`Text.ctxSetString`): for a string of the numeric-string
grammar that denotes a finite number — coefficient `coeffOf`, exponent `denotedExp`, negative iff it is
written with a leading `-` (`Spec/Grammar.lean`, transcribed from the specification) — the delivered
result is that number rounded once to the context (`specRound`), with the flags of the specification
and fitting the context: the same `Agrees` as for the arithmetic operations.
-/
namespace Apd.Props
open Apd Apd.Oracle Apd.Spec Apd.Text Apd.TextL Apd.GramL

theorem head_optSign {sg t : List Char} (hs : OptSign sg) (ht : HeadOK t) :
    ((sg ++ t).head? == some '-') = decide (sg = ['-']) := by
  obtain ⟨c, r, rfl, h1, h2⟩ := ht
  rcases hs with rfl | rfl | rfl
  · simp [h2]
  · simp
  · simp

/-- the sign the specification assigns: a leading `-` -/
def writtenNeg (l : List Char) : Bool := l.head? == some '-'

/-- the parser returns the written sign (strengthens `parse_classify`, which leaves the sign open) -/
theorem C01_parse_sign {l : List Char} (hg : numericString l = true) (hr : ExpInt32L l) (hs : isSpecial l = false) :
    Text.parseL l = some ({ form := .finite, neg := writtenNeg l, exp := 0, coeff := coeffOf l }, denotedExp l) := by
  rw [numericString_iff] at hg
  obtain ⟨sg, t, rfl, hsg, hf | hb⟩ := hg
  · rw [parseL_finBody hsg hf, if_pos hr, writtenNeg, head_optSign hsg (body_headOK (.inl hf))]
  · rw [(isSpecial_iff _).2 ⟨sg, t, rfl, hsg, hb⟩] at hs; cases hs

/-!
## context-aware parsing = the denoted value rounded once

The statement with `Delivered o.err` in place of `hgo`,

```
theorem C01_value_parse (c : Ctx) (hc : c.WF) (s : String) (hg : GdaNumeric s) (hr : ExpInt32 s)
    (hs : isSpecial s.toList = false) (o : Out) (h : Text.ctxSetString c s = some o)
    (hd : Delivered o.err) (hn : NoSys o.fl) :
    Agrees c { neg := writtenNeg s.toList, num := coeffOf s.toList, den := 1, e10 := denotedExp s.toList } o.d o.fl
```

is FALSE in one corner: when a condition raised by `setString`'s own `setExponent` (Subnormal,
Underflow, Inexact, Rounded, Clamped, Overflow) is trapped, `Decimal.setString` returns the error and
`Context.SetString` returns `nil, 0, err` before `c.round` runs: the model's outcome is
`{ d := (unrounded destination), fl := {}, err := .trap }`.  `Delivered` (err = trap) and `NoSys`
(fl = {}) hold, but the flags are empty and the destination was never rounded to the precision.
Counterexample (`counterexample` below): `c = { prec := 3, emax := 9, emin := -9, traps := { subnormal := true } }`,
`s = "1e-10"`: outcome `1E-10`, flags `{}`, error `trap`; the specification says Subnormal.

`C01_value_parse_partial` adds the hypothesis that separates this corner from the rest: the returned
error is the one the returned flags imply (`o.err = goError c.traps o.fl`).  It holds on every
other path by construction and fails in the corner (`goError _ {} = none ≠ trap`); it is implied by
`o.err = .none` (`C01_value_parse_noerr`) and by `o.fl ≠ {}`-style knowledge that `c.round` ran.
-/

/-- the corner in which the statement without `hgo` fails -/
def cexCtx : Ctx := { prec := 3, emax := 9, emin := -9, traps := { subnormal := true } }

/-- the exact value the specification assigns to `"1e-10"` -/
def cexExact : Exact :=
  { neg := writtenNeg ("1e-10" : String).toList, num := coeffOf ("1e-10" : String).toList, den := 1,
    e10 := denotedExp ("1e-10" : String).toList }

theorem counterexample :
    cexCtx.WF ∧ GdaNumeric "1e-10" ∧ ExpInt32 "1e-10" ∧ isSpecial "1e-10".toList = false ∧
    ∃ o, Text.ctxSetString cexCtx "1e-10" = some o ∧ Delivered o.err ∧ NoSys o.fl ∧
      o.fl.subnormal = false ∧
      (specRound cexCtx cexExact).subnormal = true := by
  refine ⟨by decide, by decide, by decide, by decide, ?_⟩
  refine ⟨{ d := { form := .finite, neg := false, exp := -10, coeff := 1 }, fl := {}, err := .trap }, by decide,
    Or.inr rfl, ⟨rfl, rfl⟩, rfl, by decide⟩

/-- hence `Agrees` fails there (its Subnormal clause) -/
theorem counterexample_not_agrees :
    ∃ o, Text.ctxSetString cexCtx "1e-10" = some o ∧ Delivered o.err ∧ NoSys o.fl ∧
      ¬ Agrees cexCtx cexExact o.d o.fl := by
  obtain ⟨_, _, _, _, o, h1, h2, h3, h4, h5⟩ := counterexample
  refine ⟨o, h1, h2, h3, ?_⟩
  rintro ⟨_, hf, _⟩
  have := hf.2.1
  rw [h4, h5] at this
  cases this

/-- **context-aware parsing = the denoted value rounded once** (value, flags, fit), whenever the
error returned is the one the returned flags imply, i.e. outside the corner where a trap raised inside
`setString` makes `Context.SetString` return before rounding -/
theorem C01_value_parse_partial (c : Ctx) (hc : c.WF) (s : String) (hg : GdaNumeric s) (hr : ExpInt32 s)
    (hs : isSpecial s.toList = false) (o : Out) (h : Text.ctxSetString c s = some o)
    (hgo : o.err = goError c.traps o.fl) (hn : NoSys o.fl) :
    Agrees c { neg := writtenNeg s.toList, num := coeffOf s.toList, den := 1, e10 := denotedExp s.toList } o.d o.fl := by
  have hp := C01_parse_sign hg hr hs
  unfold Text.ctxSetString Text.setString Text.parse at h
  rw [hp] at h
  simp only [if_true] at h
  by_cases herr : goError c.traps
      (setExponent c { form := .finite, neg := writtenNeg s.toList, exp := 0, coeff := coeffOf s.toList } {}
        [denotedExp s.toList]).2 = .none
  · rw [if_pos herr] at h
    injection h with h
    subst h
    exact setThenRound c hc _ _ _ _ (sumInts_single _) hn
  · rw [if_neg herr] at h
    injection h with h
    subst h
    exfalso
    simp only [] at hgo
    rw [goError_noFlags] at hgo
    exact herr hgo

/-- the two ways `Context.SetString` returns: after rounding (the error is the one the flags imply),
or early with `setString`'s error and no flags -/
theorem ctxSetString_cases (c : Ctx) (s : String) (o : Out) (h : Text.ctxSetString c s = some o) :
    o.err = goError c.traps o.fl ∨ (o.fl = {} ∧ o.err ≠ .none) := by
  unfold Text.ctxSetString at h
  cases hq : Text.setString c s with
  | none => rw [hq] at h; cases h
  | some o1 =>
    rw [hq] at h
    simp only [] at h
    by_cases he : o1.err = .none
    · rw [if_pos he] at h
      injection h with h
      subst h
      exact Or.inl rfl
    · rw [if_neg he] at h
      injection h with h
      subst h
      exact Or.inr ⟨rfl, he⟩

/-- in particular when no error is returned at all -/
theorem C01_value_parse_noerr (c : Ctx) (hc : c.WF) (s : String) (hg : GdaNumeric s) (hr : ExpInt32 s)
    (hs : isSpecial s.toList = false) (o : Out) (h : Text.ctxSetString c s = some o)
    (he : o.err = .none) :
    Agrees c { neg := writtenNeg s.toList, num := coeffOf s.toList, den := 1, e10 := denotedExp s.toList } o.d o.fl := by
  rcases ctxSetString_cases c s o h with hgo | ⟨_, hne⟩
  · have hd : Delivered (goError c.traps o.fl) := by rw [← hgo, he]; exact Or.inl rfl
    exact C01_value_parse_partial c hc s hg hr hs o h hgo (noSys_of_delivered _ _ hd)
  · exact absurd he hne

/-- … and whenever the result is delivered with at least one flag raised (so `c.round` ran) -/
theorem C01_value_parse_flags (c : Ctx) (hc : c.WF) (s : String) (hg : GdaNumeric s) (hr : ExpInt32 s)
    (hs : isSpecial s.toList = false) (o : Out) (h : Text.ctxSetString c s = some o)
    (hd : Delivered o.err) (hfl : o.fl ≠ {}) :
    Agrees c { neg := writtenNeg s.toList, num := coeffOf s.toList, den := 1, e10 := denotedExp s.toList } o.d o.fl := by
  rcases ctxSetString_cases c s o h with hgo | ⟨h0, _⟩
  · rw [hgo] at hd
    exact C01_value_parse_partial c hc s hg hr hs o h hgo (noSys_of_delivered _ _ hd)
  · exact absurd h0 hfl

/-- non-vacuity: `"-12.345e1"` (= -123.45) under precision 3 is `-123`, Inexact and Rounded, no error -/
example :
    Text.ctxSetString { prec := 3, emax := 9, emin := -9 } "-12.345e1" =
      some { d := { form := .finite, neg := true, exp := 0, coeff := 123 },
             fl := { inexact := true, rounded := true }, err := .none } := by decide

example : Agrees { prec := 3, emax := 9, emin := -9 }
    { neg := true, num := 12345, den := 1, e10 := -2 }
    { form := .finite, neg := true, exp := 0, coeff := 123 } { inexact := true, rounded := true } := by
  have h := C01_value_parse_noerr { prec := 3, emax := 9, emin := -9 } (by decide) "-12.345e1" (by decide) (by decide)
    (by decide) { d := { form := .finite, neg := true, exp := 0, coeff := 123 },
                  fl := { inexact := true, rounded := true }, err := .none } (by decide) rfl
  have e1 : writtenNeg ("-12.345e1" : String).toList = true := by decide
  have e2 : coeffOf ("-12.345e1" : String).toList = 12345 := by decide
  have e3 : denotedExp ("-12.345e1" : String).toList = -2 := by decide
  rw [e1, e2, e3] at h
  exact h

/-- non-vacuity in the subnormal range: `"1.2345e-10"`, rounded once at Etiny = -11 to `12E-11` -/
example :
    Text.ctxSetString { prec := 3, emax := 9, emin := -9 } "1.2345e-10" =
      some { d := { form := .finite, neg := false, exp := -11, coeff := 12 },
             fl := { inexact := true, rounded := true, subnormal := true, underflow := true }, err := .none } := by
  decide

#print axioms C01_parse_sign
#print axioms C01_value_parse_partial
#print axioms C01_value_parse_noerr
#print axioms C01_value_parse_flags
#print axioms counterexample_not_agrees

end Apd.Props
