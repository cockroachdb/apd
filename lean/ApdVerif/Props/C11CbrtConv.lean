import ApdVerif.Lemmas.CbrtConvTail
import ApdVerif.Lemmas.CbrtConvEst
import ApdVerif.Props.C11Cbrt
import ApdVerif.Props.C04Cbrt
/-!
# C11 — `Context.Cbrt` returns without error

`Props/C11Cbrt.lean` proves that WHENEVER `Cbrt` returns without error the result is within one unit in the last place
(and exact on perfect cubes).  This file proves the other half, `C11_cbrt_returns`: under an explicit, decidable side
condition `CbrtSide c x` (defined in `Lemmas/CbrtConvMain.lean`) the call DOES return without error.  The proof is
`cbrtPrefix_spec`: the prefix always ends (`C04_cbrt_total`), the iterate at its normal exit is close to the root
(backwards, `CbrtL.prefix_iter`), and under `CbrtSide` no loop leaves through its error exit.  Each loop is read by
its rule (`Lemmas/ErrExits.lean`) with an invariant that the steps that did not fail keep (`scale_step`,
`round_nstep`) and that puts the operands of the next step in range, so that the step which would have failed did not:

* the scaling loops make at most `2·|adj x| + 2` multiplications in total (`stage_down`, `stage_up`);
* the four operations of Turkowski's polynomial estimate and the `|up - down|` halvings / doublings do not fail, and the
  cube of the first iterate is within `[0.97³/65, 1.03³·65]` of `|x|` — the polynomial is within 3 % of the cube root
  on `[0.1249, 1]` (`CbrtR.poly_bound`), and the up to `8·|adj| + 20` roundings together, each of relative size
  `ε = 5·10^(-2P-2)`, cost at most a factor 65 on the cube when `(8·|adj| + 20)·ε ≤ 4` (`CbrtR.pow_block`, `stage_est`);
* every round of the Newton loop is five non-failing operations; the first iterate is within `[0.24, 4.15]` times the
  root, seven rounds bring the ratio through `[0.997, 5.963]`, `… 3.995`, `2.692`, `1.846`, `1.332`, `1.079` to within
  `0.009` of 1 (`CbrtR.newton_wide`, `CbrtR.near_step`), from then on the relative error of the `k`-th further iterate is
  at most `0.07·10^(-k) + 0.3·10^(-2P)` (`CbrtR.newton_step`, `CbrtR.Ebound_step`), so `loop.done` answers yes at
  the latest in round `P + 9` of the `P + 11` allowed (`CbrtR.stop_ok`, `iter_fw`, `stage_iter`);
* the final rounding raises no system flag, and the two multiplications of the exactness re-check at `3P` digits are
  exact as long as the cube of the result stays inside the package limits (`tail_fw`, `CbrtC.recheck_iff`).

## The side condition `CbrtSide c x`, clause by clause (`P = c.prec`, `adj = x.exp + digits - 1`, `a = ⌊adj/3⌋`)

Every clause excludes a REAL failure of `Context.Cbrt` (Go results with `/repo` at HEAD, model results by `#eval`:
110000 scaling steps or 100000-digit operands are out of reach of `decide`):

1. `traps` do not contain Inexact, Rounded, Subnormal, Underflow, Overflow, Clamped: the final rounding raises them
   and `Cbrt` then returns the trap error (`C11_cbrt_traps_needed` below, by `decide`).
2. `P ≤ 24999`: at `P = 25000` the working precision is 50002 digits, the iterates have exponent `≈ -50002`, and
   the product `z·z` has exponent `< -100000` before it is rounded: `Cbrt(2)` at precision 25000 returns
   "exponent out of range" (Go), at 24999 it returns `1.2599…`.  FINDING: `Cbrt` cannot be used at all at
   precisions ≥ 25000.
3. `digits ≤ 99990`, 4. `-99988 + 2P ≤ x.exp`: operands with very many digits make the first multiplications
   (`z·0.125`, `z·c1` with exponent `-8`, `(c1·z+c2)·z`) produce an exponent below -100000 before rounding:
   `cbrtOp {prec := 1} {coeff := 5·10^99994 + 1, exp := -99995}` is a system error, with `exp := -99985` (10^99984) it
   is fine; Go: `0.5000…01` (99992 digits) at precision 5 → "exponent out of range".
   (Together they also keep the exponent difference in `|x| / (z·z)` above -100000.)
   FINDING (outside the domain of this theorem): for an operand above 8 with more than `100000 + 2P + 2` digits the
   first `z·0.125` fails inside `Rounder.Round` BEFORE `z` is changed, the `ErrDecimal` then skips every further
   multiplication, so that without a test of `ed.Err()` in `for z.Cmp(decimalOne) > 0 {…}` the loop does not end:
   `Cbrt(10^149999 + 1, exponent -99000)` did not return before commit 7d351b9 of `/repo`.  Both scaling loops test
   `ed.Err()` after every multiplication (`scaleLoop` has the error exit `.inl`) and the call returns the error (the
   model on `{coeff := 10^100020 + 1, exp := -60000}` at precision 5, same mechanism: `some` with `err = .sys`);
   `Props/C04Cbrt.lean` proves `C04_cbrt_total`: the model never runs out of fuel, for any operand.
5. `-50000 ≤ a - (2P+2)`: the square `z·z` of an iterate (`2P+2` digits, adjusted exponent `≈ a`) must not have an
   exponent below -100000 before rounding.  Go: precision 24999, `Cbrt(0.0005)` → "exponent out of range"
   (`a - (2P+2) = -50002`); `Cbrt(0.005)` is fine (`-50001`: the clause is within 1 of being tight).
6. `a ≤ 33331`: the re-check cubes the result; its cube must have adjusted exponent ≤ 100000:
   `cbrtOp {prec := 1} {coeff := 99999, exp := 99996}` = `Cbrt(9.9999E+100000)` is a system error (5E+33333 cubed is
   1.25E+100001).  FINDING: `Cbrt` fails on the largest representable operands.
7. `-100000 ≤ 3·(a - P)`: the re-check cubes the `P`-digit result, whose exponent is `≈ a - P + 1`:
   `cbrtOp {prec := 5} {exp := -100000, coeff := 1}` is a system error (4.6416E-33334 = 46416E-33338, cube exponent
   -100014).  FINDING: `Cbrt(1E-100000)` (and every operand below about `10^(3P - 100000)`) returns
   "exponent out of range" although the root is representable.  `C11_cbrt_sys` below proves this for EVERY operand: a
   call that returns a finite result without error has `3 × (exponent of the result) ≥ -100000`.  (The clause is within
   1 of tight: the result has exponent `≥ a - P`, and `= a - P + 1` when it has `P` digits.)
8. `(8·|adj| + 20)·5 ≤ 4·10^(2P+2)`: the roundings of the up to `2|adj| + 2` scaling multiplications and as many
   halvings/doublings, each of relative size `5·10^(-2P-2)`, must not move the first iterate out of the basin from which
   `P + 11` rounds suffice (a factor 65 on the cube).  For `P ≥ 2` this holds for EVERY operand (`|adj| ≤ 100000`); for
   `P = 1` it allows `|adj| ≤ 997`.  It is a worst-case bound (the true limit at `P = 1` is near `adj = -40444`), but
   SOME bound is needed for `P = 1`: precision 1 is the only precision at which `Cbrt` fails to converge.  FINDING: at precision 1
   the halvings `z·0.5` are rounded half-up at 4 digits, which rounds every odd coefficient UP; over the ≈ 45000 halvings
   needed for `x ≈ 10^-40000` the first iterate drifts to ≈ 50 times the root and the loop gives up:
   `cbrtOp {prec := 1} {coeff := 99, exp := -40445}` has `err = .other` ("did not converge after 12 iterations" in Go,
   smallest |exponent| found; 741 of 2587 sampled operands `d·10^e`, `|e| ≤ 99000`, fail at precision 1, all with
   `e < -40000`; no failure was found at precisions 2 and 3 apart from clauses 6 and 7).
-/
namespace Apd.Props
open Apd Apd.Oracle Apd.CbrtL Apd.CbrtC Apd.SqrtL

theorem side_of (c : Ctx) (hc : c.WF) (x : Dec) (hside : CbrtSide c x) :
    Side c.prec x.absD (adjX x) (adjX x / 3) := by
  obtain ⟨h1, h2, h3, h4, h5, h6, h8, h9⟩ := hside
  have hnp := ndigits_pos x.coeff
  have hP := hc.1
  exact
    { hP := hc.1, hP2 := h2, hnd := h3, hA := rfl, ha := rfl, S1 := h4, H1 := h5, H2 := h6,
      H3 := by
        show -100000 ≤ x.exp - 2 * (adjX x / 3) - 4
        unfold adjX at *
        omega
      C5 := h8, hK := side_K c.prec _ h9 }

/-- **the prefix of `Cbrt`, in one statement.**  It always ends (`C04_cbrt_total`); its error exits carry an error and
are not taken under `CbrtSide` (forwards, stage by stage: no loop leaves through its error exit); its normal exit hands
the tail an iterate within `3·10^(-2P)` of the root, whatever the operand (backwards, `prefix_iter`). -/
theorem cbrtPrefix_spec (c : Ctx) (hc : c.WF) (hp : c.prec * 3 + 2 ≤ 100000)
    (x : Dec) (hx : x.form = .finite) (h0 : x.coeff ≠ 0) :
    ∃ s, cbrtPrefix c x = some s ∧
      match s with
      | .inl o => (∃ er, er ≠ .none ∧ o = failOut er) ∧ ¬ CbrtSide c x
      | .inr (fl0, zf) => goError defaultTraps fl0 = .none ∧ CbrtT.Iter c x zf := by
  have hp2 : c.prec * 2 + 2 ≤ 100000 := by omega
  have hT := C04_cbrt_total c hp2 x
  rw [C11_cbrt_obs_factor, Option.isSome_map] at hT
  obtain ⟨s, hs⟩ := Option.isSome_iff_exists.1 hT
  refine ⟨s, hs, ?_⟩
  have hsp := rootSpecials_none c x hx h0
  rcases s with o | ⟨fl0, zf⟩
  · rcases prefix_some c x _ hsp hs with ⟨er, hne, h⟩ | ⟨_, _, _, _, _, _, _, -, -, -, h⟩
    · refine ⟨⟨er, hne, Sum.inl.inj h⟩, fun hside => ?_⟩
      have S := side_of c hc x hside
      have hax := absD_pos x hx h0
      have hwn := nc_nctx c hp2
      rw [cbrtPrefix_eq c x hsp] at hs
      obtain ⟨n1, f1⟩ := stage_down (nc c) c.prec x.absD _ _ S hwn hax
      rcases h1 : scaleLoop (fun z => decide (z.cmp decOneEighth < 0)) decEight 400000 { c := nc c } x.absD 0 with
        _ | er | ⟨ed1, z1, d⟩ <;> rw [h1] at hs <;> dsimp only at hs
      · cases hs
      · exact n1 er h1
      obtain ⟨a1, a2, a3, a4, a5, a6, a7⟩ := f1 _ _ _ h1
      obtain ⟨n2, f2⟩ := stage_up (nc c) c.prec x.absD _ _ S hwn hax ed1 z1 d a1 a2 a3 a4 a6 a7
      rcases h2 : scaleLoop (fun z => decide (z.cmp decOne > 0)) decOneEighth 400000 ed1 z1 0 with
        _ | er | ⟨ed2, z2, u⟩ <;> rw [h2] at hs <;> dsimp only at hs
      · cases hs
      · exact n2 er h2
      obtain ⟨b1, b2, b3, b4, b5, b6, b7⟩ := f2 _ _ _ h2
      obtain ⟨e1, e2, e3, e4, e5⟩ :=
        stage_est (nc c) c.prec x.absD _ _ S hwn hax ed2 z1 z2 d u b1 b2 b3 b4 a5 b5 b6 b7
      rcases h3 : cbrtIter (nc c) ((c.prec : Int) + 1) (10 + (c.prec + 1)) x.absD (10 + (c.prec + 1) + 2)
          (est ed2 z2 d u).1 (est ed2 z2 d u).2 {} with _ | er | zf <;> rw [h3] at hs <;> cases hs
      exact stage_iter (nc c) c.prec x.absD _ _ S hwn hax _ _ e1 e2 e3 e4 e5 er h3
    · cases h
  · exact prefix_iter c hc hp x hx h0 fl0 zf hs

/-- **C11, Cbrt returns**: under the explicit side condition `CbrtSide c x` the model of `Context.Cbrt` runs to
completion and the call returns with no error.  The proof shows on the way, without its being part of the statement, that
none of the loops exhausts the fuel, that the Newton loop stops within `Precision + 9` of the allowed `Precision + 11`
rounds (`iter_fw`) and that no internal operation raises a trapped condition -/
theorem C11_cbrt_returns (c : Ctx) (hc : c.WF) (x : Dec) (hx : x.form = .finite) (h0 : x.coeff ≠ 0) (hw : x.WF)
    (hside : CbrtSide c x) : ∃ o, cbrtOp c x = some o ∧ o.err = .none := by
  obtain ⟨s, hs, h⟩ := cbrtPrefix_spec c hc (by have := hside.2.1; omega) x hx h0
  rw [C11_cbrt_obs_factor, hs, Option.map_some]
  rcases s with o | ⟨fl0, zf⟩
  · exact absurd hside h.2
  · have S := side_of c hc x hside
    exact ⟨_, rfl, tail_fw c hc hside.2.1
      ⟨hside.1.1, hside.1.2.1, hside.1.2.2.1, hside.1.2.2.2.1, hside.1.2.2.2.2.1, hside.1.2.2.2.2.2⟩ x h0 hw fl0 h.1 zf
      h.2 _ (by rw [← absD_toRat]; exact (S.X_rng (absD_pos x hx h0)).2) S.H2 S.C5⟩

/-- at precisions `≥ 2` clause 8 follows from the others: **the only precision at which `Cbrt` can fail to converge
is 1** -/
theorem C11_cbrt_returns_prec2 (c : Ctx) (hc : c.WF) (x : Dec) (hx : x.form = .finite) (h0 : x.coeff ≠ 0) (hw : x.WF)
    (hP : 2 ≤ c.prec)
    (htraps : c.traps.inexact = false ∧ c.traps.rounded = false ∧ c.traps.subnormal = false ∧
      c.traps.underflow = false ∧ c.traps.overflow = false ∧ c.traps.clamped = false)
    (h2 : c.prec ≤ 24999) (h3 : ndigits x.coeff ≤ 99990) (h4 : -99988 + 2 * (c.prec : Int) ≤ x.exp)
    (h5 : -50000 ≤ adjX x / 3 - (2 * (c.prec : Int) + 2)) (h6 : adjX x / 3 ≤ 33331)
    (h7 : -100000 ≤ 3 * (adjX x / 3 - (c.prec : Int))) :
    ∃ o, cbrtOp c x = some o ∧ o.err = .none := by
  apply C11_cbrt_returns c hc x hx h0 hw
  refine ⟨htraps, h2, h3, h4, h5, h6, h7, ?_⟩
  have hA : (adjX x).natAbs ≤ 99996 := by omega
  have h10 : 10 ^ 6 ≤ 10 ^ (c.prec * 2 + 2) := Nat.pow_le_pow_right (by decide) (by omega)
  calc (8 * (adjX x).natAbs + 20) * 5 ≤ (8 * 99996 + 20) * 5 := by omega
    _ ≤ 4 * 10 ^ 6 := by norm_num
    _ ≤ 4 * 10 ^ (c.prec * 2 + 2) := by omega

/-! ## `CbrtSide` is satisfiable, and clause 1 is needed -/

example : CbrtSide { prec := 5, emax := 10, emin := -10 } { coeff := 2 } := by decide
example : CbrtSide { prec := 16 } { coeff := 12345678901234567890, exp := -30, neg := true } := by decide
example : CbrtSide { prec := 3 } { coeff := 1, exp := 99000 } := by decide
example : CbrtSide { prec := 3 } { coeff := 7, exp := -99000 } := by decide
example : CbrtSide { prec := 2 } { coeff := 7, exp := -99000 } := by decide
example : CbrtSide { prec := 2 } { coeff := 12345, exp := 99000 } := by decide
example : CbrtSide { prec := 1 } { coeff := 7, exp := -990 } := by decide
example : ¬ CbrtSide { prec := 25000 } { coeff := 2 } := fun h => absurd h.2.1 (by decide)
example : ¬ CbrtSide { prec := 5 } { coeff := 1, exp := -100000 } := by decide
example : ¬ CbrtSide { prec := 1 } { coeff := 99, exp := -40445 } := by decide

example : ∃ o, cbrtOp { prec := 5, emax := 10, emin := -10 } { coeff := 2 } = some o ∧ o.err = .none :=
  C11_cbrt_returns _ (by decide) _ rfl (by decide) (by decide) (by decide)

/-- clause 1 is needed: with Inexact trapped `Cbrt(2)` returns the trap error (and without it, no error) -/
theorem C11_cbrt_traps_needed :
    (cbrtOp { prec := 5, traps := { inexact := true } } { coeff := 2 }).map (·.err) = some .trap ∧
    (cbrtOp { prec := 5 } { coeff := 2 }).map (·.err) = some .none := by
  constructor <;> decide

/-- **a returned finite result has `3 × exponent ≥ -100000`** (the re-check cubes the result exactly at `3P` digits,
and the exponent of the cube passes through `setExponent`).  By `C11_cbrt_within_ulp` the result is the cube root to
`P` digits, exponent `≈ a - P + 1`: hence for every operand with `3·(a - P + 1) < -100000` — e.g. `1E-100000` at
any precision — `Cbrt` CANNOT return without error. -/
theorem C11_cbrt_sys (c : Ctx) (hc : c.WF) (hp : c.prec * 3 + 2 ≤ 100000)
    (x : Dec) (hx : x.form = .finite) (h0 : x.coeff ≠ 0) (hw : x.WF)
    (o : Out) (ho : cbrtOp c x = some o) (he : o.err = .none) (hf : o.d.form = .finite) :
    -100000 ≤ 3 * o.d.exp := by
  obtain ⟨zf, fl0, hpos, hnd, hlo', hhi', hoeq⟩ := CbrtL.last_iter c hc hp x hx h0 o ho he
  have hI : CbrtT.Iter c x zf := ⟨hpos, hnd, hlo', hhi'⟩
  rw [hoeq] at he hf ⊢
  obtain ⟨hnf, hd⟩ := CbrtT.tail_ok c x fl0 zf he
  rw [hd] at hf ⊢
  exact ((recheck_iff c hc.1 (by omega) fl0 zf _ hf
    (C11Q.fits_digits (CbrtT.cH c) _ hc.1 hf (CbrtT.final_agrees c hc hp x h0 hw zf hI).2.2.2)).1.1 hnf).2.1

/-- the polynomial first estimate is within 3 % of the cube root on `[0.1249, 1]` (on cubes) -/
theorem C11_cbrt_estimate (t : ℚ) (h0 : 1249 / 10000 ≤ t) (h1 : t ≤ 1) :
    (97 / 100) ^ 3 * t ≤ CbrtR.pc t ^ 3 ∧ CbrtR.pc t ^ 3 ≤ (103 / 100) ^ 3 * t := CbrtR.poly_bound t h0 h1

set_option linter.unusedVariables false in
/-- one rounded Newton step squares the error: from within `E ≤ 0.073` of the root to within `1.12·E² + Θ` -/
theorem C11_cbrt_newton_contracts (a n w E Θ : ℝ) (hE : E ≤ 73 / 1000) (ha : |a - 1| ≤ E)
    (hn : 3 * a ^ 2 * n = 2 * a ^ 3 + 1) (hΘ0 : 0 ≤ Θ) (hΘ : Θ ≤ 3 / 1000) (hw : |w - n| ≤ Θ * n) :
    |w - 1| ≤ 112 / 100 * E ^ 2 + Θ := CbrtR.newton_step a n w E Θ hE ha hn hΘ hw

end Apd.Props

#print axioms Apd.Props.C11_cbrt_returns
#print axioms Apd.Props.C11_cbrt_returns_prec2
#print axioms Apd.Props.C11_cbrt_sys
#print axioms Apd.Props.C11_cbrt_traps_needed
#print axioms Apd.Props.C11_cbrt_estimate
#print axioms Apd.Props.C11_cbrt_newton_contracts
