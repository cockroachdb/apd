import ApdVerif.Props.Mul
import ApdVerif.Props.Quo
/-!
# C20 — scaling law: multiplying the exact value by a power of ten shifts the rounded result

The modes stream checks on implementation outputs that scaling the operands by `10^k` scales the result
(`rel scale` lines) as long as both results are in the normal range.  Here it is a theorem: first about the
specification (`specRound`), then about the model through the C01 theorems (`scale_of_agrees`).
-/
namespace Apd.Props
open Apd Apd.Oracle

/-- the scaling law of the specification, without side conditions on the exact value (an exact zero keeps
its exponent in `specRound`, so it scales too; `den` plays no role) -/
theorem C20_scale_spec_any (c : Ctx) (v : Exact) (k : Int) :
    let s := specRound c v
    let s' := specRound c { v with e10 := v.e10 + k }
    s.subnormal = false → s'.subnormal = false → s.inf = false → s'.inf = false →
    s'.m = s.m ∧ s'.q = s.q + k ∧ s'.inexact = s.inexact ∧ s'.neg = s.neg := by
  intro s s' hs hs' hi hi'
  by_cases hn : v.num = 0
  · have e : s = { neg := v.neg, m := 0, q := v.e10 } := specRound_of_zero c v hn
    have e' : s' = { neg := v.neg, m := 0, q := v.e10 + k } := specRound_of_zero c _ hn
    rw [e, e']; simp
  -- both results are `specCore` of a `roundAt`; shifting exponent and quantum together leaves `roundAt` alone
  have e : s = C20L.specCore c v (roundAt c.mode v.neg v.num v.den v.e10 (C20L.specQ c v)) :=
    RatSpec.specRound_pos c v (Nat.pos_of_ne_zero hn)
  have e' : s' = C20L.specCore c { v with e10 := v.e10 + k }
      (roundAt c.mode v.neg v.num v.den (v.e10 + k) (C20L.specQ c { v with e10 := v.e10 + k })) :=
    RatSpec.specRound_pos c { v with e10 := v.e10 + k } (Nat.pos_of_ne_zero hn)
  rw [e] at hs hi ⊢
  rw [e'] at hs' hi' ⊢
  obtain ⟨m1, q1, i1⟩ := C20L.specCore_of_fin _ _ _ hi
  obtain ⟨m2, q2, i2⟩ := C20L.specCore_of_fin _ _ _ hi'
  obtain ⟨n1, b1⟩ := C20L.specCore_neg_sub c v (roundAt c.mode v.neg v.num v.den v.e10 (C20L.specQ c v))
  obtain ⟨n2, b2⟩ := C20L.specCore_neg_sub c { v with e10 := v.e10 + k }
    (roundAt c.mode v.neg v.num v.den (v.e10 + k) (C20L.specQ c { v with e10 := v.e10 + k }))
  rw [b1, decide_eq_false_iff_not] at hs
  rw [b2, decide_eq_false_iff_not] at hs'
  have hQ : C20L.specQ c { v with e10 := v.e10 + k } = C20L.specQ c v + k := by
    unfold C20L.specQ; simp only [] at hs' ⊢; omega
  have key : roundAt c.mode v.neg v.num v.den (v.e10 + k) (C20L.specQ c v + k)
      = roundAt c.mode v.neg v.num v.den v.e10 (C20L.specQ c v) := by
    unfold roundAt
    rw [show C20L.specQ c v + k - (v.e10 + k) = C20L.specQ c v - v.e10 by omega]
  rw [m1, m2, q1, q2, i1, i2, n1, n2, hQ, key]
  exact ⟨rfl, rfl, rfl, rfl⟩

set_option linter.unusedVariables false in
/-- **scaling law of the specification**: when neither the value nor the scaled value is subnormal or
overflows, the rounded coefficient and the Inexact verdict are the same and the exponent is shifted by `k` -/
theorem C20_scale_spec (c : Ctx) (v : Exact) (k : Int) (hn : 0 < v.num) (hd : 0 < v.den) :
    let s := specRound c v
    let s' := specRound c { v with e10 := v.e10 + k }
    s.subnormal = false → s'.subnormal = false → s.inf = false → s'.inf = false →
    s'.m = s.m ∧ s'.q = s.q + k ∧ s'.inexact = s.inexact ∧ s'.neg = s.neg :=
  C20_scale_spec_any c v k

theorem matches_shift (s s' : SpecOut) (d : Dec) (k : Int) (hd : d.form = .finite)
    (hinf : s.inf = s'.inf) (hneg : s'.neg = s.neg) (hm : s'.m = s.m) (hq : s'.q = s.q + k)
    (h : s'.matches d = true) : s.matches { d with exp := d.exp - k } = true := by
  unfold SpecOut.matches at h ⊢
  simp only [hd] at h ⊢
  rw [hinf, ← hneg, ← hm]
  have e1 : d.exp - k - s.q = d.exp - s'.q := by omega
  have e2 : s.q - (d.exp - k) = s'.q - d.exp := by omega
  have e3 : (d.exp - k ≥ s.q) ↔ (d.exp ≥ s'.q) := by omega
  rw [e1, e2]
  simp only [e3]
  exact h

/-- transfer of the scaling law through `Agrees`: two delivered finite outcomes that agree with the
specification on an exact value and on the same value scaled by `10^k`, neither Subnormal -/
theorem scale_of_agrees (c : Ctx) (ex : Exact) (k : Int) (d d' : Dec) (fl fl' : Cond)
    (A : Agrees c ex d fl) (A' : Agrees c { ex with e10 := ex.e10 + k } d' fl')
    (hf : d.form = .finite) (hf' : d'.form = .finite)
    (hsub : fl.subnormal = false) (hsub' : fl'.subnormal = false) :
    (specRound c ex).matches { d' with exp := d'.exp - k } = true ∧ fl'.inexact = fl.inexact := by
  obtain ⟨hm, hfl, _⟩ := A
  obtain ⟨hm', hfl', _⟩ := A'
  have hi := ((RatSpec.Rat_matches_iff _ _ hf).1 hm).1
  have hi' := ((RatSpec.Rat_matches_iff _ _ hf').1 hm').1
  have hs : (specRound c ex).subnormal = false := by rw [← hfl.2.1]; exact hsub
  have hs' : (specRound c { ex with e10 := ex.e10 + k }).subnormal = false := by
    rw [← hfl'.2.1]; exact hsub'
  obtain ⟨e1, e2, e3, e4⟩ := C20_scale_spec_any c ex k hs hs' hi hi'
  refine ⟨matches_shift _ _ _ k hf' (by rw [hi, hi']) e4 e1 e2 hm', ?_⟩
  rw [hfl'.1, hfl.1, e3]

set_option linter.unusedVariables false in
/-- **scaling law for Mul on the model**: scaling one operand of a product by `10^k` shifts the delivered
result, when both results are delivered, finite, and neither raised Subnormal or Overflow.  The proof uses
neither `hx0`, `hy0` nor the two `NoSys` hypotheses (a zero product scales too, and `Delivered` already excludes
the system flags); `C20_scale_mul_right`, for the other operand, is stated without them. -/
theorem C20_scale_mul (c : Ctx) (hc : c.WF) (x y : Dec) (k : Int) (hx : x.form = .finite) (hy : y.form = .finite)
    (hx0 : x.coeff ≠ 0) (hy0 : y.coeff ≠ 0) :
    let o := mulOp c x y
    let o' := mulOp c { x with exp := x.exp + k } y
    NoSys o.fl → NoSys o'.fl → Delivered o.err → Delivered o'.err →
    o.d.form = .finite → o'.d.form = .finite → o.fl.subnormal = false → o'.fl.subnormal = false →
    (specRound c (exactMul x y)).matches { o'.d with exp := o'.d.exp - k } = true ∧ o'.fl.inexact = o.fl.inexact := by
  intro o o' _ _ hdel hdel' hf hf' hsub hsub'
  have A := C01_mul c hc x y hx hy hdel
  have A' := C01_mul c hc { x with exp := x.exp + k } y hx hy hdel'
  have ev : exactMul { x with exp := x.exp + k } y = { exactMul x y with e10 := (exactMul x y).e10 + k } := by
    simp only [exactMul]
    congr 1
    omega
  rw [ev] at A'
  exact scale_of_agrees c _ k _ _ _ _ A A' hf hf' hsub hsub'

theorem C20_scale_mul_right (c : Ctx) (hc : c.WF) (x y : Dec) (k : Int) (hx : x.form = .finite) (hy : y.form = .finite) :
    let o := mulOp c x y
    let o' := mulOp c x { y with exp := y.exp + k }
    Delivered o.err → Delivered o'.err →
    o.d.form = .finite → o'.d.form = .finite → o.fl.subnormal = false → o'.fl.subnormal = false →
    (specRound c (exactMul x y)).matches { o'.d with exp := o'.d.exp - k } = true ∧ o'.fl.inexact = o.fl.inexact := by
  intro o o' hdel hdel' hf hf' hsub hsub'
  have A := C01_mul c hc x y hx hy hdel
  have A' := C01_mul c hc x { y with exp := y.exp + k } hx hy hdel'
  have ev : exactMul x { y with exp := y.exp + k } = { exactMul x y with e10 := (exactMul x y).e10 + k } := by
    simp only [exactMul]
    congr 1
    omega
  rw [ev] at A'
  exact scale_of_agrees c _ k _ _ _ _ A A' hf hf' hsub hsub'

/-- **scaling law for Quo on the model**: scaling the dividend by `10^k` shifts the delivered quotient -/
theorem C20_scale_quo (c : Ctx) (hc : c.WF) (x y : Dec) (k : Int) (hx : x.form = .finite) (hy : y.form = .finite)
    (hy0 : y.coeff ≠ 0) :
    let o := quoOp c x y
    let o' := quoOp c { x with exp := x.exp + k } y
    Delivered o.err → Delivered o'.err →
    o.d.form = .finite → o'.d.form = .finite → o.fl.subnormal = false → o'.fl.subnormal = false →
    (specRound c (exactQuo x y)).matches { o'.d with exp := o'.d.exp - k } = true ∧ o'.fl.inexact = o.fl.inexact := by
  intro o o' hdel hdel' hf hf' hsub hsub'
  have A := C01_quo c hc x y hx hy hy0 hdel
  have A' := C01_quo c hc { x with exp := x.exp + k } y hx hy hy0 hdel'
  have ev : exactQuo { x with exp := x.exp + k } y = { exactQuo x y with e10 := (exactQuo x y).e10 + k } := by
    simp only [exactQuo]
    congr 1
    omega
  rw [ev] at A'
  exact scale_of_agrees c _ k _ _ _ _ A A' hf hf' hsub hsub'

/-- scaling the divisor by `10^k` shifts the delivered quotient by `-k` -/
theorem C20_scale_quo_right (c : Ctx) (hc : c.WF) (x y : Dec) (k : Int) (hx : x.form = .finite) (hy : y.form = .finite)
    (hy0 : y.coeff ≠ 0) :
    let o := quoOp c x y
    let o' := quoOp c x { y with exp := y.exp + k }
    Delivered o.err → Delivered o'.err →
    o.d.form = .finite → o'.d.form = .finite → o.fl.subnormal = false → o'.fl.subnormal = false →
    (specRound c (exactQuo x y)).matches { o'.d with exp := o'.d.exp - (-k) } = true ∧ o'.fl.inexact = o.fl.inexact := by
  intro o o' hdel hdel' hf hf' hsub hsub'
  have A := C01_quo c hc x y hx hy hy0 hdel
  have A' := C01_quo c hc x { y with exp := y.exp + k } hx hy hy0 hdel'
  have ev : exactQuo x { y with exp := y.exp + k } = { exactQuo x y with e10 := (exactQuo x y).e10 + (-k) } := by
    simp only [exactQuo]
    congr 1
    omega
  rw [ev] at A'
  exact scale_of_agrees c _ (-k) _ _ _ _ A A' hf hf' hsub hsub'

theorem exactAdd_scale (c : Ctx) (x y : Dec) (sub : Bool) (k : Int) :
    exactAdd c { x with exp := x.exp + k } { y with exp := y.exp + k } sub
      = { exactAdd c x y sub with e10 := (exactAdd c x y sub).e10 + k } := by
  unfold exactAdd
  have e0 : min (x.exp + k) (y.exp + k) = min x.exp y.exp + k := by omega
  have e1 : x.exp + k - (min x.exp y.exp + k) = x.exp - min x.exp y.exp := by omega
  have e2 : y.exp + k - (min x.exp y.exp + k) = y.exp - min x.exp y.exp := by omega
  simp only [e0, e1, e2]
  generalize x.coeff * 10 ^ (x.exp - min x.exp y.exp).toNat = A
  generalize y.coeff * 10 ^ (y.exp - min x.exp y.exp).toNat = B
  by_cases h1 : (x.neg == if sub = true then !y.neg else y.neg) = true
  · simp only [if_pos h1]
  · simp only [if_neg h1]
    by_cases h2 : A > B
    · simp only [if_pos h2]
    · simp only [if_neg h2]
      by_cases h3 : A < B
      · simp only [if_pos h3]
      · simp only [if_neg h3]

/-- **scaling law for Add/Sub on the model**: scaling both operands by `10^k` shifts the delivered sum
(an exact zero result included) -/
theorem C20_scale_add (c : Ctx) (hc : c.WF) (x y : Dec) (sub : Bool) (k : Int)
    (hx : x.form = .finite) (hy : y.form = .finite) :
    let o := addOp c x y sub
    let o' := addOp c { x with exp := x.exp + k } { y with exp := y.exp + k } sub
    Delivered o.err → Delivered o'.err →
    o.d.form = .finite → o'.d.form = .finite → o.fl.subnormal = false → o'.fl.subnormal = false →
    (specRound c (exactAdd c x y sub)).matches { o'.d with exp := o'.d.exp - k } = true ∧ o'.fl.inexact = o.fl.inexact := by
  intro o o' hdel hdel' hf hf' hsub hsub'
  have A := C01_add c hc x y sub hx hy hdel
  have A' := C01_add c hc { x with exp := x.exp + k } { y with exp := y.exp + k } sub hx hy hdel'
  rw [exactAdd_scale] at A'
  exact scale_of_agrees c _ k _ _ _ _ A A' hf hf' hsub hsub'

example : (specRound { prec := 3, emax := 9, emin := -9 } { neg := false, num := 12345, den := 1, e10 := 0 }).m = 123 := by decide

#print axioms C20_scale_spec
#print axioms C20_scale_mul
#print axioms C20_scale_mul_right
#print axioms C20_scale_quo
#print axioms C20_scale_quo_right
#print axioms C20_scale_add

end Apd.Props
