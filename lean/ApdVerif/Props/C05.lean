import ApdVerif.Lemmas.C05RunLemmas
/-!
# C05 — any argument of a `Context` method may alias the destination or another argument

`C05_<op>` are the statements on cells, read off the run lemmas `<op>P_run` of `Lemmas/C05RunLemmas` (which hold for
every heap and every choice of the destination cell and the operand pointers, hence for every aliasing pattern);
`C05_ctxOp` covers the table `runCtxOp`.  For undelivered outcomes (system-limit exits) C05/C06 claim the error
class only: see the head of `Lemmas/C05RunLemmas` for what `Mul` and `Quo` leave behind there.
-/
namespace Apd.Props
open Apd.Imp

/-! ## C05: the statements

For every heap `h` and EVERY choice of the cells `d`, `x`, `y` (all aliasing patterns at once): the error class is
the value-level model's on the operands' prior values; if the outcome is delivered, so are the flags, the aux
result and the final contents of `d`; and no cell other than `d` changes (C06 frame). -/

theorem C05_add (c : Ctx) (d x y : Cell) (h : Heap) :
    let r := run (addP c d (.cell x) (.cell y) false) h
    let m := addOp c (h x) (h y) false
    r.1.2.1 = m.err ∧ (Delivered r.1.2.1 → r.1.1 = m.fl ∧ r.2 d = m.d ∧ r.1.2.2 = m.aux) ∧
    ∀ cell, cell ≠ d → r.2 cell = h cell :=
  (addP_run c d (.cell x) (.cell y) false h).spec

/-- `Context.Sub(d, x, y)` -/
theorem C05_sub (c : Ctx) (d x y : Cell) (h : Heap) :
    let r := run (addP c d (.cell x) (.cell y) true) h
    let m := addOp c (h x) (h y) true
    r.1.2.1 = m.err ∧ (Delivered r.1.2.1 → r.1.1 = m.fl ∧ r.2 d = m.d ∧ r.1.2.2 = m.aux) ∧
    ∀ cell, cell ≠ d → r.2 cell = h cell :=
  (addP_run c d (.cell x) (.cell y) true h).spec

theorem C05_mul (c : Ctx) (d x y : Cell) (h : Heap) :
    let r := run (mulP c d (.cell x) (.cell y)) h
    let m := mulOp c (h x) (h y)
    r.1.2.1 = m.err ∧ (Delivered r.1.2.1 → r.1.1 = m.fl ∧ r.2 d = m.d ∧ r.1.2.2 = m.aux) ∧
    ∀ cell, cell ≠ d → r.2 cell = h cell :=
  (mulP_run c d (.cell x) (.cell y) h).spec

theorem C05_quo (c : Ctx) (d x y : Cell) (h : Heap) :
    let r := run (quoP c d (.cell x) (.cell y)) h
    let m := quoOp c (h x) (h y)
    r.1.2.1 = m.err ∧ (Delivered r.1.2.1 → r.1.1 = m.fl ∧ r.2 d = m.d ∧ r.1.2.2 = m.aux) ∧
    ∀ cell, cell ≠ d → r.2 cell = h cell :=
  (quoP_run c d (.cell x) (.cell y) h).spec

/-- `Context.QuoInteger(d, x, y)` -/
theorem C05_quoint (c : Ctx) (d x y : Cell) (h : Heap) :
    let r := run (quoIntegerP c d (.cell x) (.cell y)) h
    let m := quoIntegerOp c (h x) (h y)
    r.1.2.1 = m.err ∧ (Delivered r.1.2.1 → r.1.1 = m.fl ∧ r.2 d = m.d ∧ r.1.2.2 = m.aux) ∧
    ∀ cell, cell ≠ d → r.2 cell = h cell :=
  (quoIntegerP_run c d (.cell x) (.cell y) h).spec

theorem C05_rem (c : Ctx) (d x y : Cell) (h : Heap) :
    let r := run (remP c d (.cell x) (.cell y)) h
    let m := remOp c (h x) (h y)
    r.1.2.1 = m.err ∧ (Delivered r.1.2.1 → r.1.1 = m.fl ∧ r.2 d = m.d ∧ r.1.2.2 = m.aux) ∧
    ∀ cell, cell ≠ d → r.2 cell = h cell :=
  (remP_run c d (.cell x) (.cell y) h).spec

theorem C05_cmp (c : Ctx) (d x y : Cell) (h : Heap) :
    let r := run (cmpOpP c d (.cell x) (.cell y)) h
    let m := cmpOp c (h x) (h y)
    r.1.2.1 = m.err ∧ (Delivered r.1.2.1 → r.1.1 = m.fl ∧ r.2 d = m.d ∧ r.1.2.2 = m.aux) ∧
    ∀ cell, cell ≠ d → r.2 cell = h cell :=
  (cmpOpP_run c d (.cell x) (.cell y) h).spec

theorem C05_abs (c : Ctx) (d x : Cell) (h : Heap) :
    let r := run (absP c d (.cell x)) h
    let m := absOp c (h x)
    r.1.2.1 = m.err ∧ (Delivered r.1.2.1 → r.1.1 = m.fl ∧ r.2 d = m.d ∧ r.1.2.2 = m.aux) ∧
    ∀ cell, cell ≠ d → r.2 cell = h cell :=
  (absP_run c d (.cell x) h).spec

theorem C05_neg (c : Ctx) (d x : Cell) (h : Heap) :
    let r := run (negP c d (.cell x)) h
    let m := negOp c (h x)
    r.1.2.1 = m.err ∧ (Delivered r.1.2.1 → r.1.1 = m.fl ∧ r.2 d = m.d ∧ r.1.2.2 = m.aux) ∧
    ∀ cell, cell ≠ d → r.2 cell = h cell :=
  (negP_run c d (.cell x) h).spec

/-- `Context.Round(d, x)` -/
theorem C05_round (c : Ctx) (d x : Cell) (h : Heap) :
    let r := run (roundOpP c d (.cell x)) h
    let m := roundOp c (h x)
    r.1.2.1 = m.err ∧ (Delivered r.1.2.1 → r.1.1 = m.fl ∧ r.2 d = m.d ∧ r.1.2.2 = m.aux) ∧
    ∀ cell, cell ≠ d → r.2 cell = h cell :=
  (roundOpP_run c d (.cell x) h).spec

/-- `Context.Reduce(d, x)`; aux = number of zeros removed -/
theorem C05_reduce (c : Ctx) (d x : Cell) (h : Heap) :
    let r := run (reduceP c d (.cell x)) h
    let m := reduceOp c (h x)
    r.1.2.1 = m.err ∧ (Delivered r.1.2.1 → r.1.1 = m.fl ∧ r.2 d = m.d ∧ r.1.2.2 = m.aux) ∧
    ∀ cell, cell ≠ d → r.2 cell = h cell :=
  (reduceP_run c d (.cell x) h).spec

/-- `Context.RoundToIntegralExact(d, x)` -/
theorem C05_rtie (c : Ctx) (d x : Cell) (h : Heap) :
    let r := run (rtieP c d (.cell x)) h
    let m := roundToIntegralExactOp c (h x)
    r.1.2.1 = m.err ∧ (Delivered r.1.2.1 → r.1.1 = m.fl ∧ r.2 d = m.d ∧ r.1.2.2 = m.aux) ∧
    ∀ cell, cell ≠ d → r.2 cell = h cell :=
  (rtieP_run c d (.cell x) h).spec

/-- `Context.RoundToIntegralValue(d, x)` -/
theorem C05_rtiv (c : Ctx) (d x : Cell) (h : Heap) :
    let r := run (rtivP c d (.cell x)) h
    let m := roundToIntegralValueOp c (h x)
    r.1.2.1 = m.err ∧ (Delivered r.1.2.1 → r.1.1 = m.fl ∧ r.2 d = m.d ∧ r.1.2.2 = m.aux) ∧
    ∀ cell, cell ≠ d → r.2 cell = h cell :=
  (rtivP_run c d (.cell x) h).spec

theorem C05_ceil (c : Ctx) (d x : Cell) (h : Heap) :
    let r := run (ceilP c d (.cell x)) h
    let m := ceilOp c (h x)
    r.1.2.1 = m.err ∧ (Delivered r.1.2.1 → r.1.1 = m.fl ∧ r.2 d = m.d ∧ r.1.2.2 = m.aux) ∧
    ∀ cell, cell ≠ d → r.2 cell = h cell :=
  (ceilP_run c d (.cell x) h).spec

theorem C05_floor (c : Ctx) (d x : Cell) (h : Heap) :
    let r := run (floorP c d (.cell x)) h
    let m := floorOp c (h x)
    r.1.2.1 = m.err ∧ (Delivered r.1.2.1 → r.1.1 = m.fl ∧ r.2 d = m.d ∧ r.1.2.2 = m.aux) ∧
    ∀ cell, cell ≠ d → r.2 cell = h cell :=
  (floorP_run c d (.cell x) h).spec

theorem C05_quantize (c : Ctx) (d x : Cell) (exp : Int) (h : Heap) :
    let r := run (quantizeP c d (.cell x) exp) h
    let m := quantizeOp c (h x) exp
    r.1.2.1 = m.err ∧ (Delivered r.1.2.1 → r.1.1 = m.fl ∧ r.2 d = m.d ∧ r.1.2.2 = m.aux) ∧
    ∀ cell, cell ≠ d → r.2 cell = h cell :=
  (quantizeP_run c d (.cell x) exp h).spec

/-- the value-level model by op name: these rows of the table `Apd.runCtxOp` (`Model/Dispatch.lean`), written out again;
no lemma ties the two tables -/
def modelCtxOp (op : String) (c : Ctx) (x y : Dec) (iarg : Int) : Option Out :=
  if op = "add" then some (addOp c x y false)
  else if op = "sub" then some (addOp c x y true)
  else if op = "mul" then some (mulOp c x y)
  else if op = "quo" then some (quoOp c x y)
  else if op = "quoint" then some (quoIntegerOp c x y)
  else if op = "rem" then some (remOp c x y)
  else if op = "abs" then some (absOp c x)
  else if op = "neg" then some (negOp c x)
  else if op = "round" then some (roundOp c x)
  else if op = "reduce" then some (reduceOp c x)
  else if op = "cmp" then some (cmpOp c x y)
  else if op = "quantize" then some (quantizeOp c x iarg)
  else if op = "rtie" then some (roundToIntegralExactOp c x)
  else if op = "rtiv" then some (roundToIntegralValueOp c x)
  else if op = "ceil" then some (ceilOp c x)
  else if op = "floor" then some (floorOp c x)
  else none

theorem ctxOp_row {op s : String} {d : Cell} {h : Heap} {p P : Prog Res} {M : Out} {R : Option (Prog Res)}
    {R' : Option Out} (hrun : OpRun P d h M) (hp : (if op = s then some P else R) = some p)
    (hrest : R = some p → ∃ m, R' = some m ∧ OpSpec p d h m) :
    ∃ m, (if op = s then some M else R') = some m ∧ OpSpec p d h m := by
  by_cases h0 : op = s
  · rw [if_pos h0] at hp ⊢; cases hp; exact ⟨_, rfl, hrun.spec⟩
  · rw [if_neg h0] at hp ⊢; exact hrest hp

theorem C05_ctxOp {op : String} {c : Ctx} {d x y : Cell} {iarg : Int} {p : Prog Res}
    (hp : runCtxOp op c d x y iarg = some p) (h : Heap) :
    ∃ m, modelCtxOp op c (h x) (h y) iarg = some m ∧ OpSpec p d h m := by
  unfold runCtxOp at hp
  unfold modelCtxOp
  refine ctxOp_row (addP_run c d (.cell x) (.cell y) false h) hp fun hp => ?_
  refine ctxOp_row (addP_run c d (.cell x) (.cell y) true h) hp fun hp => ?_
  refine ctxOp_row (mulP_run c d (.cell x) (.cell y) h) hp fun hp => ?_
  refine ctxOp_row (quoP_run c d (.cell x) (.cell y) h) hp fun hp => ?_
  refine ctxOp_row (quoIntegerP_run c d (.cell x) (.cell y) h) hp fun hp => ?_
  refine ctxOp_row (remP_run c d (.cell x) (.cell y) h) hp fun hp => ?_
  refine ctxOp_row (absP_run c d (.cell x) h) hp fun hp => ?_
  refine ctxOp_row (negP_run c d (.cell x) h) hp fun hp => ?_
  refine ctxOp_row (roundOpP_run c d (.cell x) h) hp fun hp => ?_
  refine ctxOp_row (reduceP_run c d (.cell x) h) hp fun hp => ?_
  refine ctxOp_row (cmpOpP_run c d (.cell x) (.cell y) h) hp fun hp => ?_
  refine ctxOp_row (quantizeP_run c d (.cell x) iarg h) hp fun hp => ?_
  refine ctxOp_row (rtieP_run c d (.cell x) h) hp fun hp => ?_
  refine ctxOp_row (rtivP_run c d (.cell x) h) hp fun hp => ?_
  refine ctxOp_row (ceilP_run c d (.cell x) h) hp fun hp => ?_
  refine ctxOp_row (floorP_run c d (.cell x) h) hp fun hp => ?_
  cases hp

theorem set_spec {α : Type} {r : α × Heap} {a : α} {h : Heap} {d : Cell} {v : Dec} (hr : r = (a, h.set d v)) :
    r.1 = a ∧ r.2 d = v ∧ ∀ cell, cell ≠ d → r.2 cell = h cell := by
  subst hr; exact ⟨rfl, Heap.set_same _ _ _, fun _ hc => Heap.set_other _ _ hc⟩

/-- `d.Set(x)` -/
theorem C05_set (d x : Cell) (h : Heap) :
    let r := run (setDec d (.cell x)) h
    r.2 d = h x ∧ ∀ cell, cell ≠ d → r.2 cell = h cell := (set_spec (run_setDec d (.cell x) h)).2

/-- `d.Neg(x)` -/
theorem C05_negDec (d x : Cell) (h : Heap) :
    let r := run (negDec d (.cell x)) h
    r.2 d = (h x).negD ∧ ∀ cell, cell ≠ d → r.2 cell = h cell := (set_spec (run_negDec d (.cell x) h)).2

/-- `d.Abs(x)` -/
theorem C05_absDec (d x : Cell) (h : Heap) :
    let r := run (absDec d (.cell x)) h
    r.2 d = (h x).absD ∧ ∀ cell, cell ≠ d → r.2 cell = h cell := (set_spec (run_absDec d (.cell x) h)).2

/-- `d.Reduce(x)` -/
theorem C05_reduceDec (d x : Cell) (h : Heap) :
    let r := run (reduceDec d (.cell x)) h
    r.1 = ((reduceD (h x)).2 : Int) ∧ r.2 d = (reduceD (h x)).1 ∧ ∀ cell, cell ≠ d → r.2 cell = h cell :=
  set_spec (run_reduceDec d (.cell x) h)

/-- `r.Modf(integ, frac)`: either output may be nil, either may be the receiver `r`; `integ ≠ frac` -/
theorem C05_modf (r : Cell) (integ frac : Option Cell) (h : Heap) (hne : ∀ i, integ = some i → frac ≠ some i) :
    let h' := (run (modfP (.cell r) integ frac) h).2
    (∀ i, integ = some i → h' i = (modf (h r)).1) ∧
    (∀ f, frac = some f → h' f = (modf (h r)).2) ∧
    ∀ cell, integ ≠ some cell → frac ≠ some cell → h' cell = h cell :=
  modfP_spec (.cell r) integ frac h hne

/-- `d.setExponent(c, nd, res, xs...)` with `nd` unknown or correct -/
theorem C05_setExponent (c : Ctx) (d : Cell) (nd : Option Nat) (res : Cond) (xs : List Int) (h : Heap)
    (hnd : ∀ n, nd = some n → n = ndigits (h d).coeff) :
    let r := run (setExponentP c d nd res xs) h
    r.1 = (setExponent c (h d) res xs).2 ∧ r.2 d = (setExponent c (h d) res xs).1 ∧
    ∀ cell, cell ≠ d → r.2 cell = h cell :=
  set_spec (run_setExponentP c d nd res xs h hnd)

/-- `Rounder.Round(c, d, x, disableIfPrecisionZero)` -/
theorem C05_Round (c : Ctx) (d x : Cell) (dis : Bool) (h : Heap) :
    let r := run (roundP c d (.cell x) dis) h
    r.1 = (roundX c (h x) dis).2 ∧ r.2 d = (roundX c (h x) dis).1 ∧ ∀ cell, cell ≠ d → r.2 cell = h cell :=
  set_spec (run_roundP c d (.cell x) dis h)

/-- `c.setAsNaN(d, x, y)` (called only when one of the operands is a NaN) -/
theorem C05_setAsNaN (c : Ctx) (d x : Cell) (y : Option Cell) (h : Heap)
    (hn : shouldSetAsNaN (h x) (y.map h) = true) :
    let r := run (setAsNaNP c d (.cell x) (y.map Src.cell)) h
    let m := setAsNaN c (h x) (y.map h)
    r.1 = (m.fl, m.err) ∧ r.2 d = m.d ∧ ∀ cell, cell ≠ d → r.2 cell = h cell := by
  have e : (y.map Src.cell).map (·.val h) = y.map h := by cases y <;> rfl
  have := run_setAsNaNP c d (.cell x) (y.map Src.cell) h (by rw [e]; exact hn)
  rw [e] at this
  exact set_spec this

/-- `c.quantize(d, v, exp)` -/
theorem C05_quantizeCore (c : Ctx) (d x : Cell) (exp : Int) (h : Heap) :
    let r := run (quantizeCoreP c d (.cell x) exp) h
    r.1 = (quantizeCore c (h x) exp).2 ∧ r.2 d = (quantizeCore c (h x) exp).1 ∧
    ∀ cell, cell ≠ d → r.2 cell = h cell :=
  set_spec (run_quantizeCoreP c d (.cell x) exp h)

end Apd.Props

#print axioms Apd.Props.C05_add
#print axioms Apd.Props.C05_sub
#print axioms Apd.Props.C05_mul
#print axioms Apd.Props.C05_quo
#print axioms Apd.Props.C05_quoint
#print axioms Apd.Props.C05_rem
#print axioms Apd.Props.C05_cmp
#print axioms Apd.Props.C05_abs
#print axioms Apd.Props.C05_neg
#print axioms Apd.Props.C05_round
#print axioms Apd.Props.C05_reduce
#print axioms Apd.Props.C05_rtie
#print axioms Apd.Props.C05_rtiv
#print axioms Apd.Props.C05_ceil
#print axioms Apd.Props.C05_floor
#print axioms Apd.Props.C05_quantize
#print axioms Apd.Props.C05_ctxOp
#print axioms Apd.Props.C05_set
#print axioms Apd.Props.C05_negDec
#print axioms Apd.Props.C05_absDec
#print axioms Apd.Props.C05_reduceDec
#print axioms Apd.Props.C05_modf
#print axioms Apd.Props.C05_setExponent
#print axioms Apd.Props.C05_Round
#print axioms Apd.Props.C05_setAsNaN
#print axioms Apd.Props.C05_quantizeCore
