import ApdVerif.Props.RoundCore
import ApdVerif.Props.Mul
import ApdVerif.Props.Quo
/-!
# C02 — condition flags describe exactly what happened to the result

`FlagsOK s d fl`: Inexact iff the returned value differs from the exact result, Subnormal iff the
exact non-zero result lies below 10^MinExponent, Underflow iff both, Overflow iff the rounded
magnitude exceeds the range; on finite results Inexact implies Rounded; Overflow implies Inexact;
no division/invalid condition.  (`Cond` has exactly the twelve documented bits; the correspondence
compares the full uint32.)  Division conditions of QuoInteger/Rem are in C10, Quantize's in C09,
special operands in C08.
-/
namespace Apd.Props
open Apd Apd.Oracle

theorem C02_flags_round (c : Ctx) (hc : c.WF) (x : Dec) (hx : x.form = .finite)
    (h : Delivered (roundOp c x).err) :
    FlagsOK (specRound c (exactRound x)) (roundOp c x).d (roundOp c x).fl := (C01_round c hc x hx h).2.1

theorem C02_flags_add (c : Ctx) (hc : c.WF) (x y : Dec) (sub : Bool)
    (hx : x.form = .finite) (hy : y.form = .finite) (h : Delivered (addOp c x y sub).err) :
    FlagsOK (specRound c (exactAdd c x y sub)) (addOp c x y sub).d (addOp c x y sub).fl :=
  (C01_add c hc x y sub hx hy h).2.1

theorem C02_flags_mul (c : Ctx) (hc : c.WF) (x y : Dec) (hx : x.form = .finite) (hy : y.form = .finite)
    (h : Delivered (mulOp c x y).err) :
    FlagsOK (specRound c (exactMul x y)) (mulOp c x y).d (mulOp c x y).fl := (C01_mul c hc x y hx hy h).2.1

theorem C02_flags_quo (c : Ctx) (hc : c.WF) (x y : Dec) (hx : x.form = .finite) (hy : y.form = .finite)
    (hy0 : y.coeff ≠ 0) (h : Delivered (quoOp c x y).err) :
    FlagsOK (specRound c (exactQuo x y)) (quoOp c x y).d (quoOp c x y).fl := (C01_quo c hc x y hx hy hy0 h).2.1

/-- `Cond.toNat` is the Go uint32: only the twelve documented bits -/
theorem C02_twelve_bits (fl : Cond) : fl.toNat < 4096 := by
  -- each of the twelve summands of `toNat` is at most its weight, and the weights add up to 4095
  have key : ∀ f : Bool → Nat → Nat, (∀ b w, f b w ≤ w) →
      f fl.sysOverflow 1 + f fl.sysUnderflow 2 + f fl.overflow 4 + f fl.underflow 8 + f fl.inexact 16 +
      f fl.subnormal 32 + f fl.rounded 64 + f fl.divUndefined 128 + f fl.divByZero 256 +
      f fl.divImpossible 512 + f fl.invalidOp 1024 + f fl.clamped 2048 < 4096 := by
    intro f hf
    have := hf fl.sysOverflow 1; have := hf fl.sysUnderflow 2; have := hf fl.overflow 4
    have := hf fl.underflow 8; have := hf fl.inexact 16; have := hf fl.subnormal 32
    have := hf fl.rounded 64; have := hf fl.divUndefined 128; have := hf fl.divByZero 256
    have := hf fl.divImpossible 512; have := hf fl.invalidOp 1024; have := hf fl.clamped 2048
    omega
  exact key _ fun b w => by cases b <;> [exact Nat.zero_le w; exact Nat.le_refl w]

end Apd.Props
