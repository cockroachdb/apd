import ApdVerif.Lemmas.C12Lemmas
/-!
# C12 — Exp, Ln, Log10 and Pow: the exact cases

The cases whose result is exact by definition (exp 0, ln 1, log10 1, x**0, x**1, integer powers that fit).
Accuracy of the series: Props/C12ExpAcc, C12LnAcc, C12Log10Acc.
-/
namespace Apd.Props
open Apd Apd.C12L

theorem C12_exp_zero (c : Ctx) (x : Dec) (hx : x.form = .finite) (h0 : x.coeff = 0) :
    expSpecials c x = some { d := decOne } := by
  simp [expSpecials, shouldSetAsNaN, Dec.isNaN, Dec.isZero, hx, h0]

theorem C12_ln_one (c : Ctx) : logSpecials c decOne = some { d := decZero } := by
  rfl

/-- ln / log10 of any representation of one (1, 1.0, 1.00 …) is exactly zero -/
theorem C12_log_one_any (c : Ctx) (k : Nat) :
    logSpecials c { form := .finite, neg := false, exp := -(k : Int), coeff := 10 ^ k } = some { d := decZero } := by
  have hnd := Apd.ndigits_pow k
  rcases Nat.eq_zero_or_pos k with hk | hk
  · subst hk; rfl
  · have hk' : ¬ (-(k:Int) = 0) := by omega
    simp [logSpecials, shouldSetAsNaN, Dec.isNaN, Dec.sign, Dec.cmp, decZero, decOne, hnd, ndigits_one, hk', cmpNat]
    intro h; omega

theorem C12_pow_zero_exponent (c : Ctx) (x y : Dec) (hx : x.form = .finite) (hxc : x.coeff ≠ 0)
    (hy : y.form = .finite) (hyc : y.coeff = 0) : powIntOp c x y = some { d := decOne } := by
  have h : powSpecials c x y = some { d := decOne } := by
    simp [powSpecials, shouldSetAsNaN, Dec.isNaN, Dec.sign, hx, hy, hxc, hyc]
    cases x.neg <;> simp
  simp [powIntOp, h]

/-- Integer powers whose exact value fits are returned exactly: for a finite non-zero x and a
non-negative integer exponent y = n (written with exponent 0), if x^n has at most Precision digits
(so every intermediate of square-and-multiply is exact at the working precision
max(Precision, digits x) + 10) and all exponents stay inside the limits, Pow returns x^n rounded to
the context — i.e. exactly x^n when it is in the context's exponent range. -/
theorem C12_integer_power_exact (c : Ctx) (hc : c.WF) (x : Dec) (n : Nat)
    (hx : x.form = .finite) (hxc : x.coeff ≠ 0) (hn : 0 < n)
    (hfit : ndigits (x.coeff ^ n) ≤ c.prec)
    (hrange : ∀ k, k ≤ n → -90000 ≤ x.exp * k ∧ x.exp * k + (ndigits (x.coeff ^ k) : Int) ≤ 90000) :
    powIntOp c x { form := .finite, neg := false, exp := 0, coeff := n } =
      some (finish c (ctxRound c (exactPow x n))) := by
  have hfit' : ndigits (x.coeff ^ n) ≤ (if c.prec < ndigits x.coeff then ndigits x.coeff else c.prec) + 10 := by
    split_ifs <;> omega
  exact powIntOp_exact c x n hx hxc hn hfit' hrange

theorem C12_pow_one (c : Ctx) (hc : c.WF) (x : Dec) (hx : x.form = .finite) (hxc : x.coeff ≠ 0)
    (hr : -90000 ≤ x.exp ∧ x.exp + (ndigits x.coeff : Int) ≤ 90000) :
    powIntOp c x decOne = some (finish c (ctxRound c { x with form := .finite })) := by
  have hfit' : ndigits (x.coeff ^ 1) ≤ (if c.prec < ndigits x.coeff then ndigits x.coeff else c.prec) + 10 := by
    rw [pow_one]; split_ifs <;> omega
  have hrange : ∀ k : Nat, k ≤ 1 → -90000 ≤ x.exp * (k : Int) ∧
      x.exp * (k : Int) + (ndigits (x.coeff ^ k) : Int) ≤ 90000 := by
    intro k hk
    rcases Nat.le_one_iff_eq_zero_or_eq_one.mp hk with h | h <;> subst h
    · simp [ndigits_one]
    · simp only [pow_one, Nat.cast_one, mul_one]; omega
  have h := powIntOp_exact c x 1 hx hxc (by decide) hfit' hrange
  have hx1 : exactPow x 1 = { x with form := .finite } := by
    rw [exactPow_one x hx]; cases x; simp_all
  rw [hx1] at h
  exact h

example : (powIntOp { prec := 5, emax := 99, emin := -99 } { coeff := 12, exp := -1 } { coeff := 3 }).map (·.d)
    = some { coeff := 1728, exp := -3 } := by decide

#print axioms C12_exp_zero
#print axioms C12_ln_one
#print axioms C12_log_one_any
#print axioms C12_pow_zero_exponent
#print axioms C12_integer_power_exact
#print axioms C12_pow_one

end Apd.Props
