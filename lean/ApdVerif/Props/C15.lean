import ApdVerif.Lemmas.C15Lemmas
/-!
# C15 — Cmp is the exact numeric order and CmpTotal is the documented total order

`C15_cmp`, `C15_ctxCmp`: the sign of the exact difference (`specCmp`).  `CmpTotal` is a total order
(`C15_total_range`, `_antisymm`, `_zero_iff`, `_trans`) that agrees with `Cmp` where the values differ
(`C15_total_agrees`), orders equal values by exponent, reversed for negatives (`C15_total_exponent`), and the forms as
documented (`C15_total_forms`).
-/
namespace Apd.Props
open Apd Apd.C15L

/-- Decimal.Cmp returns the sign of the exact difference, for all non-NaN operands, however far
apart exponents and digit counts are (all three paths of the code). -/
theorem C15_cmp (d x : Dec) (hd : d.isNaN = false) (hx : x.isNaN = false) :
    d.cmp x = specCmp d x := by
  obtain ⟨df, dn, de, dc⟩ := d
  obtain ⟨xf, xn, xe, xc⟩ := x
  cases df
  · cases xf
    · rw [cmp_finite _ _ rfl rfl, specCmp_finite _ _ rfl rfl]
    · by_cases hc : dc = 0 <;> cases dn <;> cases xn <;>
        simp [Dec.cmp, Dec.sign, specCmp, hc]
    · simp [Dec.isNaN] at hx
    · simp [Dec.isNaN] at hx
  · cases xf
    · by_cases hc : xc = 0 <;> cases dn <;> cases xn <;>
        simp [Dec.cmp, Dec.sign, specCmp, hc]
    · cases dn <;> cases xn <;> simp [Dec.cmp, Dec.sign, specCmp, cmpInt]
    · simp [Dec.isNaN] at hx
    · simp [Dec.isNaN] at hx
  · simp [Dec.isNaN] at hd
  · simp [Dec.isNaN] at hd

/-- Context.Cmp: NaN prologue, otherwise the result is Decimal.Cmp as a decimal -/
theorem C15_ctxCmp (c : Ctx) (x y : Dec) (hx : x.isNaN = false) (hy : y.isNaN = false) :
    (cmpOp c x y).d = decOfInt (specCmp x y) ∧ (cmpOp c x y).fl = {} ∧ (cmpOp c x y).err = .none := by
  have h : shouldSetAsNaN x (some y) = false := by simp [shouldSetAsNaN, hx, hy]
  unfold cmpOp
  rw [h, C15_cmp x y hx hy]
  simp

theorem C15_total_range (d x : Dec) : d.cmpTotal x = -1 ∨ d.cmpTotal x = 0 ∨ d.cmpTotal x = 1 := by
  rw [cmpTotal_eq_cmp3 d x _ (Int.min_le_left ..) (Int.min_le_right ..)]
  exact cmp3_range _ _

theorem C15_total_antisymm (d x : Dec) : x.cmpTotal d = - d.cmpTotal x := by
  rw [cmpTotal_eq_cmp3 d x _ (Int.min_le_left ..) (Int.min_le_right ..),
    cmpTotal_eq_cmp3 x d _ (Int.min_le_right ..) (Int.min_le_left ..), cmp3_swap]

theorem C15_total_zero_iff (d x : Dec) : d.cmpTotal x = 0 ↔ sameRepr d x := by
  rw [cmpTotal_eq_cmp3 d x _ (Int.min_le_left ..) (Int.min_le_right ..), cmp3_eq_zero_iff, totalKey_eq_iff]

theorem C15_total_trans (d x y : Dec) (h1 : d.cmpTotal x ≤ 0) (h2 : x.cmpTotal y ≤ 0) :
    d.cmpTotal y ≤ 0 := by
  have m1 : min d.exp (min x.exp y.exp) ≤ d.exp := by omega
  have m2 : min d.exp (min x.exp y.exp) ≤ x.exp := by omega
  have m3 : min d.exp (min x.exp y.exp) ≤ y.exp := by omega
  rw [cmpTotal_eq_cmp3 _ _ _ m1 m2] at h1
  rw [cmpTotal_eq_cmp3 _ _ _ m2 m3] at h2
  rw [cmpTotal_eq_cmp3 _ _ _ m1 m3]
  exact cmp3_trans h1 h2

theorem C15_total_agrees (d x : Dec) (hd : d.isNaN = false) (hx : x.isNaN = false)
    (h : specCmp d x ≠ 0) : d.cmpTotal x = specCmp d x := by
  cases hdf : d.form
  · cases hxf : x.form
    · rw [specCmp_finite d x hdf hxf] at h ⊢
      have hne : signedScaled d (min d.exp x.exp) ≠ signedScaled x (min d.exp x.exp) := fun he => h (cmpInt_eq he)
      by_cases hn : d.neg = x.neg
      · rw [cmpTotal_finite d x hdf hxf hn _ (Int.min_le_left ..) (Int.min_le_right ..)]
        exact lex_of_ne h _
      · -- opposite signs: the classes differ, and so do the values
        cases hdn : d.neg <;> cases hxn : x.neg <;> simp only [hdn, hxn, not_true] at hn
        · have ho : x.cmpOrder < d.cmpOrder := by simp [Dec.cmpOrder, hdf, hxf, hdn, hxn]
          have hA := signedScaled_nonneg d (min d.exp x.exp) hdn
          have hB := signedScaled_nonpos x (min d.exp x.exp) hxn
          rw [cmpTotal_of_gt d x ho, cmpInt_gt (by omega)]
        · have ho : d.cmpOrder < x.cmpOrder := by simp [Dec.cmpOrder, hdf, hxf, hdn, hxn]
          have hA := signedScaled_nonpos d (min d.exp x.exp) hdn
          have hB := signedScaled_nonneg x (min d.exp x.exp) hxn
          rw [cmpTotal_of_lt d x ho, cmpInt_lt (by omega)]
    · cases hdn : d.neg <;> cases hxn : x.neg <;>
        simp [Dec.cmpTotal, Dec.cmpOrder, specCmp, hdf, hxf, hdn, hxn]
    · simp [Dec.isNaN, hxf] at hx
    · simp [Dec.isNaN, hxf] at hx
  · cases hxf : x.form
    · cases hdn : d.neg <;> cases hxn : x.neg <;>
        simp [Dec.cmpTotal, Dec.cmpOrder, specCmp, hdf, hxf, hdn, hxn]
    · revert h
      cases hdn : d.neg <;> cases hxn : x.neg <;>
        simp [Dec.cmpTotal, Dec.cmpOrder, specCmp, cmpInt, hdf, hxf, hdn, hxn]
    · simp [Dec.isNaN, hxf] at hx
    · simp [Dec.isNaN, hxf] at hx
  · simp [Dec.isNaN, hdf] at hd
  · simp [Dec.isNaN, hdf] at hd

theorem C15_total_exponent (d x : Dec) (hd : d.form = .finite) (hx : x.form = .finite)
    (hn : d.neg = x.neg) (h : specCmp d x = 0) (he : d.exp < x.exp) :
    d.cmpTotal x = (if d.neg then 1 else -1) := by
  have hA := (cmpInt_eq_zero_iff _ _).1 (specCmp_finite d x hd hx ▸ h)
  rw [cmpTotal_finite d x hd hx hn _ (Int.min_le_left ..) (Int.min_le_right ..), cmpInt_eq hA, lex_zero_left, ← hn]
  cases d.neg
  · exact cmpInt_lt he
  · exact cmpInt_gt (show -x.exp < -d.exp by omega)

/-- -NaN < -sNaN < -Inf < -finite < +finite < +Inf < +sNaN < +NaN -/
theorem C15_total_forms (d x : Dec) (h : d.cmpOrder < x.cmpOrder) : d.cmpTotal x = -1 := by
  exact cmpTotal_of_lt d x h

example : ({ coeff := 1230, exp := -3 } : Dec).cmp { coeff := 123, exp := -2 } = 0 := by decide
example : ({ coeff := 1230, exp := -3 } : Dec).cmpTotal { coeff := 123, exp := -2 } = -1 := by decide

#print axioms C15_cmp
#print axioms C15_ctxCmp
#print axioms C15_total_range
#print axioms C15_total_antisymm
#print axioms C15_total_zero_iff
#print axioms C15_total_trans
#print axioms C15_total_agrees
#print axioms C15_total_exponent
#print axioms C15_total_forms

end Apd.Props
