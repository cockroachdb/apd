import ApdVerif.Props.C06Trans
import ApdVerif.Props.C19
import ApdVerif.Lemmas.ReadOpsLemmas
import ApdVerif.Lemmas.ReadFootLemmas
/-!
# C18 — concurrent use, all kinds of calls in one family

"Any number of goroutines may concurrently call any `Context` methods and read-only `Decimal` methods using the same
`Context` value and the same operand `Decimal`s (each with its own destination): no data race occurs and each call
returns exactly what it returns when run alone."

A `Call` is any of the 16 arithmetic `Context` methods (`CtxCall`), the 6 composite ones with their decision tapes
(`TransCall`), a read-only `Decimal` method (`ReadCall`: `Cmp`, `CmpTotal`, `Sign`, `IsZero`, `NumDigits`, `Int64`,
`Float64`, `Text`, `Modf` into fresh outputs) or a `Decimal` method with destination(s) (`MethCall`: `Set`, `Neg`,
`Abs`, `Reduce`, `Modf` into two shared `Decimal`s); `launch` is its store-level program, `Call.reads` / `Call.writes`
its operand / destination cells.  The read-only methods return the value-level model's result on the operands'
values, leave the heap as it is and contain no write (`C18_read_*`: footprint `Foot R (fun _ => False)`).
`SeparatedAll`: every destination of a call differs from every operand and every destination of every OTHER call (a
call's own operands may alias its destination; operands are shared freely).

"No data race": in the store-level semantics a data race is a write to a cell that another thread reads or writes;
`SeparatedAll` excludes it through `Foot_launch`, and `interleave_inv` is the statement that nothing else can go wrong.
-/
namespace Apd.Props
open Apd.Imp

theorem C18_read_cmp (d x : Cell) (h : Heap) :
    run (cmpP (.cell d) (.cell x)) h = ((h d).cmp (h x), h) ∧
    Foot (fun c => c = d ∨ c = x) (fun _ => False) (cmpP (.cell d) (.cell x)) :=
  ⟨run_cmpP _ _ h, Foot_cmpP (SrcOK.read (Or.inl rfl)) (SrcOK.read (Or.inr rfl))⟩

theorem C18_read_cmpTotal (d x : Cell) (h : Heap) :
    run (cmpTotalP (.cell d) (.cell x)) h = ((h d).cmpTotal (h x), h) ∧
    Foot (fun c => c = d ∨ c = x) (fun _ => False) (cmpTotalP (.cell d) (.cell x)) :=
  ⟨run_cmpTotalP _ _ h, Foot_cmpTotalP (SrcOK.read (Or.inl rfl)) (SrcOK.read (Or.inr rfl))⟩

theorem C18_read_sign (d : Cell) (h : Heap) :
    run (signP (.cell d)) h = ((h d).sign, h) ∧ Foot (fun c => c = d) (fun _ => False) (signP (.cell d)) :=
  ⟨run_signP _ h, Foot_signP (SrcOK.read rfl)⟩

theorem C18_read_isZero (d : Cell) (h : Heap) :
    run (isZeroP (.cell d)) h = ((h d).isZero, h) ∧ Foot (fun c => c = d) (fun _ => False) (isZeroP (.cell d)) :=
  ⟨run_isZeroP _ h, Foot_isZeroP (SrcOK.read rfl)⟩

/-- `d.NumDigits()`: the value `table.go` computes (`numDigitsImpl`, exact by C19) -/
theorem C18_read_numDigits (d : Cell) (h : Heap) :
    run (numDigitsP (.cell d)) h = (numDigitsImpl ((h d).coeff : Int), h) ∧
    Foot (fun c => c = d) (fun _ => False) (numDigitsP (.cell d)) := by
  refine ⟨?_, Foot_numDigitsP (SrcOK.read rfl)⟩
  rw [run_numDigitsP, C19_numDigits]
  simp

theorem C18_read_int64 (d : Cell) (h : Heap) :
    run (int64P (.cell d)) h = (int64Op (h d), h) ∧ Foot (fun c => c = d) (fun _ => False) (int64P (.cell d)) :=
  ⟨run_int64P _ h, Foot_int64P (SrcOK.read rfl)⟩

/-- `d.Text(verb)` (`d.String()` is `verb = 'G'`) -/
theorem C18_read_text (d : Cell) (verb : Char) (h : Heap) :
    run (textP (.cell d) verb) h = (Text.append (h d) verb, h) ∧
    Foot (fun c => c = d) (fun _ => False) (textP (.cell d) verb) :=
  ⟨run_textP _ verb h, Foot_textP (R := fun c => c = d) (SrcOK.read rfl) verb⟩

/-- `d.Float64()`: the string handed to `strconv.ParseFloat` is `d.String()` -/
theorem C18_read_float64 (d : Cell) (h : Heap) :
    run (float64P (.cell d)) h = (Text.string (h d), h) ∧
    Foot (fun c => c = d) (fun _ => False) (float64P (.cell d)) :=
  ⟨run_float64P _ h, Foot_float64P (SrcOK.read rfl)⟩

/-- `d.Modf(&integ, &frac)` into two fresh `Decimal`s -/
theorem C18_read_modf (d : Cell) (h : Heap) :
    run (modfLoc2 (.cell d)) h = (modf (h d), h) ∧ Foot (fun c => c = d) (fun _ => False) (modfLoc2 (.cell d)) :=
  ⟨run_modfLoc2 _ h, Foot_modfLoc2 (SrcOK.read rfl)⟩

inductive ReadCall where
  | cmp (d x : Cell)
  | cmpTotal (d x : Cell)
  | sign (d : Cell)
  | isZero (d : Cell)
  | numDigits (d : Cell)
  | int64 (d : Cell)
  | float64 (d : Cell)
  | text (d : Cell) (verb : Char)
  | modf (d : Cell)

inductive MethCall where
  | set (d x : Cell)
  | neg (d x : Cell)
  | abs (d x : Cell)
  | reduce (d x : Cell)
  | modfInto (r integ frac : Cell)

inductive Call where
  | ctx (k : CtxCall)
  | trans (k : TransCall)
  | read (k : ReadCall)
  | meth (k : MethCall)

inductive Outcome where
  | ctx (r : Res)                            -- a `Context` method: flags, error class, aux
  | trans (r : Option (Res × Tape))          -- a composite method: `none` = fuel / tape mismatch
  | int (v : Int)                            -- `Cmp`, `CmpTotal`, `Sign`, `Reduce`'s count
  | bool (b : Bool)                          -- `IsZero`
  | nat (n : Nat)                            -- `NumDigits`
  | int64 (v : Option Int)                   -- `Int64`: `none` = error
  | str (s : String)                         -- `Text`; `Float64`: the string parsed by `strconv.ParseFloat`
  | decs (integ frac : Dec)                  -- `Modf` into fresh outputs
  | unit                                     -- `Set`, `Neg`, `Abs`, `Modf` into shared outputs; idle thread
  | invalid                                  -- unknown op name / `Modf` with `integ == frac`

def launch : Call → Prog Outcome
  | .ctx k =>
    match runCtxOp k.op k.c k.d k.x k.y k.iarg with
    | some p => p >>= fun r => pure (.ctx r)
    | none => pure .invalid
  | .trans k =>
    match runTransOp k.op k.c k.d k.x k.y k.tape with
    | some p => p >>= fun r => pure (.trans r)
    | none => pure .invalid
  | .read (.cmp d x) => cmpP (.cell d) (.cell x) >>= fun v => pure (.int v)
  | .read (.cmpTotal d x) => cmpTotalP (.cell d) (.cell x) >>= fun v => pure (.int v)
  | .read (.sign d) => signP (.cell d) >>= fun v => pure (.int v)
  | .read (.isZero d) => isZeroP (.cell d) >>= fun v => pure (.bool v)
  | .read (.numDigits d) => numDigitsP (.cell d) >>= fun v => pure (.nat v)
  | .read (.int64 d) => int64P (.cell d) >>= fun v => pure (.int64 v)
  | .read (.float64 d) => float64P (.cell d) >>= fun v => pure (.str v)
  | .read (.text d verb) => textP (.cell d) verb >>= fun v => pure (.str v)
  | .read (.modf d) => modfLoc2 (.cell d) >>= fun v => pure (.decs v.1 v.2)
  | .meth (.set d x) => setDec d (.cell x) >>= fun _ => pure .unit
  | .meth (.neg d x) => negDec d (.cell x) >>= fun _ => pure .unit
  | .meth (.abs d x) => absDec d (.cell x) >>= fun _ => pure .unit
  | .meth (.reduce d x) => reduceDec d (.cell x) >>= fun v => pure (.int v)
  | .meth (.modfInto r i f) =>
    if i = f then pure .invalid else modfP (.cell r) (some i) (some f) >>= fun _ => pure .unit

def Call.reads : Call → List Cell
  | .ctx k => [k.x, k.y]
  | .trans k => [k.x, k.y]
  | .read (.cmp d x) => [d, x]
  | .read (.cmpTotal d x) => [d, x]
  | .read (.sign d) => [d]
  | .read (.isZero d) => [d]
  | .read (.numDigits d) => [d]
  | .read (.int64 d) => [d]
  | .read (.float64 d) => [d]
  | .read (.text d _) => [d]
  | .read (.modf d) => [d]
  | .meth (.set _ x) => [x]
  | .meth (.neg _ x) => [x]
  | .meth (.abs _ x) => [x]
  | .meth (.reduce _ x) => [x]
  | .meth (.modfInto r _ _) => [r]

def Call.writes : Call → List Cell
  | .ctx k => [k.d]
  | .trans k => [k.d]
  | .read _ => []
  | .meth (.set d _) => [d]
  | .meth (.neg d _) => [d]
  | .meth (.abs d _) => [d]
  | .meth (.reduce d _) => [d]
  | .meth (.modfInto _ i f) => [i, f]

theorem Foot_launch (k : Call) : Foot (fun c => c ∈ k.reads) (fun c => c ∈ k.writes) (launch k) := by
  have h1 {a : Cell} {l : List Cell} : a ∈ a :: l := .head _
  have h2 {a b : Cell} {l : List Cell} : b ∈ a :: b :: l := .tail _ (.head _)
  cases k with
  | ctx k =>
    simp only [launch]
    cases hp : runCtxOp k.op k.c k.d k.x k.y k.iarg with
    | none => exact Foot.pure _
    | some p => exact (Foot_runCtxOp _ hp).toLists.map _
  | trans k =>
    simp only [launch]
    cases hp : runTransOp k.op k.c k.d k.x k.y k.tape with
    | none => exact Foot.pure _
    | some p => exact (Foot_runTransOp _ hp).toLists.map _
  | read k =>
    cases k with
    | cmp d x => exact (Foot_cmpP (.read h1) (.read h2)).map _
    | cmpTotal d x => exact (Foot_cmpTotalP (.read h1) (.read h2)).map _
    | sign d => exact (Foot_signP (.read h1)).map _
    | isZero d => exact (Foot_isZeroP (.read h1)).map _
    | numDigits d => exact (Foot_numDigitsP (.read h1)).map _
    | int64 d => exact (Foot_int64P (.read h1)).map _
    | float64 d => exact (Foot_float64P (.read h1)).map _
    | text d verb => exact (Foot_textP (.read h1) verb).map _
    | modf d => exact (Foot_modfLoc2 (.read h1)).map _
  | meth k =>
    cases k with
    | set d x => exact (Foot_setDec h1 (.read h1)).map _
    | neg d x => exact (Foot_negDec h1 (.read h1)).map _
    | abs d x => exact (Foot_absDec h1 (.read h1)).map _
    | reduce d x => exact (Foot_reduceDec h1 (.read h1)).map _
    | modfInto r i f =>
      exact Foot.ite (Foot.pure _)
        ((Foot_modfP (.read h1) (fun _ e => Option.some.inj e ▸ h1) (fun _ e => Option.some.inj e ▸ h2)).map _)

theorem C18_launch_writes (k : Call) : WritesOnly (fun c => c ∈ k.writes) (launch k) :=
  (Foot_launch k).writesOnly

theorem C18_read_noWrites (k : ReadCall) : WritesOnly (fun _ => False) (launch (.read k)) := by
  have := (Foot_launch (.read k)).writesOnly
  simpa [Call.writes] using this

/-- the programs of the threads (`none` = idle thread) -/
def launchAll (calls : Nat → Option Call) : Nat → Prog Outcome :=
  fun i => match calls i with
    | some k => launch k
    | none => .ret .unit

def allR (calls : Nat → Option Call) (i : Nat) : Cell → Prop :=
  fun c => match calls i with
    | some k => c ∈ k.reads
    | none => False
def allW (calls : Nat → Option Call) (i : Nat) : Cell → Prop :=
  fun c => match calls i with
    | some k => c ∈ k.writes
    | none => False

def SeparatedAll (calls : Nat → Option Call) : Prop :=
  ∀ i j ki kj, i ≠ j → calls i = some ki → calls j = some kj →
    ∀ c, c ∈ kj.writes → c ∉ ki.reads ∧ c ∉ ki.writes

theorem launchAll_foot (calls : Nat → Option Call) (i : Nat) :
    Foot (allR calls i) (allW calls i) (launchAll calls i) := by
  unfold launchAll allR allW
  cases calls i with
  | none => exact Foot.ret _
  | some k => exact Foot_launch k

theorem separatedAll_disj {calls : Nat → Option Call} (hs : SeparatedAll calls) :
    ∀ i j, i ≠ j → ∀ c, allW calls j c → ¬ (allR calls i c ∨ allW calls i c) :=
  opt_disj (Rd := fun o c => match o with | some k => c ∈ k.reads | none => False)
    (Wr := fun o c => match o with | some k => c ∈ k.writes | none => False) (fun _ => id) (fun _ => id)
    fun i j ki kj hij hi hj c hw hrw => hrw.elim (hs i j ki kj hij hi hj c hw).1 (hs i j ki kj hij hi hj c hw).2

/-- C18 for all kinds of calls at once: under every schedule every thread is at a prefix of its solo run; a thread
that has finished returned exactly the result of its solo run and its operand and destination cells hold what the
solo run left there -/
theorem C18_all (calls : Nat → Option Call) (hsep : SeparatedAll calls) (h0 : Heap) (s : List Nat) :
    Inv (allR calls) (allW calls) (launchAll calls) h0
      (runSched s (launchAll calls) h0).1 (runSched s (launchAll calls) h0).2 ∧
    ∀ i k a, calls i = some k → (runSched s (launchAll calls) h0).1 i = .ret a →
      a = (run (launch k) h0).1 ∧
      ∀ c, c ∈ k.reads ∨ c ∈ k.writes → (runSched s (launchAll calls) h0).2 c = (run (launch k) h0).2 c := by
  have hinv := C18_interleave (allR calls) (allW calls) (launchAll calls) h0
    (launchAll_foot calls) (separatedAll_disj hsep) s
  refine ⟨hinv, fun i k a hk hret => ?_⟩
  obtain ⟨h1, h2⟩ := inv_finished hinv hret
  have hl : launchAll calls i = launch k := by unfold launchAll; rw [hk]
  rw [hl] at h1 h2
  refine ⟨h1, fun c hc => h2 c ?_⟩
  unfold allR allW
  rw [hk]; exact hc

/-- the result `a` of a call and the final contents `hf` of its destination cells are what the value-level model
computes from the heap `h0` -/
def Call.Spec : Call → Heap → Outcome → Heap → Prop
  | .ctx k, h0, a, hf =>
    (runCtxOp k.op k.c k.d k.x k.y k.iarg = none ∧ a = .invalid) ∨
    ∃ m res, modelCtxOp k.op k.c (h0 k.x) (h0 k.y) k.iarg = some m ∧ a = .ctx res ∧ res.2.1 = m.err ∧
      (Delivered res.2.1 → res.1 = m.fl ∧ hf k.d = m.d ∧ res.2.2 = m.aux)
  | .trans k, h0, a, hf =>
    (runTransOp k.op k.c k.d k.x k.y k.tape = none ∧ a = .invalid) ∨
    ∃ m r, modelTransOp k.op k.c (h0 k.x) (h0 k.y) k.tape = some m ∧ a = .trans r ∧
      match m with
      | none => r = none
      | some (m, t) => ∃ res, r = some (res, t) ∧ res.2.1 = m.err ∧
          (Delivered res.2.1 → res.1 = m.fl ∧ (¬ m.Aborted → hf k.d = m.d) ∧ res.2.2 = m.aux)
  | .read (.cmp d x), h0, a, _ => a = .int ((h0 d).cmp (h0 x))
  | .read (.cmpTotal d x), h0, a, _ => a = .int ((h0 d).cmpTotal (h0 x))
  | .read (.sign d), h0, a, _ => a = .int (h0 d).sign
  | .read (.isZero d), h0, a, _ => a = .bool (h0 d).isZero
  | .read (.numDigits d), h0, a, _ => a = .nat (numDigitsImpl ((h0 d).coeff : Int))
  | .read (.int64 d), h0, a, _ => a = .int64 (int64Op (h0 d))
  | .read (.float64 d), h0, a, _ => a = .str (Text.string (h0 d))
  | .read (.text d verb), h0, a, _ => a = .str (Text.append (h0 d) verb)
  | .read (.modf d), h0, a, _ => a = .decs (modf (h0 d)).1 (modf (h0 d)).2
  | .meth (.set d x), h0, a, hf => a = .unit ∧ hf d = h0 x
  | .meth (.neg d x), h0, a, hf => a = .unit ∧ hf d = (h0 x).negD
  | .meth (.abs d x), h0, a, hf => a = .unit ∧ hf d = (h0 x).absD
  | .meth (.reduce d x), h0, a, hf => a = .int ((reduceD (h0 x)).2 : Int) ∧ hf d = (reduceD (h0 x)).1
  | .meth (.modfInto r i f), h0, a, hf =>
    if i = f then a = .invalid else a = .unit ∧ hf i = (modf (h0 r)).1 ∧ hf f = (modf (h0 r)).2

theorem Call.Spec.congr {k : Call} {h0 : Heap} {a : Outcome} {hf hf' : Heap}
    (hw : ∀ c, c ∈ k.writes → hf' c = hf c) (hs : k.Spec h0 a hf) : k.Spec h0 a hf' := by
  cases k with
  | ctx k | trans k => simp only [Call.Spec] at hs ⊢; rw [hw _ (.head _)]; exact hs
  | read k => cases k <;> exact hs
  | meth k =>
    cases k with
    | set d x | neg d x | abs d x | reduce d x => simp only [Call.Spec] at hs ⊢; rw [hw _ (.head _)]; exact hs
    | modfInto r i f =>
      simp only [Call.Spec] at hs ⊢
      rw [hw i (.head _), hw f (.tail _ (.head _))]; exact hs

theorem launch_spec (k : Call) (h0 : Heap) : k.Spec h0 (run (launch k) h0).1 (run (launch k) h0).2 := by
  cases k with
  | ctx k =>
    simp only [Call.Spec, launch]
    cases hp : runCtxOp k.op k.c k.d k.x k.y k.iarg with
    | none => left; exact ⟨rfl, rfl⟩
    | some p =>
      right
      obtain ⟨m, hm, e1, e2, _⟩ := C05_ctxOp hp h0
      refine ⟨m, (run p h0).1, hm, ?_, e1, ?_⟩
      · simp only [run_bind, run_pure]
      · simp only [run_bind, run_pure]; exact e2
  | trans k =>
    simp only [Call.Spec, launch]
    cases hp : runTransOp k.op k.c k.d k.x k.y k.tape with
    | none => left; exact ⟨rfl, rfl⟩
    | some p =>
      right
      obtain ⟨m, hm, e1, _⟩ := C05_transOp hp h0
      refine ⟨m, (run p h0).1, hm, ?_, ?_⟩
      · simp only [run_bind, run_pure]
      · simp only [run_bind, run_pure]; exact e1
  | read k =>
    cases k <;> simp only [Call.Spec, launch, run_bind, run_pure, run_cmpP, run_cmpTotalP, run_signP, run_isZeroP,
      (C18_read_numDigits _ h0).1, run_int64P, run_float64P, run_textP, run_modfLoc2, Src.val_cell]
  | meth k =>
    cases k with
    | set d x | neg d x | abs d x | reduce d x => simp [Call.Spec, launch, run_reduceDec]
    | modfInto r i f =>
      simp only [Call.Spec, launch]
      by_cases hif : i = f
      · simp [hif]
      · simp only [hif, if_false, run_bind, run_pure]
        obtain ⟨s1, s2, _⟩ := modfP_spec (.cell r) (some i) (some f) h0
          (fun j e e' => hif (by cases e; cases e'; rfl))
        exact ⟨trivial, s1 i rfl, s2 f rfl⟩

/-- C18, the model form: under every schedule, what a finished call returned and what its destination cells hold
is what the value-level model computes from the operands' values in the INITIAL heap -/
theorem C18_all_model (calls : Nat → Option Call) (hsep : SeparatedAll calls) (h0 : Heap) (s : List Nat)
    (i : Nat) (k : Call) (a : Outcome) (hk : calls i = some k)
    (hret : (runSched s (launchAll calls) h0).1 i = .ret a) :
    k.Spec h0 a (runSched s (launchAll calls) h0).2 := by
  obtain ⟨h1, h2⟩ := (C18_all calls hsep h0 s).2 i k a hk hret
  rw [h1]
  exact (launch_spec k h0).congr (fun c hc => h2 c (Or.inr hc))

end Apd.Props

#print axioms Apd.Props.C18_read_cmp
#print axioms Apd.Props.C18_read_cmpTotal
#print axioms Apd.Props.C18_read_sign
#print axioms Apd.Props.C18_read_isZero
#print axioms Apd.Props.C18_read_numDigits
#print axioms Apd.Props.C18_read_int64
#print axioms Apd.Props.C18_read_text
#print axioms Apd.Props.C18_read_float64
#print axioms Apd.Props.C18_read_modf
#print axioms Apd.Props.C18_read_noWrites
#print axioms Apd.Props.Foot_launch
#print axioms Apd.Props.C18_launch_writes
#print axioms Apd.Props.C18_all
#print axioms Apd.Props.C18_all_model
