import ApdVerif.Lemmas.ExpAccAssembly
import ApdVerif.Props.TransLog
/-!
# C12 for `Context.Exp`, proved on the tape model: within 1.2 ulp of `exp x` (within 1 ulp for `x > 0`)

`expT` (Model/TransLog.lean) takes the working precision `cp` and the number of series terms `n` from the
decision tape.  Under the decidable adequacy condition `ExpTapeOK c x cp n` (Oracle/ExpTapeOK.lean, core Lean,
executable; the driver evaluates it on the decisions of every real Exp call) every finite result that is delivered
satisfies

    |result - exp x| ≤ (1/2 + 7/10) ulp          (`C12_exp_accurate`, `C12_exp_accurate_delivered`)
    |result - exp x| ≤ (1/2 + 43/100) ulp  if x > 0   (`C12_exp_accurate_pos`)

whatever the caller's rounding mode (`Exp` always rounds its result half-even: `nc.Rounding = RoundHalfEven`
is in force at the final `nc.round`), with `ulp = 10^(Oracle.ulpOf c result).e`, one unit in the last
place of a `Precision`-digit number of the result's magnitude, not below `Etiny`.

Where the 7/10 comes from (units of `10^-cp` relative error, worst case over all roundings):
reduced argument 0.05, `10^t`-fold product errors of `integerPower` 0.05, Horner loop + truncation
`10.83·0.05 = 0.54` (attained only for `r → -1`, where the partial sums are small and cancel), second-order terms 0.06.
For `x > 0` the series term is `6.2·0.05 = 0.31`.  A bound below one ulp for all negative operands is NOT
provable by a worst-case analysis of this algorithm at working precision `cp + t + 2`: the first-order
worst case is already about 1.0–1.1 ulp (e.g. `x ≈ -9.2113`: `r ≈ -0.92`, mantissa of `e^x` ≈ 9.99).
An exhaustive run of the model on 74 000 operands at precisions 1–5 found a largest actual error of 0.544 ulp.

Stages of the proof: S1 `C12_exp_series_trunc`; S2 `C12_exp_horner_round`, `C12_exp_horner_rounded`,
`C12_exp_series_rel_neg/pos`; S3 `C12_exp_power_rounded`, `C12_exp_total`; S4 `ExpTapeOK` + the checks at the end;
S5 `C12_exp_accurate`, `C12_exp_accurate_delivered`, `C12_exp_accurate_pos`, `C12_exp_accurate_tiny`.
`C12_exp_horner_rounded` and `C12_exp_power_rounded` state S2 and S3 for a perturbed recurrence on real numbers.
The loops of the model (`series_loop`, `intPow_loop` in Lemmas/ExpAccLoops) are inductions of their own over the
same step lemmas (`horner_round`, `pow_combine`), because a failing operation has to be threaded through.
-/
namespace Apd.Props
open Apd Apd.Oracle Apd.ExpAcc Cond

/-- S1: truncation error of the Taylor polynomial of `exp` on `[-1, 1]` -/
theorem C12_exp_series_trunc (r : ℝ) (hr : |r| ≤ 1) (n : ℕ) (hn : 1 ≤ n) :
    |Real.exp r - ∑ i ∈ Finset.range n, r ^ i / (i.factorial : ℝ)| ≤
      |r| ^ n / (n.factorial : ℝ) * (((n : ℝ) + 1) / (n : ℝ)) :=
  exp_series_trunc r hr n hn

/-- S2, one round: quotient and product perturbed by `(1+θ)` (`|θ| ≤ 2u+u²`; `|θ| ≤ u` in the last round `i = 0`
where the division by one is exact) and the sum by `(1+δ)`; a round at index `i+1` takes the invariant `HB (i+2)` to
`HB (i+1)` and the last round takes it to `HF` (both of `Lemmas/ExpAccHorner`): no factor `n`. -/
theorem C12_exp_horner_round (ρ u sh θ δ : ℝ) (i m : ℕ) (hρ : |ρ| ≤ 1) (hu : 0 ≤ u) (hu1 : u ≤ 1 / 200)
    (he : |sh - hornerT ρ (i + 2) m| ≤ HB ρ u (i + 2))
    (hθ : |θ| ≤ thetaB u i) (hδ : |δ| ≤ u) :
    |(1 + ρ / ((i + 1 : ℕ) : ℝ) * (1 + θ) * sh) * (1 + δ) - hornerT ρ (i + 1) (m + 1)| ≤
      (if i = 0 then HF ρ u else HB ρ u (i + 1)) :=
  horner_round ρ u sh θ δ i m hρ hu hu1 he hθ hδ

/-- S2, the whole loop as a statement about a perturbed recurrence: `ŝ_n = 1`,
`ŝ_i = (1 + (ρ/i)(1+θ_i) ŝ_{i+1})(1+δ_i)` for `i = n-1, …, 1`; then `ŝ_1` is within `HF ρ u ≤ 12u` of the
Taylor polynomial `Σ_{j<n} ρ^j/j!` (for `ρ ≤ 0`: within `3.59u`) -/
theorem C12_exp_horner_rounded (ρ u : ℝ) (n : ℕ) (hn : 1 ≤ n) (hρ : |ρ| ≤ 1) (hu : 0 ≤ u) (hu1 : u ≤ 1 / 200)
    (sh θ δ : ℕ → ℝ) (h0 : sh n = 1)
    (hstep : ∀ i, 1 ≤ i → i < n → sh i = (1 + ρ / (i : ℝ) * (1 + θ i) * sh (i + 1)) * (1 + δ i))
    (hθ : ∀ i, 2 ≤ i → i < n → |θ i| ≤ 2 * u + u ^ 2) (hθ1 : 1 < n → |θ 1| ≤ u)
    (hδ : ∀ i, 1 ≤ i → i < n → |δ i| ≤ u) :
    |sh 1 - ∑ j ∈ Finset.range n, ρ ^ j / (j.factorial : ℝ)| ≤ HF ρ u ∧ HF ρ u ≤ 12 * u := by
  have key : ∀ (m i : ℕ), i + m = n → 1 ≤ i →
      |sh i - hornerT ρ i m| ≤ (if i = 1 then HF ρ u else HB ρ u i) := by
    intro m
    induction m with
    | zero =>
      intro i hi hi1
      have : i = n := by omega
      subst this
      rw [h0, hornerT_zero, sub_self, abs_zero]
      split_ifs
      · exact (HF_bounds ρ u hρ hu).1
      · exact (HB_bounds ρ u i hρ hu (by omega)).1
    | succ m ih =>
      intro i hi hi1
      obtain ⟨i', rfl⟩ : ∃ i', i = i' + 1 := ⟨i - 1, by omega⟩
      have hprev := ih (i' + 2) (by omega) (by omega)
      have hne : ¬ (i' + 2 = 1) := by omega
      rw [if_neg hne] at hprev
      have hθ' : |θ (i' + 1)| ≤ thetaB u i' := by
        unfold thetaB
        split_ifs with h0'
        · subst h0'; exact hθ1 (by omega)
        · exact hθ (i' + 1) (by omega) (by omega)
      have := horner_round ρ u (sh (i' + 2)) (θ (i' + 1)) (δ (i' + 1)) i' m hρ hu hu1 hprev hθ'
        (hδ (i' + 1) (by omega) (by omega))
      rw [hstep (i' + 1) (by omega) (by omega)]
      have e : (i' + 1 = 1) ↔ (i' = 0) := by omega
      simp only [e]
      exact this
  have h1 := key (n - 1) 1 (by omega) (le_refl 1)
  rw [if_pos rfl, hornerT_one, Nat.sub_add_cancel hn] at h1
  exact ⟨h1, (HF_bounds ρ u hρ hu).2⟩

/-- S1+S2 combined, relative to `exp ρ` (negative argument): rounding and truncation errors of the series
are at most `10.83 u · exp ρ` when the truncation term is at most `1.2u` (`|ρ| ≤ 3/4`) resp. `0.4u` -/
theorem C12_exp_series_rel_neg (r u sh : ℝ) (n : ℕ) (hn : 1 ≤ n) (hr0 : r ≤ 0) (hr1 : -1 ≤ r) (hu : 0 ≤ u)
    (hE : |sh - ∑ j ∈ Finset.range n, r ^ j / (j.factorial : ℝ)| ≤ HF r u)
    (htr : (-r ≤ 3 / 4 ∧ |r| ^ n / (n.factorial : ℝ) * (((n : ℝ) + 1) / (n : ℝ)) ≤ 6 / 5 * u) ∨
      |r| ^ n / (n.factorial : ℝ) * (((n : ℝ) + 1) / (n : ℝ)) ≤ 2 / 5 * u) :
    |sh - Real.exp r| ≤ (1083 / 100 * u) * Real.exp r := by
  exact exp_near r u sh n hn (abs_le.2 ⟨hr1, by linarith only [hr0]⟩) hu hE htr

theorem C12_exp_series_rel_pos (r u sh : ℝ) (n : ℕ) (hn : 1 ≤ n) (hr0 : 0 < r) (hr1 : r ≤ 1) (hu : 0 ≤ u)
    (hE : |sh - ∑ j ∈ Finset.range n, r ^ j / (j.factorial : ℝ)| ≤ HF r u)
    (htr : |r| ^ n / (n.factorial : ℝ) * (((n : ℝ) + 1) / (n : ℝ)) ≤ 6 / 5 * u) :
    |sh - Real.exp r| ≤ (1083 / 100 * u) * Real.exp r := by
  exact exp_near r u sh n hn (abs_le.2 ⟨by linarith only [hr0], hr1⟩) hu hE
    (Or.inl ⟨by linarith only [hr0], htr⟩)

/-- S3. Square-and-multiply (the loop of `integerPower`, on reals, with a multiplication `fl` whose result is
within `e^{±u'}` of the exact product) computes `z·n^b` within `e^{±b·u'}`.  The error exponent is `b` itself,
not `2 log₂ b`: the error of every squaring is squared along with the value.  With `b = 10^t` and
`u' ≈ 10^(1-p)/2`, `p = cp + t + 2`, this is `10^(-cp-1)/2`, the same size as the propagated error of the
reduced argument — the reason for the `+ t` in the working precision. -/
theorem C12_exp_power_rounded (fl : ℝ → ℝ → ℝ) (u' : ℝ)
    (hfl : ∀ a b, 0 < a → 0 < b → LogNear u' (a * b) (fl a b)) (fuel b : ℕ) (z n : ℝ)
    (hb : b < 2 ^ fuel) (hz : 0 < z) (hn : 0 < n) :
    z * n ^ b * Real.exp (-((b : ℝ) * u')) ≤ powLoopR fl fuel b z n ∧
      powLoopR fl fuel b z n ≤ z * n ^ b * Real.exp ((b : ℝ) * u') :=
  pow_loop_rounded fl u' hfl fuel b z n hb hz hn

/-- the whole chain on reals: reduced argument within `u` relative, series within `10.83u·exp`, `K` products -/
theorem C12_exp_total (x rh sh z u : ℝ) (K : ℕ) (hK : 1 ≤ K) (hu : 0 ≤ u) (hν : (K : ℝ) * u ≤ 1 / 200)
    (hr : |(K : ℝ) * rh - x| ≤ (K : ℝ) * u)
    (hs : |sh - Real.exp rh| ≤ (1083 / 100 * u) * Real.exp rh)
    (hz : LogNear ((K : ℝ) * (u / (1 - u))) (sh ^ K) z) :
    LogNear (134551 / 10000 * ((K : ℝ) * u)) (Real.exp x) z :=
  exp_total x rh sh z u K hK hu hν hr hs hz

theorem exp_accurate_main (c : Ctx) (hc : c.WF) (x : Dec) (cp0 : Nat) (n : Int) (rest r' : Tape) (o : Out)
    (hok : ExpTapeOK c x cp0 n = true)
    (h : expT c x (.cp cp0 :: .n n :: rest) = some (o, r'))
    (hd : DeliveredT c o) (hf : o.d.form = .finite) :
    |rv o.d - Real.exp (rv x)| ≤ (1 / 2 + 7 / 10) * (10 : ℝ) ^ (ulpExp c o.d) ∧
    (x.neg = false → |rv o.d - Real.exp (rv x)| ≤ (1 / 2 + 43 / 100) * (10 : ℝ) ^ (ulpExp c o.d)) := by
  obtain ⟨-, -, hPcp, ⟨hod, hle⟩ | ⟨v, pf, ppos, pL, pLpos, hod, hns⟩⟩ := exp_delivered c x cp0 n rest r' o hok h hd <;>
    rw [hod] at hf ⊢
  · exact ⟨exp_one_branch c hc x _ hPcp hle _ (by norm_num), fun _ => exp_one_branch c hc x _ hPcp hle _ (by norm_num)⟩
  · exact ⟨exp_final (134551 / 10000) (7 / 10) (by norm_num) (by norm_num) (by norm_num)
        c hc _ hPcp v pf ppos (rv x) pL hns hf,
      fun hxn => exp_final (84034 / 10000) (43 / 100) (by norm_num) (by norm_num) (by norm_num)
        c hc _ hPcp v pf ppos (rv x) (pLpos hxn) hns hf⟩

/-- S5: every delivered finite result (nil error, or a trap error that comes with the result) is within 1.2 ulp. -/
theorem C12_exp_accurate_delivered (c : Ctx) (hc : c.WF) (x : Dec) (cp : Nat) (n : Int) (rest r' : Tape) (o : Out)
    (hok : ExpTapeOK c x cp n = true)
    (h : expT c x (.cp cp :: .n n :: rest) = some (o, r'))
    (hd : DeliveredT c o) (hf : o.d.form = .finite) :
    |((o.d.toRat : ℚ) : ℝ) - Real.exp ((x.toRat : ℚ) : ℝ)| ≤ (1 / 2 + 7 / 10) * (10 : ℝ) ^ (ulpOf c o.d).e :=
  (exp_accurate_main c hc x cp n rest r' o hok h hd hf).1

/-- S5, nil error -/
theorem C12_exp_accurate (c : Ctx) (hc : c.WF) (x : Dec) (cp : Nat) (n : Int) (rest r' : Tape) (o : Out)
    (hok : ExpTapeOK c x cp n = true)
    (h : expT c x (.cp cp :: .n n :: rest) = some (o, r'))
    (he : o.err = .none) (hf : o.d.form = .finite) :
    |((o.d.toRat : ℚ) : ℝ) - Real.exp ((x.toRat : ℚ) : ℝ)| ≤ (1 / 2 + 7 / 10) * (10 : ℝ) ^ (ulpOf c o.d).e :=
  (exp_accurate_main c hc x cp n rest r' o hok h (Or.inl he) hf).1

/-- S5 for a positive operand: C12's claim proper — the result is within ONE unit in the last place
(`1/2 + 43/100` ulp).  (For `x > 0` the partial sums of the series are ≥ 1 and there is no cancellation.) -/
theorem C12_exp_accurate_pos (c : Ctx) (hc : c.WF) (x : Dec) (cp : Nat) (n : Int) (rest r' : Tape) (o : Out)
    (hok : ExpTapeOK c x cp n = true) (hx : x.neg = false)
    (h : expT c x (.cp cp :: .n n :: rest) = some (o, r'))
    (hd : DeliveredT c o) (hf : o.d.form = .finite) :
    |((o.d.toRat : ℚ) : ℝ) - Real.exp ((x.toRat : ℚ) : ℝ)| ≤ (1 / 2 + 43 / 100) * (10 : ℝ) ^ (ulpOf c o.d).e :=
  (exp_accurate_main c hc x cp n rest r' o hok h hd hf).2 hx

/-- the early exit for a tiny argument (`|x| ≤ 0.9·10^-cp`: result `1`, only the `cp` entry of the tape is read) -/
theorem C12_exp_accurate_tiny (c : Ctx) (hc : c.WF) (x : Dec) (cp : Nat) (tl r' : Tape) (o : Out)
    (hxf : x.form = .finite) (hP : c.prec ≤ expCp x cp)
    (hnov : ¬ x.absD.cmp { coeff := expCp x cp * 23 } > 0)
    (hone : x.absD.cmp { coeff := 9, exp := -(expCp x cp : Int) - 1 } ≤ 0)
    (h : expT c x (.cp cp :: tl) = some (o, r')) :
    |((o.d.toRat : ℚ) : ℝ) - Real.exp ((x.toRat : ℚ) : ℝ)| ≤ (1 / 2 + 7 / 10) * (10 : ℝ) ^ (ulpOf c o.d).e := by
  suffices hd : o.d = decOne by
    have hle := abs_rv_le_of_cmp x _ hxf rfl hone
    rw [rv_mk, Nat.cast_ofNat] at hle
    rw [hd]; exact exp_one_branch c hc x (expCp x cp) hP hle _ (by norm_num)
  unfold expT at h
  rcases expSpecials_finite c x hxf hc.1 with ⟨_, hsp⟩ | ⟨_, hsp⟩ <;> rw [hsp] at h
  · simp only [Option.some.injEq, Prod.mk.injEq] at h
    rw [← h.1]
  · simp only [] at h
    unfold expCp at hnov hone
    rw [if_neg hnov, if_pos hone] at h
    simp only [Option.some.injEq, Prod.mk.injEq] at h
    rw [← h.1]

/-! ## S4: the driver evaluates `ExpTapeOK` on the recorded decisions of every real Exp call; instances checked
by the kernel: -/

example : ExpTapeOK { prec := 5, emax := 99, emin := -99 } { coeff := 15 } 5 7 = true := by decide +kernel
example : ExpTapeOK { prec := 23, emax := 6144, emin := -6143, mode := .down }
    { neg := true, coeff := 155499999999999999999999, exp := -22 } 23 17 = true := by decide +kernel
/-- … and the hypotheses of `C12_exp_accurate` are satisfiable: `e^15 = 3269017.37…` at 5 digits, tape `c5,n7` -/
example : (expT { prec := 5, emax := 99, emin := -99 } { coeff := 15 } [.cp 5, .n 7]).map
    (fun p => (p.1.d, p.1.err, p.2.length)) = some ({ coeff := 32690, exp := 2 }, .none, 0) := by decide +kernel
/-- too few terms are rejected: `n = 3` for `x = 15` at 5 digits -/
example : ExpTapeOK { prec := 5, emax := 99, emin := -99 } { coeff := 15 } 5 3 = false := by decide +kernel

end Apd.Props

#print axioms Apd.Props.C12_exp_series_trunc
#print axioms Apd.Props.C12_exp_horner_round
#print axioms Apd.Props.C12_exp_horner_rounded
#print axioms Apd.Props.C12_exp_series_rel_neg
#print axioms Apd.Props.C12_exp_series_rel_pos
#print axioms Apd.Props.C12_exp_power_rounded
#print axioms Apd.Props.C12_exp_total
#print axioms Apd.Props.C12_exp_accurate
#print axioms Apd.Props.C12_exp_accurate_delivered
#print axioms Apd.Props.C12_exp_accurate_pos
#print axioms Apd.Props.C12_exp_accurate_tiny
