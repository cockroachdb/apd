import ApdVerif.Props.C11Sqrt
import ApdVerif.Lemmas.SqrtExactLoop
import ApdVerif.Lemmas.SqrtExactTail
/-!
# C11 — an exactly representable square root is reported without Inexact

`C11_sqrt_correct_partial` gives one direction of C11's flag clause only: of "Inexact raised iff the root is not
exactly representable" the direction from right to left.  The other direction needs more than closeness of
the Newton iterate: the iterate has to BE the root when the root is a decimal of at most `Precision` digits,
because `Sqrt` keeps the Inexact flag of the rounding of the iterate.  The Newton map with half-even rounded
operations locks onto such a root in the last round of the loop: that is `iter_exact`.

Proof of `iter_exact` (Lemmas/SqrtExactRnd, SqrtExactMath, SqrtExactInv, SqrtExactLoop): every operation of a
round is a nearest rounding to `p` digits (`SqrtX.Rnd`, through `Lemmas/RoundedOp.lean`); an ABSOLUTE invariant
`|A_p - r| ≤ Bd r g p · 10^(-p)` (`SqrtX.Bd`: four ranges of `r`, by which roundings can cross a power of ten,
and three warm-up rounds 4, 6, 10) is carried on top of `SqrtI.Inv`; the root `r = m·10^(-g)` (`10 ∤ m`) has
`2g + 4 ≤ workp + 5` because the operand has at least `2g - 1` digits (`SqrtX.root_grid`), so the round before
the last has precision `≥ max 10 (g+3)` and the last round returns `r` exactly (`SqrtX.lock`).

`C11_sqrt_exact`: when the specification says the root is exactly representable, `Sqrt` does not raise Inexact.
With `C11_sqrt_correct_partial` this gives `C11_sqrt_inexact_iff`: the Inexact flag of `Sqrt` IS the
specification's.

The re-check squares the coefficient (`sq.Coeff.Mul(&d.Coeff, &d.Coeff); sq.Exponent = 2 * d.Exponent`, apd
2ba0159), so no exponent limit enters; `Sqrt(4E-100000)` at precision 5 below is the case a multiplication under
a context would get wrong.
-/
namespace Apd.Props
open Apd Apd.Oracle Apd.SqrtD Apd.C11Q Apd.C20L Apd.RatSpec

/-- **lock-in**: if the scaled operand `f` is the square of a decimal `R·10^k`, the iterate the loop ends with
is exactly that decimal (no bound on the digits of `R` is needed: the operand has at least twice as many digits as
its root, and the working precision follows the operand) -/
theorem iter_exact' (c : Ctx) (x : Dec) (h : Dom c x) (R : Nat) (k : Int)
    (hsq : (f x).toRat = ((R : ℚ) * (10 : ℚ) ^ k) ^ 2) :
    (iter c x).2.toRat = (R : ℚ) * (10 : ℚ) ^ k := by
  obtain ⟨g, m, e1, hg, hr1, hr2⟩ := SqrtX.root_grid c x h R k hsq
  exact SqrtX.iter_root c x _ g ⟨h, hsq, hr1, hr2, ⟨(m : ℤ), by rw [e1]; push_cast; rfl⟩, hg⟩

theorem iter_exact (c : Ctx) (x : Dec) (h : Dom c x) (R : Nat) (k : Int)
    (hR : ndigits R ≤ c.prec) (hsq : (f x).toRat = ((R : ℚ) * (10 : ℚ) ^ k) ^ 2) :
    (iter c x).2.toRat = (R : ℚ) * (10 : ℚ) ^ k :=
  have _ := hR
  iter_exact' c x h R k hsq

theorem spec_exact_facts (c : Ctx) (x : Dec) (hex : (specSqrt c x).inexact = false) :
    ¬ (sM c x ≠ 0 ∧ sQ c x + (ndigits (sM c x) : Int) - 1 > c.emax) ∧ sExact c x = true := by
  rw [specSqrt_eq] at hex
  by_cases hov : (sM c x != 0 && decide (sQ c x + (ndigits (sM c x) : Int) - 1 > c.emax)) = true
  · rw [if_pos hov] at hex; simp at hex
  · rw [if_neg hov] at hex
    refine ⟨?_, by simpa using hex⟩
    intro hh
    apply hov
    simp [hh.1, hh.2]

theorem C11_sqrt_exact (c : Ctx) (x : Dec) (h : Dom c x)
    (hr : (workp c x : Int) + 6 ≤ 100000 + Int.tdiv (e x) 2)
    (hex : (specSqrt c x).inexact = false) :
    (sqrtOp c x).fl.inexact = false := by
  obtain ⟨hnov, hsE⟩ := spec_exact_facts c x hex
  have hic := iterClose_of_dom c x h
  obtain ⟨hh, he2, ht2, hf2⟩ := e_half x
  have hr' : -100000 ≤ (iter c x).2.exp + hh := by
    have := iter_exp_ge c x hic
    rw [ht2] at hr; omega
  have DH := dhyp_of_iter c x h hic hh he2 hf2 hr'
  -- the scaled operand is the square of a decimal
  obtain ⟨-, hexq⟩ := sM_facts c x
  have hsm := hexq.1 hsE
  have hu := tp (sQ c x)
  have hF : (f x).toRat = magQ (f x) := toRat_pos (f x) h.hn
  have hXf := magQ_x_eq x
  have hsq : (f x).toRat = (((sM c x : ℕ) : ℚ) * (10 : ℚ) ^ (sQ c x - hh)) ^ 2 := by
    have h1 : magQ x = ((sM c x : ℚ)) ^ 2 * ((10 : ℚ) ^ sQ c x) ^ 2 := by rw [hsm]; field_simp
    have h2 : magQ (f x) * (10 : ℚ) ^ (2 * hh) = ((sM c x : ℚ)) ^ 2 * ((10 : ℚ) ^ sQ c x) ^ 2 := by
      rw [← he2, ← hXf, h1]
    have hp2 := tp (2 * hh)
    rw [hF, mul_pow, zpow_sub₀ ten_ne, div_pow, sq_zpow hh]
    field_simp
    linarith
  have hA := iter_exact' c x h (sM c x) (sQ c x - hh) hsq
  have hAn : (iter c x).2.neg = false := hic.2.2.1
  have hroot : (magQ { (iter c x).2 with exp := (iter c x).2.exp + hh }) ^ 2 = magQ x := by
    rw [magQ_shift, ← toRat_pos _ hAn, hA, hXf, he2, ← hF, hsq, mul_pow, mul_pow, sq_zpow hh]
  rw [sqrtOp_ok (rootSpecials_none c x h.hx h.hn h.h0) hic.1]
  rw [sqrt_tail_eq, ht2]
  exact SqrtX.tail_exact c x _ hh _ h.hc h.hx h.hn DH hroot hsE hnov

/-- **C11, Sqrt, the Inexact flag** is the specification's: raised exactly when the root is not representable in the
context (or overflows) -/
theorem C11_sqrt_inexact_iff (c : Ctx) (x : Dec) (h : Dom c x)
    (hr : (workp c x : Int) + 6 ≤ 100000 + Int.tdiv (e x) 2) :
    (sqrtOp c x).fl.inexact = (specSqrt c x).inexact := by
  cases hs : (specSqrt c x).inexact
  · exact C11_sqrt_exact c x h hr hs
  · exact (C11_sqrt_correct_partial c x h hr).2.2.2.1 hs

set_option maxRecDepth 1000000 in
/-- `Sqrt(4E-100000)` at precision 5 is `20000E-50004`, exact, although twice that exponent is below the
package's exponent limit -/
example :
    Dom { prec := 5, emax := 100000, emin := -100000 } { coeff := 4, exp := -100000 } ∧
    (sqrtOp { prec := 5, emax := 100000, emin := -100000 } { coeff := 4, exp := -100000 }).d =
      { coeff := 20000, exp := -50004 } ∧
    (sqrtOp { prec := 5, emax := 100000, emin := -100000 } { coeff := 4, exp := -100000 }).fl.inexact = false :=
  ⟨⟨by decide, rfl, rfl, rfl, by decide, by decide, by decide⟩, by decide, by decide⟩

#print axioms iter_exact
#print axioms C11_sqrt_exact
#print axioms C11_sqrt_inexact_iff
#print axioms C11_sqrt_correct_partial

end Apd.Props
