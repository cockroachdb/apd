import ApdVerif.Spec.Agrees
import ApdVerif.Lemmas.C09Lemmas
/-!
# C09 — Quantize and RoundToIntegral produce the requested exponent, correctly rounded

`quantSpec` is the specification (`roundAt` at the requested exponent) and `Ctx.WFq` the context condition without
`Precision ≤ MaxExponent`.  `C09_quantize_allctx_partial` is the general statement, `C09_quantize_partial` and
`C09_quantize_allctx_prec` its instances; `C09_quantize_syslimit` / `C09_rtie_syslimit` are the complement of the
hypothesis `hgap2` (finding F1); `C09_quantize_zero`, `_zero_far`, `_far_nonzero` cover operands more than 100000
digits away (finding F6).  RoundToIntegralExact / RoundToIntegralValue, Ceil and Floor follow, and the sign of a zero
that Ceil and Floor return (`C08_ceil_zero_sign`, `C08_floor_zero_sign`).
-/
namespace Apd

/-- well-formed context for Quantize: as `Ctx.WF` but without `Precision ≤ MaxExponent` -/
def Ctx.WFq (c : Ctx) : Prop :=
  1 ≤ c.prec ∧ 0 ≤ c.emax ∧ c.emax ≤ 100000 ∧ -100000 ≤ c.emin ∧ c.emin ≤ 0

instance (c : Ctx) : Decidable c.WFq := by unfold Ctx.WFq; exact inferInstance

theorem Ctx.WF.toWFq {c : Ctx} (h : c.WF) : c.WFq := by
  obtain ⟨c1, c2, c3, c4, c5⟩ := h
  exact ⟨c1, by omega, c3, c4, c5⟩

end Apd

namespace Apd.Props
open Apd Apd.Oracle Apd.C09L

/-- `x / 10^e` rounded to an integer in the context's mode: `(coefficient, digits were lost)` -/
def quantSpec (c : Ctx) (x : Dec) (e : Int) : Nat × Bool := roundAt c.mode x.neg x.coeff 1 x.exp e

theorem quantizeOp_eq (c : Ctx) (x : Dec) (hx : x.form = .finite) (e : Int) :
    quantizeOp c x e =
      if e < c.emin - (c.prec : Int) + 1 then invalidNaN c
      else if (ndigits (quantizeCore c x e).1.coeff : Int) > (c.prec : Int) ∨ e > c.emax then invalidNaN c
      else if ((quantizeCore c x e).2 ||| (ctxRound c (quantizeCore c x e).1).2).overflow = true ∨
              ((quantizeCore c x e).2 ||| (ctxRound c (quantizeCore c x e).1).2).underflow = true
        then invalidNaN c
      else finish c ((ctxRound c (quantizeCore c x e).1).1,
                     (quantizeCore c x e).2 ||| (ctxRound c (quantizeCore c x e).1).2) := by
  have hnan := notNaN_of_finite x hx
  have hinf : (x.form == Form.infinite) = false := by simp [hx]
  unfold quantizeOp
  simp only [hnan, hinf, Bool.false_or, Bool.or_eq_true, decide_eq_true_eq]
  rw [if_neg (by simp)]

/-- Quantize: exponent exactly `e`, coefficient `x/10^e` rounded in the context's mode, for every
magnitude of `x` relative to `10^e`; Inexact/Rounded iff digits were lost; never Underflow or
Overflow; InvalidOperation + NaN exactly when the coefficient needs more than Precision digits or
`e` (or the result's adjusted exponent) is outside the context's exponent range. -/
theorem quantize_main (c : Ctx) (hc : c.WFq) (x : Dec) (hx : x.form = .finite) (e : Int)
    (he : -100000 ≤ e ∧ e ≤ 100000) (hgap : x.coeff = 0 ∨ x.exp - e ≤ 100000)
    (hgap2 : (ndigits x.coeff : Int) < e - x.exp ∨ e - x.exp < 100000 ∨
      (e - x.exp = 100000 ∧ ndigits (quantSpec c x e).1 ≤ ndigits (x.coeff / 10 ^ 100000)))
    (hprec : c.prec ≤ 100001 ∨ ndigits (quantSpec c x e).1 ≤ 100001) :
    if e < c.emin - (c.prec : Int) + 1 ∨ e > c.emax ∨ ndigits (quantSpec c x e).1 > c.prec ∨
        ((quantSpec c x e).1 ≠ 0 ∧ e + (ndigits (quantSpec c x e).1 : Int) - 1 > c.emax) then
      quantizeOp c x e = invalidNaN c
    else
      (quantizeOp c x e).d = { form := .finite, neg := x.neg, exp := e, coeff := (quantSpec c x e).1 } ∧
      (quantizeOp c x e).fl.inexact = (quantSpec c x e).2 ∧
      ((quantSpec c x e).2 = true → (quantizeOp c x e).fl.rounded = true) ∧
      (quantizeOp c x e).fl.underflow = false ∧ (quantizeOp c x e).fl.overflow = false ∧
      (quantizeOp c x e).fl.invalidOp = false ∧
      (quantizeOp c x e).fl.sysOverflow = false ∧ (quantizeOp c x e).fl.sysUnderflow = false := by
  obtain ⟨c1, c0, c3, c4, c5⟩ := hc
  rw [quantizeOp_eq c x hx e]
  by_cases h1 : e < c.emin - (c.prec : Int) + 1
  · rw [if_pos (Or.inl h1), if_pos h1]
  · have key := quantizeCore_spec c x hx e hgap hgap2
    change QGood x e (quantSpec c x e) (quantizeCore c x e) ∨
      ((quantizeCore c x e).2.overflow = true ∧
        ((ndigits (quantSpec c x e).1 : Int) - 1 > 100000 ∨
         ((quantSpec c x e).1 ≠ 0 ∧ e + (ndigits (quantSpec c x e).1 : Int) - 1 > c.emax))) at key
    generalize quantizeCore c x e = q at key ⊢
    generalize quantSpec c x e = R at key hprec ⊢
    rw [if_neg h1]
    rcases key with ⟨g1, g2, g3, g4, g5, g6, g7, g8, g9⟩ | ⟨b1, b2⟩
    · obtain ⟨q1, q2⟩ := q
      simp only [] at g1 g2 g3 g4 g5 g6 g7 g8 g9 ⊢
      subst g1
      simp only []
      by_cases h2 : ndigits R.1 > c.prec ∨ e > c.emax
      · have hcond : e < c.emin - (c.prec : Int) + 1 ∨ e > c.emax ∨ ndigits R.1 > c.prec ∨
            (R.1 ≠ 0 ∧ e + (ndigits R.1 : Int) - 1 > c.emax) := by omega
        rw [if_pos hcond, if_pos (by omega)]
      · have fit := ctxRound_fit c c1 c0 c3 c4 c5 { x with coeff := R.1, exp := e } hx (by simp only []; omega)
          (by simp only []; omega) (by simp only []; omega) (by simp only []; omega)
        simp only [] at fit
        by_cases h3 : R.1 ≠ 0 ∧ e + (ndigits R.1 : Int) - 1 > c.emax
        · have hcond : e < c.emin - (c.prec : Int) + 1 ∨ e > c.emax ∨ ndigits R.1 > c.prec ∨
              (R.1 ≠ 0 ∧ e + (ndigits R.1 : Int) - 1 > c.emax) := by omega
          rw [if_pos h3] at fit
          rw [if_pos hcond, if_neg (by omega), if_pos (Or.inl (by simp [fit]))]
        · have hcond : ¬ (e < c.emin - (c.prec : Int) + 1 ∨ e > c.emax ∨ ndigits R.1 > c.prec ∨
              (R.1 ≠ 0 ∧ e + (ndigits R.1 : Int) - 1 > c.emax)) := by omega
          rw [if_neg h3] at fit
          obtain ⟨t1, t2, t3, t4, t5, t6, t7⟩ := fit
          rw [if_neg hcond, if_neg (by omega), if_neg (by simp [g4, g5, t3, t4]), t1]
          simp only [hx] at t2 t3 t4 t5 t6 t7
          simp [finish, hx, g2, g4, g5, g6, g7, g8, t2, t3, t4, t5, t6, t7]
          exact fun h => Or.inl (g3 h)
    · have hcond : e < c.emin - (c.prec : Int) + 1 ∨ e > c.emax ∨ ndigits R.1 > c.prec ∨
          (R.1 ≠ 0 ∧ e + (ndigits R.1 : Int) - 1 > c.emax) := by omega
      rw [if_pos hcond]
      by_cases h2 : (ndigits q.1.coeff : Int) > (c.prec : Int) ∨ e > c.emax
      · rw [if_pos h2]
      · rw [if_neg h2, if_pos (Or.inl (by simp [b1]))]

/- Why `hprec`: with `hc : c.WFq` alone the statement is false when Precision exceeds 100001.  Counterexample:
     c = {prec := 100002, emax := 100000, emin := -100000, mode := halfUp},
     x = 10^100002 · 10^-100000 (100003 digits, x.WF holds), e = -99999 (one digit dropped).
   The specification's coefficient 10^100001 has 100002 ≤ prec digits and e + 100002 - 1 = 2 ≤ emax, so the
   finite branch applies; in the model the frame's adjusted exponent 100001 exceeds the *package* limit
   MaxExponent, Round raises SystemOverflow and Quantize returns NaN/InvalidOperation.
   Nothing relates `prec` to `emax`.
   `hxw` (here and in the two instances below) is part of the property's domain; the proof does not need it. -/
theorem C09_quantize_allctx_partial (c : Ctx) (hc : c.WFq) (x : Dec) (hx : x.form = .finite) (hxw : x.WF)
    (e : Int) (he : -100000 ≤ e ∧ e ≤ 100000) (hgap : x.coeff = 0 ∨ x.exp - e ≤ 100000)
    (hgap2 : (ndigits x.coeff : Int) < e - x.exp ∨ e - x.exp < 100000 ∨
      (e - x.exp = 100000 ∧ ndigits (quantSpec c x e).1 ≤ ndigits (x.coeff / 10 ^ 100000)))
    (hprec : c.prec ≤ 100001 ∨ ndigits (quantSpec c x e).1 ≤ 100001) :
    let o := quantizeOp c x e
    let r := quantSpec c x e
    let etiny : Int := c.emin - (c.prec : Int) + 1
    if e < etiny ∨ e > c.emax ∨ ndigits r.1 > c.prec ∨ (r.1 ≠ 0 ∧ e + (ndigits r.1 : Int) - 1 > c.emax) then
      o.d = decNaN ∧ o.fl = Cond.cInvalidOp ∧ o.err = goError c.traps Cond.cInvalidOp
    else
      o.d = { form := .finite, neg := x.neg, exp := e, coeff := r.1 } ∧
      o.fl.inexact = r.2 ∧ (r.2 = true → o.fl.rounded = true) ∧
      o.fl.underflow = false ∧ o.fl.overflow = false ∧ o.fl.invalidOp = false ∧
      o.fl.sysOverflow = false ∧ o.fl.sysUnderflow = false := by
  intro o r etiny
  have main := quantize_main c hc x hx e he hgap hgap2 hprec
  by_cases hcond : e < etiny ∨ e > c.emax ∨ ndigits r.1 > c.prec ∨ (r.1 ≠ 0 ∧ e + (ndigits r.1 : Int) - 1 > c.emax)
  · rw [if_pos hcond]
    rw [if_pos hcond] at main
    simp only [o, main, invalidNaN, and_self]
  · rw [if_neg hcond]
    rw [if_neg hcond] at main
    exact main

/- Why `hgap2` (finding F1): without it, and with `hgap : x.exp - e ≤ 100000`, the statement is false.
Counterexamples with c = {prec := 5, emax := 100000, emin := -100000, mode := halfUp}:
  (a) x = (10^100001 - 1)·10^-100000, e = 0: the specification gives 10·10^0 (2 digits), the model
      (Round's `setExponent(…, -100000, 100001)`) raises SystemOverflow and Quantize returns NaN/InvalidOperation.
  (b) x = 10^149999·10^-100000, e = 50000: the specification gives 0·10^50000, the model's Round hits
      `diff > MaxExponent` and Quantize returns NaN/InvalidOperation.
`hgap2`: the number of discarded digits `e - x.exp` is below 100000, or all digits are discarded, or it is exactly
100000 and rounding up does not carry into a new digit.
`hgap` has the disjunct `x.coeff = 0` because `quantize` never rescales a zero coefficient (finding F6, repaired in
e47cc12): zeros are covered whatever the distance between the exponents. -/
theorem C09_quantize_partial (c : Ctx) (hc : c.WF) (x : Dec) (hx : x.form = .finite) (hxw : x.WF) (e : Int)
    (he : -100000 ≤ e ∧ e ≤ 100000) (hgap : x.coeff = 0 ∨ x.exp - e ≤ 100000)
    (hgap2 : (ndigits x.coeff : Int) < e - x.exp ∨ e - x.exp < 100000 ∨
      (e - x.exp = 100000 ∧ ndigits (quantSpec c x e).1 ≤ ndigits (x.coeff / 10 ^ 100000))) :
    let o := quantizeOp c x e
    let r := quantSpec c x e
    let etiny : Int := c.emin - (c.prec : Int) + 1
    if e < etiny ∨ e > c.emax ∨ ndigits r.1 > c.prec ∨ (r.1 ≠ 0 ∧ e + (ndigits r.1 : Int) - 1 > c.emax) then
      o.d = decNaN ∧ o.fl = Cond.cInvalidOp ∧ o.err = goError c.traps Cond.cInvalidOp
    else
      o.d = { form := .finite, neg := x.neg, exp := e, coeff := r.1 } ∧
      o.fl.inexact = r.2 ∧ (r.2 = true → o.fl.rounded = true) ∧
      o.fl.underflow = false ∧ o.fl.overflow = false ∧ o.fl.invalidOp = false ∧
      o.fl.sysOverflow = false ∧ o.fl.sysUnderflow = false :=
  C09_quantize_allctx_partial c hc.toWFq x hx hxw e he hgap hgap2
    (Or.inl (by have := hc.2.1; have := hc.2.2.1; omega))

/-- covers the contexts with `Precision > MaxExponent + 1`, which the `WF` version excludes -/
theorem C09_quantize_allctx_prec (c : Ctx) (hc : c.WFq) (hp : c.prec ≤ 100001) (x : Dec) (hx : x.form = .finite)
    (hxw : x.WF) (e : Int) (he : -100000 ≤ e ∧ e ≤ 100000) (hgap : x.coeff = 0 ∨ x.exp - e ≤ 100000)
    (hgap2 : (ndigits x.coeff : Int) < e - x.exp ∨ e - x.exp < 100000 ∨
      (e - x.exp = 100000 ∧ ndigits (quantSpec c x e).1 ≤ ndigits (x.coeff / 10 ^ 100000))) :
    let o := quantizeOp c x e
    let r := quantSpec c x e
    let etiny : Int := c.emin - (c.prec : Int) + 1
    if e < etiny ∨ e > c.emax ∨ ndigits r.1 > c.prec ∨ (r.1 ≠ 0 ∧ e + (ndigits r.1 : Int) - 1 > c.emax) then
      o.d = decNaN ∧ o.fl = Cond.cInvalidOp ∧ o.err = goError c.traps Cond.cInvalidOp
    else
      o.d = { form := .finite, neg := x.neg, exp := e, coeff := r.1 } ∧
      o.fl.inexact = r.2 ∧ (r.2 = true → o.fl.rounded = true) ∧
      o.fl.underflow = false ∧ o.fl.overflow = false ∧ o.fl.invalidOp = false ∧
      o.fl.sysOverflow = false ∧ o.fl.sysUnderflow = false :=
  C09_quantize_allctx_partial c hc x hx hxw e he hgap hgap2 (Or.inl hp)

/-- the complement of `hgap2`: when at least 100000 digits are discarded (and not all of them), with a
carry in the boundary case of exactly 100000, the model's Quantize hits a system limit inside `Round` and
returns NaN with InvalidOperation — whatever the specification says. -/
theorem C09_quantize_syslimit (c : Ctx) (hc : c.WF) (x : Dec) (hx : x.form = .finite) (e : Int)
    (hk : e - x.exp ≥ 100000) (hnd : e - x.exp ≤ (ndigits x.coeff : Int))
    (hcarry : e - x.exp = 100000 → ndigits (quantSpec c x e).1 > ndigits (x.coeff / 10 ^ 100000)) :
    let o := quantizeOp c x e
    o.d = decNaN ∧ o.fl = Cond.cInvalidOp ∧ o.err = goError c.traps Cond.cInvalidOp := by
  intro o
  obtain ⟨c1, c2, c3, c4, c5⟩ := hc
  have key := quantizeCore_sys c x hx e hk hnd hcarry
  have ho : o = invalidNaN c := by
    simp only [o]
    rw [quantizeOp_eq c x hx e]
    by_cases h1 : e < c.emin - (c.prec : Int) + 1
    · rw [if_pos h1]
    · rw [if_neg h1]
      by_cases h2 : (ndigits (quantizeCore c x e).1.coeff : Int) > (c.prec : Int) ∨ e > c.emax
      · rw [if_pos h2]
      · rw [if_neg h2]
        rcases key with ⟨_, k1⟩ | ⟨k1, _⟩
        · exfalso; omega
        · rw [if_pos (Or.inl (by simp [k1]))]
  rw [ho]
  simp [invalidNaN]

/-- Quantize of a zero (finding F6, repaired in e47cc12: `quantize` looks at the coefficient before it refuses a
rescaling by more than 100000 digits).  For ANY operand exponent and any requested exponent `e` with
`Etiny ≤ e ≤ MaxExponent` (and within the package's limit `-100000 ≤ e`; `e ≤ 100000` follows from the context) the
result is the zero at exponent `e` with the operand's sign and a nil error.  The only condition that can be raised is
Rounded, and only when exactly one digit is dropped (`e = x.exp + 1`: the shifted frame then calls `Round` with
precision 0 on the one-digit coefficient `0`). -/
theorem C09_quantize_zero (c : Ctx) (hc : c.WFq) (x : Dec) (hx : x.form = .finite) (hz : x.coeff = 0) (e : Int)
    (he1 : c.emin - (c.prec : Int) + 1 ≤ e) (he2 : e ≤ c.emax) (he3 : -100000 ≤ e) :
    (quantizeOp c x e).d = { form := .finite, neg := x.neg, exp := e, coeff := 0 } ∧
    (quantizeOp c x e).fl = (if e - x.exp = 1 then Cond.cRounded else {}) ∧
    ((quantizeOp c x e).err = .none ∨ (e - x.exp = 1 ∧ (quantizeOp c x e).err = .trap)) := by
  obtain ⟨c1, c0, c3, c4, c5⟩ := hc
  have hn0 : ndigits 0 = 1 := by decide
  have hq := quantizeCore_zero c x hx hz e he2
  have hr := ctxRound_zero c c1 c0 c3 c4 c5 { x with exp := e } hx hz he1 he2 he3
  rw [quantizeOp_eq c x hx e, if_neg (by omega), hq]
  simp only [] at hr ⊢
  rw [hz] at hr
  rw [hz, hn0, if_neg (by omega), hr]
  by_cases h1 : e - x.exp = 1
  · simp only [h1, if_true]
    have hfl : (Cond.cRounded ||| ({} : Cond)) = Cond.cRounded := by decide
    rw [hfl, if_neg (by decide)]
    refine ⟨by simp [finish, hx], rfl, ?_⟩
    simp only [finish, goError]
    have : (Cond.cRounded.sysOverflow || Cond.cRounded.sysUnderflow) = false := by decide
    rw [this]
    simp only [Bool.false_eq_true, if_false]
    by_cases ht : (Cond.cRounded &&& c.traps).any = true
    · right; rw [if_pos ht]; exact ⟨trivial, rfl⟩
    · left; rw [if_neg ht]
  · simp only [h1, if_false]
    have hfl : (({} : Cond) ||| ({} : Cond)) = {} := by decide
    rw [hfl, if_neg (by decide)]
    exact ⟨by simp [finish, hx], rfl, Or.inl (by simp [finish, goError_noFlags])⟩

/-- `C09_quantize_zero` when not exactly one digit is dropped: no condition at all.
`Quantize(0E+3878, -96125)` = `0E-96125` (example below); the unrepaired Go code returned NaN + InvalidOperation. -/
theorem C09_quantize_zero_far (c : Ctx) (hc : c.WFq) (x : Dec) (hx : x.form = .finite) (hz : x.coeff = 0) (e : Int)
    (he1 : c.emin - (c.prec : Int) + 1 ≤ e) (he2 : e ≤ c.emax) (he3 : -100000 ≤ e) (hne : e - x.exp ≠ 1) :
    quantizeOp c x e =
      { d := { form := .finite, neg := x.neg, exp := e, coeff := 0 }, fl := {}, err := .none } := by
  obtain ⟨k1, k2, k3⟩ := C09_quantize_zero c hc x hx hz e he1 he2 he3
  rw [if_neg hne] at k2
  have k3' : (quantizeOp c x e).err = .none := by
    rcases k3 with h | ⟨h, _⟩
    · exact h
    · exact absurd h hne
  have ha : (quantizeOp c x e).aux = 0 := by
    rw [quantizeOp_eq c x hx e]
    split
    · rfl
    · split
      · rfl
      · split <;> rfl
  generalize quantizeOp c x e = o at k1 k2 k3' ha
  cases o
  simp only [] at k1 k2 k3' ha
  simp [k1, k2, k3', ha]

/-- a NON-zero coefficient that would have to be multiplied by more than `10^100000`
ends in NaN with InvalidOperation (the rescaled coefficient has more than 100001 digits, beyond every
admissible precision; the model reaches the verdict through `quantize`'s SystemUnderflow exit). -/
theorem C09_quantize_far_nonzero (c : Ctx) (x : Dec) (hx : x.form = .finite) (hnz : x.coeff ≠ 0) (e : Int)
    (hfar : x.exp - e > 100000) :
    quantizeOp c x e = invalidNaN c := by
  have h1 : x.isZero = false := by simp [Dec.isZero, hnz]
  have hq : quantizeCore c x e = (x, Cond.cSysUnderflow ||| Cond.cUnderflow) := by
    unfold quantizeCore
    simp only [h1, Bool.not_false, if_true]
    rw [if_pos (by omega), if_pos (by simp only [MinExponent]; omega)]
  rw [quantizeOp_eq c x hx e, hq]
  simp only []
  split
  · rfl
  · split
    · rfl
    · rw [if_pos (Or.inr (by simp [Cond.cUnderflow]))]

theorem toIntegralSpecials_finite (c : Ctx) (x : Dec) (hx : x.form = .finite) :
    toIntegralSpecials c x = none := by
  simp [toIntegralSpecials, shouldSetAsNaN, Dec.isNaN, hx]

/-- RoundToIntegralExact = Quantize to exponent 0 without the digit limit.  Without `hgap2` the statement is false:
counterexample (a) above, where the model returns coefficient 1 with SystemOverflow instead of 10. -/
theorem C09_rtie_partial (c : Ctx) (hc : c.WF) (x : Dec) (hx : x.form = .finite) (hxw : x.WF)
    (hfit : (ndigits (quantSpec c x 0).1 : Int) - 1 ≤ c.emax)
    (hgap2 : (ndigits x.coeff : Int) < -x.exp ∨ -100000 < x.exp ∨
      (x.exp = -100000 ∧ ndigits (quantSpec c x 0).1 ≤ ndigits (x.coeff / 10 ^ 100000))) :
    let o := roundToIntegralExactOp c x
    let r := quantSpec c x 0
    o.d = { form := .finite, neg := x.neg, exp := 0, coeff := r.1 } ∧
    o.fl.inexact = r.2 ∧ (r.2 = true → o.fl.rounded = true) ∧
    o.fl.underflow = false ∧ o.fl.overflow = false ∧ o.fl.invalidOp = false ∧
    o.fl.sysOverflow = false ∧ o.fl.sysUnderflow = false := by
  intro o r
  obtain ⟨c1, c2, c3, c4, c5⟩ := hc
  obtain ⟨w1, w2, w3, w4⟩ := hxw
  have key := quantizeCore_spec c x hx 0 (Or.inr (by omega)) (by
    rcases hgap2 with h | h | h
    · left; omega
    · right; left; omega
    · right; right; exact ⟨by omega, h.2⟩)
  change QGood x 0 r (quantizeCore c x 0) ∨
      ((quantizeCore c x 0).2.overflow = true ∧
        ((ndigits r.1 : Int) - 1 > 100000 ∨ (r.1 ≠ 0 ∧ 0 + (ndigits r.1 : Int) - 1 > c.emax))) at key
  have ho : o = finish c (quantizeCore c x 0) := by
    simp only [o, roundToIntegralExactOp, toIntegralSpecials_finite c x hx]
  rcases key with ⟨g1, g2, g3, g4, g5, g6, g7, g8, g9⟩ | ⟨b1, b2⟩
  · rw [ho]
    simp only [finish, g1, g2, g4, g5, g6, g7, g8, hx, true_and, and_true]
    exact g3
  · exfalso
    change (ndigits r.1 : Int) - 1 ≤ c.emax at hfit
    omega

/-- the complement of `hgap2` for RoundToIntegralExact: with `x.exp = -100000` and a carry into a new
digit, the model reports a system-limit error (the destination is then unspecified). -/
theorem C09_rtie_syslimit (c : Ctx) (x : Dec) (hx : x.form = .finite)
    (hexp : x.exp = -100000) (hnd : 100000 ≤ ndigits x.coeff)
    (hcarry : ndigits (quantSpec c x 0).1 > ndigits (x.coeff / 10 ^ 100000)) :
    (roundToIntegralExactOp c x).err = .sys := by
  have key := quantizeCore_sys c x hx 0 (by omega) (by omega) (fun _ => hcarry)
  simp only [roundToIntegralExactOp, toIntegralSpecials_finite c x hx, finish]
  rcases key with ⟨k1, _⟩ | ⟨_, k2⟩
  · exfalso; omega
  · simp [goError, k2]

/-- RoundToIntegralValue: the same value, reporting neither Inexact nor Rounded (`hc`, `hxw`, `hfit` are the
property's domain: the equation holds without them) -/
theorem C09_rtiv (c : Ctx) (hc : c.WF) (x : Dec) (hx : x.form = .finite) (hxw : x.WF)
    (hfit : (ndigits (quantSpec c x 0).1 : Int) - 1 ≤ c.emax) :
    let o := roundToIntegralValueOp c x
    o.d = (roundToIntegralExactOp c x).d ∧ o.fl.inexact = false ∧ o.fl.rounded = false := by
  intro o
  simp only [o, roundToIntegralValueOp, roundToIntegralExactOp, toIntegralSpecials_finite c x hx, finish,
    and_self]

/-- `⌈x⌉` and `⌊x⌋` of a finite decimal with `exp ≤ 0`, as integers -/
def ceilInt (x : Dec) : Int :=
  let p := 10 ^ (-x.exp).toNat
  if x.neg then -((x.coeff / p : Nat) : Int)
  else if x.coeff % p = 0 then ((x.coeff / p : Nat) : Int) else ((x.coeff / p + 1 : Nat) : Int)
def floorInt (x : Dec) : Int :=
  let p := 10 ^ (-x.exp).toNat
  if !x.neg then ((x.coeff / p : Nat) : Int)
  else if x.coeff % p = 0 then -((x.coeff / p : Nat) : Int) else -((x.coeff / p + 1 : Nat) : Int)

/-- Ceil and Floor after `Modf`: the truncated integer, stepped one away from zero when a fraction was dropped and
the operand has the sign `s` on whose side the operation rounds away from zero (`s = false`: Ceil, `s = true`:
Floor).  The sign is the operand's in every case. -/
theorem truncStep (c : Ctx) (hc : c.WF) (x : Dec) (hx : x.form = .finite) (hexp : x.exp ≤ 0) (s : Bool)
    (hfit : x.coeff % 10 ^ (-x.exp).toNat ≠ 0 → x.neg = s →
      ndigits (x.coeff / 10 ^ (-x.exp).toNat + 1) ≤ c.prec) :
    (if x.coeff % 10 ^ (-x.exp).toNat ≠ 0 ∧ x.neg = s then addOp c (modf x).1 decOne s else { d := (modf x).1 }) =
      { d := { form := .finite, neg := x.neg, exp := 0,
               coeff := if x.coeff % 10 ^ (-x.exp).toNat ≠ 0 ∧ x.neg = s then x.coeff / 10 ^ (-x.exp).toNat + 1
                        else x.coeff / 10 ^ (-x.exp).toNat } } := by
  rw [(modf_spec x hx hexp).1]
  by_cases h : x.coeff % 10 ^ (-x.exp).toNat ≠ 0 ∧ x.neg = s
  · rw [if_pos h, if_pos h, h.2]
    exact addOp_one c hc s _ (hfit h.1 h.2)
  · rw [if_neg h, if_neg h]

theorem ceilOp_val (c : Ctx) (hc : c.WF) (x : Dec) (hx : x.form = .finite) (hexp : x.exp ≤ 0)
    (hfit : ndigits (ceilInt x).natAbs ≤ c.prec) :
    ceilOp c x =
      { d := { form := .finite, neg := x.neg, exp := 0,
               coeff := if x.coeff % 10 ^ (-x.exp).toNat ≠ 0 ∧ x.neg = false then x.coeff / 10 ^ (-x.exp).toNat + 1
                        else x.coeff / 10 ^ (-x.exp).toNat } } := by
  rw [← truncStep c hc x hx hexp false]
  · simp only [ceilOp, toIntegralSpecials_finite c x hx, (modf_spec x hx hexp).2]
    by_cases hm : x.coeff % 10 ^ (-x.exp).toNat = 0 <;> cases x.neg <;> simp [hm]
  · intro hm hn
    simp only [ceilInt, hn, hm, Bool.false_eq_true, if_false, Int.natAbs_natCast] at hfit
    exact hfit

theorem floorOp_val (c : Ctx) (hc : c.WF) (x : Dec) (hx : x.form = .finite) (hexp : x.exp ≤ 0)
    (hfit : ndigits (floorInt x).natAbs ≤ c.prec) :
    floorOp c x =
      { d := { form := .finite, neg := x.neg, exp := 0,
               coeff := if x.coeff % 10 ^ (-x.exp).toNat ≠ 0 ∧ x.neg = true then x.coeff / 10 ^ (-x.exp).toNat + 1
                        else x.coeff / 10 ^ (-x.exp).toNat } } := by
  rw [← truncStep c hc x hx hexp true]
  · simp only [floorOp, toIntegralSpecials_finite c x hx, (modf_spec x hx hexp).2]
    by_cases hm : x.coeff % 10 ^ (-x.exp).toNat = 0 <;> cases x.neg <;> simp [hm]
  · intro hm hn
    simp only [floorInt, hn, hm, Bool.not_true, Bool.false_eq_true, if_false, Int.natAbs_neg, Int.natAbs_natCast] at hfit
    exact hfit

/-- Ceil returns the smallest integer not below x, exactly and with no condition, whenever that
integer fits the precision. -/
theorem C09_ceil (c : Ctx) (hc : c.WF) (x : Dec) (hx : x.form = .finite) (hexp : x.exp ≤ 0)
    (hfit : ndigits (ceilInt x).natAbs ≤ c.prec) :
    let o := ceilOp c x
    o.err = .none ∧ o.fl = {} ∧ o.d.form = .finite ∧ o.d.exp = 0 ∧
    (if o.d.neg then -(o.d.coeff : Int) else (o.d.coeff : Int)) = ceilInt x := by
  intro o
  rw [show o = _ from ceilOp_val c hc x hx hexp hfit]
  refine ⟨rfl, rfl, rfl, rfl, ?_⟩
  unfold ceilInt
  simp only []
  generalize x.coeff / 10 ^ (-x.exp).toNat = q
  generalize x.coeff % 10 ^ (-x.exp).toNat = r
  by_cases hm : r = 0 <;> cases x.neg <;> simp [hm]

theorem C09_floor (c : Ctx) (hc : c.WF) (x : Dec) (hx : x.form = .finite) (hexp : x.exp ≤ 0)
    (hfit : ndigits (floorInt x).natAbs ≤ c.prec) :
    let o := floorOp c x
    o.err = .none ∧ o.fl = {} ∧ o.d.form = .finite ∧ o.d.exp = 0 ∧
    (if o.d.neg then -(o.d.coeff : Int) else (o.d.coeff : Int)) = floorInt x := by
  intro o
  rw [show o = _ from floorOp_val c hc x hx hexp hfit]
  refine ⟨rfl, rfl, rfl, rfl, ?_⟩
  unfold floorInt
  simp only []
  generalize x.coeff / 10 ^ (-x.exp).toNat = q
  generalize x.coeff % 10 ^ (-x.exp).toNat = r
  by_cases hm : r = 0 <;> cases x.neg <;> simp [hm]

/-- sign of zero (C08): a zero returned by Ceil carries the operand's sign (`Ceil(-0.05) = -0`, as
round-to-integral under RoundCeiling gives) -/
theorem C08_ceil_zero_sign (c : Ctx) (hc : c.WF) (x : Dec) (hx : x.form = .finite) (hexp : x.exp ≤ 0)
    (hfit : ndigits (ceilInt x).natAbs ≤ c.prec) :
    let o := ceilOp c x
    o.d.coeff = 0 → o.d.neg = x.neg := by
  intro o _
  rw [show o = _ from ceilOp_val c hc x hx hexp hfit]

/-- sign of zero (C08): a zero returned by Floor carries the operand's sign -/
theorem C08_floor_zero_sign (c : Ctx) (hc : c.WF) (x : Dec) (hx : x.form = .finite) (hexp : x.exp ≤ 0)
    (hfit : ndigits (floorInt x).natAbs ≤ c.prec) :
    let o := floorOp c x
    o.d.coeff = 0 → o.d.neg = x.neg := by
  intro o _
  rw [show o = _ from floorOp_val c hc x hx hexp hfit]

example : (ceilOp { prec := 9, emax := 99, emin := -99, mode := .halfUp } { coeff := 5, exp := -2, neg := true }).d
    = { coeff := 0, exp := 0, neg := true } := by decide

/-- an integer-valued x (exp > 0) is returned unchanged by Ceil and Floor -/
theorem C09_ceil_floor_int (c : Ctx) (x : Dec) (hx : x.form = .finite) (hexp : 0 < x.exp) :
    (ceilOp c x).d = x ∧ (floorOp c x).d = x ∧ (ceilOp c x).fl = {} ∧ (floorOp c x).fl = {} := by
  have hm : modf x = (x, { form := .finite, neg := x.neg, exp := 0, coeff := 0 }) := by
    unfold modf; rw [if_pos hexp]
  simp [ceilOp, floorOp, toIntegralSpecials_finite c x hx, hm, Dec.sign]

example : (quantizeOp { prec := 9, emax := 99, emin := -99, mode := .up } { coeff := 1, exp := -3 } 0).d
    = { coeff := 1, exp := 0 } := by decide
example : (quantizeOp { prec := 9, emax := 99, emin := 0, mode := .halfUp } { coeff := 7, exp := -1 } 0).d
    = { coeff := 1, exp := 0 } := by decide

/-- finding F6: `Quantize(0E+3878, -96125)` is `0E-96125` with no condition;
the same distance with the coefficient 1 is NaN + InvalidOperation. -/
example : quantizeOp { prec := 5, emax := 100000, emin := -100000, mode := .halfUp } { coeff := 0, exp := 3878 } (-96125)
    = { d := { coeff := 0, exp := -96125 }, fl := {}, err := .none } := by decide
example : quantizeOp { prec := 5, emax := 100000, emin := -100000, mode := .halfUp }
      { coeff := 0, exp := 3878, neg := true } (-96125)
    = { d := { coeff := 0, exp := -96125, neg := true }, fl := {}, err := .none } := by decide
example : quantizeOp { prec := 5, emax := 100000, emin := -100000, mode := .halfUp } { coeff := 1, exp := 3878 } (-96125)
    = invalidNaN { prec := 5, emax := 100000, emin := -100000, mode := .halfUp } := by decide
/-- the one condition a zero can raise: exactly one digit dropped gives Rounded -/
example : (quantizeOp { prec := 5, emax := 99, emin := -99, mode := .halfUp } { coeff := 0, exp := -5 } (-4)).fl
    = Cond.cRounded := by decide
/-- why `C09_quantize_zero` asks for `-100000 ≤ e`: with Etiny = -100004 the zero at -100001 is refused -/
example : quantizeOp { prec := 5, emax := 100000, emin := -100000, mode := .halfUp } { coeff := 0, exp := 0 } (-100001)
    = invalidNaN { prec := 5, emax := 100000, emin := -100000, mode := .halfUp } := by decide

/-- non-vacuity of `C09_quantize_allctx_prec`: Precision 9 > MaxExponent + 1 = 4; 123.4567891 quantized to
exponent -5 is 123.45679 (8 digits, adjusted exponent 2 ≤ 3). -/
example : ({ prec := 9, emax := 3, emin := -3, mode := .halfUp } : Ctx).WFq ∧
    ¬ ({ prec := 9, emax := 3, emin := -3, mode := .halfUp } : Ctx).WF := by decide
example : (quantizeOp { prec := 9, emax := 3, emin := -3, mode := .halfUp }
      { coeff := 1234567891, exp := -7 } (-5)).d = { coeff := 12345679, exp := -5 } := by decide
example : quantSpec { prec := 9, emax := 3, emin := -3, mode := .halfUp }
      { coeff := 1234567891, exp := -7 } (-5) = (12345679, true) := by decide

end Apd.Props

#print axioms Apd.Props.C09_quantize_allctx_partial
#print axioms Apd.Props.C09_quantize_allctx_prec
#print axioms Apd.Props.C09_quantize_partial
#print axioms Apd.Props.C09_quantize_syslimit
#print axioms Apd.Props.C09_quantize_zero
#print axioms Apd.Props.C09_quantize_zero_far
#print axioms Apd.Props.C09_quantize_far_nonzero
#print axioms Apd.Props.C09_rtie_partial
#print axioms Apd.Props.C09_rtie_syslimit
#print axioms Apd.Props.C09_rtiv
#print axioms Apd.Props.C09_ceil
#print axioms Apd.Props.C09_floor
#print axioms Apd.Props.C09_ceil_floor_int
