import ApdVerif.Model.Arith
import ApdVerif.Gen.Round
/-!
# Regenerated tie (rounding decisions): definitions re-extracted from the Go source on every run
(`ApdVerif/Gen/*.lean`, written by harness/cmd/xlate) are the ones the hand-written model uses.
If the Go source changes one of these functions, the regenerated definition changes and the
corresponding theorem below stops checking.
-/
namespace Apd.Props

/-- the `Rounder` string of a mode -/
def modeString : Mode → String
  | .down => Gen.RoundDown | .halfUp => Gen.RoundHalfUp | .halfEven => Gen.RoundHalfEven
  | .ceiling => Gen.RoundCeiling | .floor => Gen.RoundFloor | .halfDown => Gen.RoundHalfDown
  | .up => Gen.RoundUp | .r05up => Gen.Round05Up

theorem GenTie_rounders :
    Gen.RoundDown = "down" ∧ Gen.RoundHalfUp = "half_up" ∧ Gen.RoundHalfEven = "half_even" ∧
    Gen.RoundCeiling = "ceiling" ∧ Gen.RoundFloor = "floor" ∧ Gen.RoundHalfDown = "half_down" ∧
    Gen.RoundUp = "up" ∧ Gen.Round05Up = "05up" := by
  refine ⟨rfl, rfl, rfl, rfl, rfl, rfl, rfl, rfl⟩

theorem GenTie_shouldAddOne (m : Mode) (result : Nat) (neg : Bool) (half : Int) :
    Gen.Rounder_ShouldAddOne (modeString m) result neg half = shouldAddOne m result neg half := by
  cases m <;>
    simp [Gen.Rounder_ShouldAddOne, modeString, shouldAddOne, Gen.RoundDown, Gen.RoundHalfUp,
      Gen.RoundHalfEven, Gen.RoundCeiling, Gen.RoundFloor, Gen.RoundHalfDown, Gen.RoundUp, Gen.Round05Up,
      Gen.roundDown, Gen.roundHalfUp, Gen.roundHalfEven, Gen.roundCeiling, Gen.roundFloor,
      Gen.roundHalfDown, Gen.roundUp, Gen.round05Up, Gen.natSign, Gen.bigFive, Gen.bigTen]
  by_cases h10 : result % 10 = 0 <;> simp [h10]

/-- any other `Rounder` string (including the empty one) behaves as RoundHalfUp -/
theorem GenTie_shouldAddOne_default (r : String) (result : Nat) (neg : Bool) (half : Int)
    (h : ∀ m, r ≠ modeString m) :
    Gen.Rounder_ShouldAddOne r result neg half = shouldAddOne .halfUp result neg half := by
  have h0 := h .down; have h1 := h .halfUp; have h2 := h .halfEven; have h3 := h .ceiling
  have h4 := h .floor; have h5 := h .halfDown; have h6 := h .up; have h7 := h .r05up
  simp only [modeString, Gen.RoundDown, Gen.RoundHalfUp, Gen.RoundHalfEven, Gen.RoundCeiling,
    Gen.RoundFloor, Gen.RoundHalfDown, Gen.RoundUp, Gen.Round05Up] at h0 h1 h2 h3 h4 h5 h6 h7
  simp [Gen.Rounder_ShouldAddOne, h0, h1, h2, h3, h4, h5, h6, h7, Gen.roundHalfUp, shouldAddOne]

#print axioms Apd.Props.GenTie_rounders
#print axioms Apd.Props.GenTie_shouldAddOne
#print axioms Apd.Props.GenTie_shouldAddOne_default

end Apd.Props
