import ApdVerif.Model.Arith
import ApdVerif.Gen.Cond
import ApdVerif.Lemmas.GenTieLemmas
/-!
# Regenerated tie (conditions and GoError): definitions re-extracted from the Go source on every run
(`ApdVerif/Gen/*.lean`, written by harness/cmd/xlate) are the ones the hand-written model uses.
If the Go source changes one of these functions, the regenerated definition changes and the
corresponding theorem below stops checking.
-/
namespace Apd.Props

/-- the twelve condition bits, in the order and with the weights `Cond.toNat` uses -/
theorem GenTie_condBits :
    Gen.condBits = [("SystemOverflow", 1), ("SystemUnderflow", 2), ("Overflow", 4), ("Underflow", 8),
      ("Inexact", 16), ("Subnormal", 32), ("Rounded", 64), ("DivisionUndefined", 128),
      ("DivisionByZero", 256), ("DivisionImpossible", 512), ("InvalidOperation", 1024), ("Clamped", 2048)] ∧
    Cond.cSysOverflow.toNat = Gen.SystemOverflow ∧ Cond.cSysUnderflow.toNat = Gen.SystemUnderflow ∧
    Cond.cOverflow.toNat = Gen.Overflow ∧ Cond.cUnderflow.toNat = Gen.Underflow ∧
    Cond.cInexact.toNat = Gen.Inexact ∧ Cond.cSubnormal.toNat = Gen.Subnormal ∧
    Cond.cRounded.toNat = Gen.Rounded ∧ Cond.cDivUndefined.toNat = Gen.DivisionUndefined ∧
    Cond.cDivByZero.toNat = Gen.DivisionByZero ∧ Cond.cDivImpossible.toNat = Gen.DivisionImpossible ∧
    Cond.cInvalidOp.toNat = Gen.InvalidOperation ∧ Cond.cClamped.toNat = Gen.Clamped ∧
    defaultTraps.toNat = Gen.DefaultTraps := by
  refine ⟨rfl, rfl, rfl, rfl, rfl, rfl, rfl, rfl, rfl, rfl, rfl, rfl, rfl, rfl⟩

theorem GenTie_goError (fl traps : Cond) :
    (Gen.Condition_GoError fl.toNat traps.toNat).1 = fl.toNat ∧
    (Gen.Condition_GoError fl.toNat traps.toNat).2 =
      (match goError traps fl with | .sys => Gen.errSys | .trap => Gen.errTrap | _ => 0) := by
  have h3 := Cond.toNat_and_three fl
  have ht : (fl.toNat &&& traps.toNat != 0) = (fl &&& traps).any := by
    rw [← Cond.toNat_and]
    cases hb : (fl &&& traps).any
    · have := (Cond.toNat_eq_zero_iff _).2 hb
      simp [this]
    · have : (fl &&& traps).toNat ≠ 0 := fun h0 => by
        have := (Cond.toNat_eq_zero_iff _).1 h0
        simp [hb] at this
      simp [this]
  unfold Gen.Condition_GoError goError
  simp only [h3, ht]
  constructor
  · split_ifs <;> rfl
  · split_ifs <;> rfl

theorem GenTie_negateOverflowFlags (r : Cond) :
    Gen.Condition_negateOverflowFlags r.toNat = (Cond.negateOverflowFlags r).toNat := by
  rcases r with ⟨b0, b1, b2, b3, b4, b5, b6, b7, b8, b9, b10, b11⟩
  -- the left side as a nest of `bit`: each mask acts on its own bit, the tests read `b2` and `b0`
  simp only [Gen.Condition_negateOverflowFlags, Gen.Condition_Overflow, Gen.Condition_SystemOverflow,
    Cond.toNat_eq_bit, bit_land, bit_lor, Nat.testBit_zero, Nat.reduceDiv, Nat.reduceMod, Nat.zero_and,
    Nat.zero_or, Nat.and_zero, Nat.bit_eq_zero_iff, bne_iff_ne, ne_eq]
  cases b0 <;> cases b2 <;> simp [Cond.negateOverflowFlags]

#print axioms Apd.Props.GenTie_condBits
#print axioms Apd.Props.GenTie_goError
#print axioms Apd.Props.GenTie_negateOverflowFlags

end Apd.Props
