import ApdVerif.Lemmas.CbrtPrefix
import ApdVerif.Lemmas.CbrtTail
import ApdVerif.Lemmas.CbrtExact
/-!
# C11 — `Context.Cbrt`: a returned cube root is within one unit in the last place, and exact on perfect cubes

`Cbrt` iterates `z ← (2·z0 + |x|/z0²)/3` at `2·Precision+2` digits until two consecutive iterates differ by at
most one unit of the `(Precision+1)`-th digit (`loop.done`), then rounds half-even to `Precision` digits and
cubes the result to see whether it is exact.  Theorem: WHENEVER the call returns without error, the stopping
rule alone forces the last iterate to within `3·10^(-2·Precision)` (relative) of the real cube root — whatever
the first estimate was and however many rounds it took — so the rounded result is within one unit in the last
place, and is the exact root, with no condition raised, when the operand is a perfect cube whose root fits.

Proof: the five rounded operations of a round are an exact Newton step × (1+θ), and the stopping rule then forces
`(z(1-τ))³ ≤ |x| ≤ (z(1+τ))³`, `τ = 3·10^(-2P)` (`Lemmas/CbrtNewton.lean`); going backwards through a prefix that ended
its Newton loop, by the rules of its loops, every iterate is a positive finite decimal — including the first estimate,
from the exit test of the second scaling loop — and every round a Newton step (`CbrtL.last_iter`); the final half-even
rounding of such an iterate passes `cbrtWithinUlp` (`CbrtT.tail_within`); a value within `τ` of a `P`-digit grid point
rounds to it, and the re-check at `3P` digits computes the cube of the result exactly, or fails (`CbrtE.tail_exact`).

That the call returns: `C11_cbrt_returns` under `CbrtSide` (`Props/C11CbrtConv.lean`).
-/
namespace Apd.Props
open Apd Apd.Oracle

theorem C11_cbrt_within_ulp (c : Ctx) (hc : c.WF) (hp : c.prec * 3 + 2 ≤ 100000)
    (x : Dec) (hx : x.form = .finite) (h0 : x.coeff ≠ 0) (hw : x.WF)
    (o : Out) (ho : cbrtOp c x = some o) (he : o.err = .none) (hf : o.d.form = .finite) :
    cbrtWithinUlp c x o.d = true ∧ o.d.neg = x.neg := by
  obtain ⟨zf, fl0, hpos, hnd, hlo, hhi, hoeq⟩ := CbrtL.last_iter c hc hp x hx h0 o ho he
  have hI : CbrtT.Iter c x zf := ⟨hpos, hnd, hlo, hhi⟩
  rw [hoeq] at he hf ⊢
  obtain ⟨-, hd⟩ := CbrtT.tail_ok c x fl0 zf he
  rw [hd] at hf ⊢
  exact ⟨CbrtT.tail_within c hc hp x h0 hw zf hI hf, rfl⟩

theorem C11_cbrt_exact (c : Ctx) (hc : c.WF) (hp : c.prec * 3 + 2 ≤ 100000)
    (x : Dec) (hx : x.form = .finite) (h0 : x.coeff ≠ 0) (hw : x.WF)
    (o : Out) (ho : cbrtOp c x = some o) (he : o.err = .none)
    (r : Nat) (k : Int) (hpc : perfectCube x = some (r, k)) (hr : ndigits r ≤ c.prec)
    (hlo : c.emin ≤ k + (ndigits r : Int) - 1) (hhi : k + (ndigits r : Int) - 1 ≤ c.emax) :
    o.fl = {} ∧ o.d.form = .finite ∧ o.d.neg = x.neg ∧ |o.d.toRat| = (r : ℚ) * (10 : ℚ) ^ k := by
  obtain ⟨zf, fl0, hpos, hnd, hlo', hhi', hoeq⟩ := CbrtL.last_iter c hc hp x hx h0 o ho he
  have hI : CbrtT.Iter c x zf := ⟨hpos, hnd, hlo', hhi'⟩
  rw [hoeq] at he ⊢
  exact CbrtE.tail_exact c hc hp x hx h0 hw fl0 zf hI he r k hpc hr hlo hhi

#print axioms C11_cbrt_within_ulp
#print axioms C11_cbrt_exact

end Apd.Props
