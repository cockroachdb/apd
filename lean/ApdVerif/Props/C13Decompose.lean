import ApdVerif.Lemmas.C13DecomposeLemmas
/-!
# C13 — `Compose(Decompose(d))` reproduces `d` (signaling NaN becoming quiet)

Model: `ApdVerif/Model/Decompose.lean` (`/repo/decomposer.go`).  Core Lean only.
-/
namespace Apd.Props
open Apd Apd.Decomp

theorem C13_bitLen_zero : bitLen 0 = 0 := rfl

theorem C13_bitLen (n : Nat) (h : 0 < n) : 2 ^ (bitLen n - 1) ≤ n ∧ n < 2 ^ bitLen n :=
  (bitLenExpr_spec n (by omega)).2

theorem C13_bytes_roundtrip (n : Nat) : bytesNat (natBytes n) = n := by
  unfold natBytes
  rw [bytesNat_natBytesAux n n [] (Nat.le_refl n)]
  simp [bytesNat]

theorem C13_bytes_minimal (n : Nat) :
    (natBytes n).length = (bitLen n + 7) / 8 ∧ (natBytes n).head? ≠ some 0 := by
  constructor
  · unfold natBytes; rw [length_natBytesAux n n [] (Nat.le_refl n)]; simp
  · by_cases hn : n = 0
    · subst hn; simp [natBytes, natBytesAux]
    · exact head_natBytesAux n n [] (Nat.le_refl n) hn

theorem C13_bytesNat_leading_zeros (k : Nat) (l : List UInt8) :
    bytesNat (List.replicate k 0 ++ l) = bytesNat l := by
  induction k with
  | zero => simp
  | succ k ih =>
    rw [List.replicate_succ, List.cons_append, bytesNat_cons, ih]
    simp

/-! ## `FillBytes` into a buffer of the exact size is `Bytes` (the two branches of `Decompose` agree) -/

theorem C13_fillBytes (len n : Nat) (h : (bitLen n + 7) / 8 ≤ len) :
    fillBytes len n = some (List.replicate (len - (bitLen n + 7) / 8) 0 ++ natBytes n) := by
  unfold fillBytes natBytes
  rw [if_pos h, fillBytesAux_eq len n n [] (Nat.le_refl n) h]

theorem C13_fillBytes_exact (n : Nat) : fillBytes ((bitLen n + 7) / 8) n = some (natBytes n) := by
  rw [C13_fillBytes _ _ (Nat.le_refl _)]; simp

/-- whatever buffer is passed, `Decompose` does not panic and returns the same parts -/
theorem C13_decomposeBuf (d : Dec) (bufCap : Nat) : decomposeBuf d bufCap = some (decompose d) := by
  unfold decomposeBuf decompose
  cases hf : d.form <;> simp only []
  have e : (bitLen d.coeff + 8 - 1) / 8 = (bitLen d.coeff + 7) / 8 := by omega
  rw [e, C13_fillBytes_exact]
  split <;> rfl

theorem C13_compose_decompose (dst d : Dec) :
    ∃ r, compose dst (decompose d) = some r ∧ r.neg = d.neg ∧
         r.form = (if d.form = .nanSignaling then .nan else d.form) ∧
         (d.form = .finite → r.coeff = d.coeff ∧ r.exp = d.exp) ∧
         (d.form ≠ .finite → r.coeff = dst.coeff ∧ r.exp = dst.exp) := by
  unfold decompose
  cases hf : d.form <;> simp [compose, C13_bytes_roundtrip]

theorem C13_compose_fresh (d : Dec) (hf : d.form = .finite) : compose {} (decompose d) = some d := by
  unfold decompose
  rw [hf]
  simp only [compose, C13_bytes_roundtrip]
  cases d
  simp_all

theorem C13_compose_unknown_form (dst : Dec) (p : Parts) (h : 2 < p.form.toNat) : compose dst p = none := by
  unfold compose
  have h0 : p.form ≠ 0 := fun e => by rw [e] at h; simp at h
  have h1 : p.form ≠ 1 := fun e => by rw [e] at h; simp at h
  have h2 : p.form ≠ 2 := fun e => by rw [e] at h; simp at h
  simp [h0, h1, h2]

/-- any byte string is accepted as a coefficient, any exponent, any sign -/
theorem C13_compose_total (dst : Dec) (p : Parts) (h : p.form.toNat ≤ 2) : (compose dst p).isSome := by
  unfold compose
  by_cases h0 : p.form = 0
  · simp [h0]
  by_cases h1 : p.form = 1
  · simp [h1]
  by_cases h2 : p.form = 2
  · simp [h2]
  exfalso
  have e0 : p.form.toNat ≠ 0 := fun e => h0 (UInt8.toNat_inj.1 (by simpa using e))
  have e1 : p.form.toNat ≠ 1 := fun e => h1 (UInt8.toNat_inj.1 (by simpa using e))
  have e2 : p.form.toNat ≠ 2 := fun e => h2 (UInt8.toNat_inj.1 (by simpa using e))
  omega

theorem C13_compose_finite (dst : Dec) (neg : Bool) (c : List UInt8) (e : Int) :
    compose dst ⟨0, neg, c, e⟩ = some { form := .finite, neg := neg, coeff := bytesNat c, exp := e } := by
  simp [compose]

example : natBytes 0 = [] := by decide
example : natBytes 255 = [255] := by decide
example : natBytes 256 = [1, 0] := by decide
example : natBytes 65535 = [255, 255] := by decide
example : bytesNat [0, 0, 1, 0] = 256 := by decide
example : bitLen 0 = 0 ∧ bitLen 1 = 1 ∧ bitLen 255 = 8 ∧ bitLen 256 = 9 := by decide
example : fillBytes 3 256 = some [0, 1, 0] ∧ fillBytes 1 256 = none := by decide
/-- `1.8446744073709551615E-7` = 18446744073709551615 × 10^-26 -/
example : decompose { neg := true, coeff := 18446744073709551615, exp := -26 } =
    ⟨0, true, [255, 255, 255, 255, 255, 255, 255, 255], -26⟩ := by decide
example : decompose { coeff := 18446744073709551616, exp := 3 } = ⟨0, false, [1, 0, 0, 0, 0, 0, 0, 0, 0], 3⟩ := by
  decide
example : decompose { form := .nanSignaling, neg := true, coeff := 7, exp := 5 } = ⟨2, true, [], 0⟩ := by decide
example : decompose { form := .infinite, coeff := 7, exp := 5 } = ⟨1, false, [], 0⟩ := by decide
/-- a non-finite form leaves the receiver's coefficient and exponent in place -/
example : compose { coeff := 123, exp := 4 } (decompose { form := .nanSignaling, neg := true }) =
    some { form := .nan, neg := true, coeff := 123, exp := 4 } := by decide
example : compose {} ⟨3, false, [], 0⟩ = none := by decide
example : compose {} ⟨0, true, [0, 0, 1, 2], -3⟩ = some { neg := true, coeff := 258, exp := -3 } := by decide

end Apd.Props

#print axioms Apd.Props.C13_bytes_roundtrip
#print axioms Apd.Props.C13_bytes_minimal
#print axioms Apd.Props.C13_bitLen
#print axioms Apd.Props.C13_bitLen_zero
#print axioms Apd.Props.C13_bytesNat_leading_zeros
#print axioms Apd.Props.C13_fillBytes
#print axioms Apd.Props.C13_decomposeBuf
#print axioms Apd.Props.C13_compose_decompose
#print axioms Apd.Props.C13_compose_fresh
#print axioms Apd.Props.C13_compose_unknown_form
#print axioms Apd.Props.C13_compose_total
#print axioms Apd.Props.C13_compose_finite
