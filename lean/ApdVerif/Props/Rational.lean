import ApdVerif.Spec.Rational
import ApdVerif.Lemmas.OracleRat
import Mathlib.Order.Compare
import Mathlib.Tactic.SplitIfs
import Mathlib.Tactic.Ring
import Mathlib.Tactic.Linarith
import Mathlib.Tactic.Positivity
import Mathlib.Tactic.FieldSimp
import Mathlib.Tactic.NormNum
/-!
# The integer oracle computes the readable rational specification

The oracle (`Oracle/Round.lean`) works on integers (`Exact`, `adjRat`, `roundAt`, `specRound`); `Spec/Rational.lean`
states the same over `ℚ` (`IsAdj`, `roundInt`, `roundedMag`).  Here the two are shown to agree: `roundAt` is `roundInt`,
the eight modes mean what their names say (`Rat_roundInt_*`), `specRound` is the rational specification flag by flag
(`Rat_specRound_*`), and `Rat_agrees_finite` / `Rat_agrees_infinite` read `Agrees` (C01, C02, C07) as "the exact value
rounded once".  `IsAdj_digits` / `abs_toRat_isAdj` place `n × 10^e` in its decade, and `specRound_congr` / `agrees_congr`
say that the specification sees an exact value only through its sign and magnitude, however the fraction is written.
-/
namespace Apd.RatSpec
open Apd Apd.Oracle Apd.C20L

theorem _root_.Apd.Oracle.IsAdj.lt_of_lt {v : ℚ} {a k : ℤ} (h : IsAdj v a) (hk : v < (10 : ℚ) ^ k) : a < k :=
  exp_lt h.1 hk

theorem _root_.Apd.Oracle.IsAdj.le_of_le {v : ℚ} {a k : ℤ} (h : IsAdj v a) (hk : (10 : ℚ) ^ k ≤ v) : k ≤ a :=
  Int.lt_add_one_iff.1 (exp_lt hk h.2)

theorem IsAdj_unique {v : ℚ} {a b : ℤ} (ha : IsAdj v a) (hb : IsAdj v b) : a = b :=
  le_antisymm (hb.le_of_le ha.1) (ha.le_of_le hb.1)

theorem IsAdj_pos {v : ℚ} {a : ℤ} (ha : IsAdj v a) : 0 < v := lt_of_lt_of_le (tp a) ha.1

theorem Rat_adjRat_isAdj (num den : Nat) (hn : 0 < num) (hd : 0 < den) :
    IsAdj ((num : ℚ) / (den : ℚ)) (adjRat num den) := adjRat_spec num den hn hd

theorem IsAdj_exists {v : ℚ} (hv : 0 < v) : ∃ a, IsAdj v a := by
  have hnum : 0 < v.num := Rat.num_pos.2 hv
  have e : v = ((v.num.toNat : ℕ) : ℚ) / ((v.den : ℕ) : ℚ) := by
    conv_lhs => rw [← Rat.num_div_den v]
    congr 1
    have : ((v.num.toNat : ℕ) : ℤ) = v.num := Int.toNat_of_nonneg hnum.le
    exact_mod_cast this.symm
  have h0 : 0 < v.num.toNat := by omega
  have := Rat_adjRat_isAdj _ _ h0 v.den_pos
  rw [← e] at this
  exact ⟨_, this⟩

theorem IsAdj_existsUnique {v : ℚ} (hv : 0 < v) : ∃! a, IsAdj v a := by
  obtain ⟨a, ha⟩ := IsAdj_exists hv
  exact ⟨a, ha, fun b hb => IsAdj_unique hb ha⟩

theorem IsAdj_scale {v : ℚ} {a : ℤ} (ha : IsAdj v a) (e : ℤ) : IsAdj (v * (10 : ℚ) ^ e) (a + e) := by
  obtain ⟨h1, h2⟩ := ha
  have hp := tp e
  constructor
  · rw [zpow_add₀ ten_ne]; exact mul_le_mul_of_nonneg_right h1 hp.le
  · rw [show a + e + 1 = (a + 1) + e by ring, zpow_add₀ ten_ne]
    exact mul_lt_mul_of_pos_right h2 hp

theorem IsAdj_digits (n : ℕ) (e : ℤ) (hn : 0 < n) : IsAdj ((n : ℚ) * (10 : ℚ) ^ e) (e + (ndigits n : ℤ) - 1) := by
  have hc : IsAdj (n : ℚ) ((ndigits n : ℤ) - 1) :=
    ⟨(ndigits_q n hn).1, by rw [sub_add_cancel]; exact (ndigits_q n hn).2⟩
  rw [show e + (ndigits n : ℤ) - 1 = (ndigits n : ℤ) - 1 + e by ring]
  exact IsAdj_scale hc e

theorem adjRat_of_bounds (N D P : Nat) (hP : 1 ≤ P) (hD : 0 < D) (hlo : D * 10 ^ (P - 1) ≤ N) (hhi : N < D * 10 ^ P) :
    adjRat N D = (P : ℤ) - 1 := by
  have hDq : (0 : ℚ) < D := by exact_mod_cast hD
  have hN : 0 < N := Nat.lt_of_lt_of_le (Nat.mul_pos hD (Nat.pow_pos (by decide))) hlo
  refine IsAdj_unique (Rat_adjRat_isAdj N D hN hD) ⟨?_, ?_⟩
  · rw [le_div_iff₀ hDq, show ((P : ℤ) - 1) = ((P - 1 : ℕ) : ℤ) by omega, ← zpow_ofNat, mul_comm]
    exact_mod_cast hlo
  · rw [div_lt_iff₀ hDq, show ((P : ℤ) - 1 + 1) = ((P : ℕ) : ℤ) by omega, ← zpow_ofNat, mul_comm]
    exact_mod_cast hhi

theorem mag_eq_qval (v : Exact) : v.mag = qval v.num v.den v.e10 := rfl

theorem mag_pos (v : Exact) (hn : 0 < v.num) (hd : 0 < v.den) : 0 < v.mag := by
  unfold Exact.mag
  have : (0 : ℚ) < v.num := by exact_mod_cast hn
  have : (0 : ℚ) < v.den := by exact_mod_cast hd
  have := tp v.e10
  positivity

theorem mag_isAdj (v : Exact) (hn : 0 < v.num) (hd : 0 < v.den) :
    IsAdj v.mag (adjRat v.num v.den + v.e10) :=
  IsAdj_scale (Rat_adjRat_isAdj v.num v.den hn hd) v.e10

theorem adj_eq (v : Exact) (hn : 0 < v.num) (hd : 0 < v.den) {a : ℤ} (ha : IsAdj v.mag a) :
    adjRat v.num v.den + v.e10 = a := IsAdj_unique (mag_isAdj v hn hd) ha

theorem specQ_eq (c : Ctx) (v : Exact) (hn : 0 < v.num) (hd : 0 < v.den) {a : ℤ} (ha : IsAdj v.mag a) :
    specQ c v = quantum c a := by
  unfold specQ quantum; rw [adj_eq v hn hd ha]

theorem compare_half (r D : ℕ) (hD : 0 < D) :
    compare ((r : ℚ) / (D : ℚ)) (1 / 2) = compare (2 * r) D := by
  have hDq : (0 : ℚ) < D := by exact_mod_cast hD
  have h2 : (0 : ℚ) < 2 := by norm_num
  rcases Nat.lt_trichotomy (2 * r) D with h | h | h
  · rw [Nat.compare_eq_lt.2 h, compare_lt_iff_lt, div_lt_div_iff₀ hDq h2]
    exact_mod_cast (by omega : r * 2 < 1 * D)
  · rw [Nat.compare_eq_eq.2 h, compare_eq_iff_eq, div_eq_div_iff hDq.ne' h2.ne']
    exact_mod_cast (by omega : r * 2 = 1 * D)
  · rw [Nat.compare_eq_gt.2 h, compare_gt_iff_gt, div_lt_div_iff₀ h2 hDq]
    exact_mod_cast (by omega : 1 * D < r * 2)

theorem floor_div (N D : ℕ) : ⌊(N : ℚ) / (D : ℚ)⌋ = ((N / D : ℕ) : ℤ) := by
  rw [Rat.floor_natCast_div_natCast]; rfl

theorem div_decomp (N D : ℕ) (hD : 0 < D) :
    (N : ℚ) / (D : ℚ) - ((N / D : ℕ) : ℚ) = ((N % D : ℕ) : ℚ) / (D : ℚ) := by
  have hDq : (D : ℚ) ≠ 0 := by exact_mod_cast hD.ne'
  have e : (N : ℚ) = D * ((N / D : ℕ) : ℚ) + ((N % D : ℕ) : ℚ) := by
    exact_mod_cast (Nat.div_add_mod N D).symm
  field_simp
  linarith

theorem div_eq_floor_iff (N D : ℕ) (hD : 0 < D) :
    (N : ℚ) / (D : ℚ) = ((N / D : ℕ) : ℚ) ↔ N % D = 0 := by
  have hDq : (D : ℚ) ≠ 0 := by exact_mod_cast hD.ne'
  have := div_decomp N D hD
  constructor
  · intro h
    rw [h, sub_self] at this
    have h2 : ((N % D : ℕ) : ℚ) = 0 := by
      have := this.symm
      rcases div_eq_zero_iff.1 this with h | h
      · exact h
      · exact absurd h hDq
    exact_mod_cast h2
  · intro h
    rw [h] at this
    simp at this
    linarith

theorem rnd_roundInt (mode : Mode) (neg : Bool) (N D : ℕ) (hD : 0 < D) :
    (((roundQuot mode neg N D).1 : ℕ) : ℤ) = roundInt mode neg ((N : ℚ) / (D : ℚ)) := by
  unfold roundInt roundQuot
  simp only [floor_div, Int.toNat_natCast, Int.cast_natCast]
  by_cases h : N % D = 0
  · rw [if_pos ((div_eq_floor_iff N D hD).2 h)]
    simp [h]
  · rw [if_neg (fun hh => h ((div_eq_floor_iff N D hD).1 hh))]
    rw [div_decomp N D hD, compare_half _ _ hD]
    simp only [beq_iff_eq, h, if_false]
    split <;> simp

theorem rnd_inexact (mode : Mode) (neg : Bool) (N D : ℕ) (hD : 0 < D) :
    (roundQuot mode neg N D).2 = true ↔ ((roundInt mode neg ((N : ℚ) / (D : ℚ)) : ℤ) : ℚ) ≠ (N : ℚ) / (D : ℚ) := by
  have key : ((roundInt mode neg ((N : ℚ) / (D : ℚ)) : ℤ) : ℚ) = (((roundQuot mode neg N D).1 : ℕ) : ℚ) := by
    rw [← rnd_roundInt mode neg N D hD]; exact Int.cast_natCast _
  rw [key]
  have hDq : (0 : ℚ) < D := by exact_mod_cast hD
  by_cases h : N % D = 0
  · have e := (div_eq_floor_iff N D hD).2 h
    unfold roundQuot; simp [h, e]
  · have ne : (N : ℚ) / (D : ℚ) ≠ ((N / D : ℕ) : ℚ) := fun hh => h ((div_eq_floor_iff N D hD).1 hh)
    obtain ⟨f1, f2⟩ := nat_floor N D hD
    unfold roundQuot
    simp only [beq_iff_eq, h, if_false, true_iff]
    split
    · push_cast; intro hh; linarith
    · exact fun hh => ne hh.symm

theorem roundAt_roundInt (mode : Mode) (neg : Bool) (num den : ℕ) (e10 q : ℤ) (hd : den ≠ 0) :
    (((roundAt mode neg num den e10 q).1 : ℕ) : ℤ) =
      roundInt mode neg (qval num den e10 / (10 : ℚ) ^ q) := by
  rw [roundAt_eq, rnd_roundInt _ _ _ _ (scaleDen_pos den (Nat.pos_of_ne_zero hd) _), scale_div num den e10 q hd]

theorem roundAt_inexact_iff (mode : Mode) (neg : Bool) (num den : ℕ) (e10 q : ℤ) (hd : den ≠ 0) :
    (roundAt mode neg num den e10 q).2 = true ↔
      ((roundInt mode neg (qval num den e10 / (10 : ℚ) ^ q) : ℤ) : ℚ) ≠ qval num den e10 / (10 : ℚ) ^ q := by
  rw [roundAt_eq, rnd_inexact _ _ _ _ (scaleDen_pos den (Nat.pos_of_ne_zero hd) _), scale_div num den e10 q hd]

theorem roundInt_floor_or_succ (mode : Mode) (neg : Bool) (t : ℚ) :
    roundInt mode neg t = ⌊t⌋ ∨ roundInt mode neg t = ⌊t⌋ + 1 := by
  unfold roundInt
  simp only []
  split_ifs <;> simp

theorem roundInt_of_int (mode : Mode) (neg : Bool) (t : ℚ) (k : ℤ) (h : t = (k : ℚ)) :
    roundInt mode neg t = k := by
  subst h
  unfold roundInt
  simp

theorem ceil_of_not_int (t : ℚ) (h : t ≠ ((⌊t⌋ : ℤ) : ℚ)) : ⌈t⌉ = ⌊t⌋ + 1 := by
  rw [Int.ceil_eq_iff]
  have f1 := Int.floor_le t
  have f2 := Int.lt_floor_add_one t
  have : ((⌊t⌋ : ℤ) : ℚ) < t := lt_of_le_of_ne f1 (Ne.symm h)
  push_cast
  constructor <;> linarith

theorem ceil_of_int (t : ℚ) (h : t = ((⌊t⌋ : ℤ) : ℚ)) : ⌈t⌉ = ⌊t⌋ := by
  conv_lhs => rw [h]
  exact Int.ceil_intCast _

theorem roundInt_floor_or_ceil (mode : Mode) (neg : Bool) (t : ℚ) :
    roundInt mode neg t = ⌊t⌋ ∨ roundInt mode neg t = ⌈t⌉ := by
  by_cases h : t = ((⌊t⌋ : ℤ) : ℚ)
  · left; exact roundInt_of_int mode neg t _ h
  · rcases roundInt_floor_or_succ mode neg t with h1 | h1
    · exact Or.inl h1
    · right; rw [h1, ceil_of_not_int t h]

theorem roundInt_nonneg (mode : Mode) (neg : Bool) (t : ℚ) (ht : 0 ≤ t) : 0 ≤ roundInt mode neg t := by
  have : 0 ≤ ⌊t⌋ := Int.floor_nonneg.2 ht
  rcases roundInt_floor_or_succ mode neg t with h | h <;> omega

/-! ## what the eight modes mean (readable reading of `specAddOne` inside `roundInt`) -/

theorem roundInt_not_int (mode : Mode) (neg : Bool) (t : ℚ) (h : t ≠ ((⌊t⌋ : ℤ) : ℚ)) :
    roundInt mode neg t =
      if specAddOne mode ⌊t⌋.toNat neg (compare (t - ((⌊t⌋ : ℤ) : ℚ)) (1 / 2)) then ⌊t⌋ + 1 else ⌊t⌋ := by
  unfold roundInt; simp only []; rw [if_neg h]

/-- `RoundDown`: towards zero -/
theorem Rat_roundInt_down (neg : Bool) (t : ℚ) : roundInt .down neg t = ⌊t⌋ := by
  by_cases h : t = ((⌊t⌋ : ℤ) : ℚ)
  · exact roundInt_of_int _ _ _ _ h
  · rw [roundInt_not_int _ _ _ h]; simp [specAddOne]

/-- `RoundUp`: away from zero -/
theorem Rat_roundInt_up (neg : Bool) (t : ℚ) : roundInt .up neg t = ⌈t⌉ := by
  by_cases h : t = ((⌊t⌋ : ℤ) : ℚ)
  · rw [ceil_of_int t h]; exact roundInt_of_int _ _ _ _ h
  · rw [roundInt_not_int _ _ _ h, ceil_of_not_int t h]; simp [specAddOne]

/-- `RoundCeiling`: towards +∞ (so the magnitude of a negative value is rounded down) -/
theorem Rat_roundInt_ceiling (neg : Bool) (t : ℚ) :
    roundInt .ceiling neg t = if neg then ⌊t⌋ else ⌈t⌉ := by
  by_cases h : t = ((⌊t⌋ : ℤ) : ℚ)
  · rw [ceil_of_int t h, roundInt_of_int _ _ _ _ h]; simp
  · rw [roundInt_not_int _ _ _ h, ceil_of_not_int t h]; cases neg <;> simp [specAddOne]

/-- `RoundFloor`: towards -∞ -/
theorem Rat_roundInt_floor (neg : Bool) (t : ℚ) :
    roundInt .floor neg t = if neg then ⌈t⌉ else ⌊t⌋ := by
  by_cases h : t = ((⌊t⌋ : ℤ) : ℚ)
  · rw [ceil_of_int t h, roundInt_of_int _ _ _ _ h]; simp
  · rw [roundInt_not_int _ _ _ h, ceil_of_not_int t h]; cases neg <;> simp [specAddOne]

theorem specAddOne_half (mode : Mode) (hm : mode = .halfUp ∨ mode = .halfDown ∨ mode = .halfEven)
    (n : Nat) (neg : Bool) : specAddOne mode n neg .lt = false ∧ specAddOne mode n neg .gt = true := by
  rcases hm with rfl | rfl | rfl <;> exact ⟨rfl, rfl⟩

theorem near_floor {n t : ℚ} (h0 : n ≤ t) (h : t - n ≤ 1 / 2) : |n - t| ≤ 1 / 2 := by
  rw [abs_sub_comm, abs_of_nonneg (sub_nonneg.2 h0)]; exact h

theorem near_succ {n t : ℚ} (h1 : t < n + 1) (h : 1 / 2 ≤ t - n) : |n + 1 - t| ≤ 1 / 2 := by
  rw [abs_of_nonneg (sub_nonneg.2 h1.le)]; linarith

theorem Rat_roundInt_half_nearest (mode : Mode) (hm : mode = .halfUp ∨ mode = .halfDown ∨ mode = .halfEven)
    (neg : Bool) (t : ℚ) : |((roundInt mode neg t : ℤ) : ℚ) - t| ≤ 1 / 2 := by
  by_cases h : t = ((⌊t⌋ : ℤ) : ℚ)
  · rw [roundInt_of_int _ _ _ _ h, ← h, sub_self, abs_zero]; norm_num
  · have f1 := Int.floor_le t
    have f2 := Int.lt_floor_add_one t
    obtain ⟨hlt, hgt⟩ := specAddOne_half mode hm ⌊t⌋.toNat neg
    rw [roundInt_not_int _ _ _ h]
    -- below the midpoint the floor is taken, above it the ceiling; at the midpoint both are nearest
    rcases lt_trichotomy (t - ((⌊t⌋ : ℤ) : ℚ)) (1 / 2) with hc | hc | hc
    · rw [compare_lt_iff_lt.2 hc, hlt, if_neg Bool.false_ne_true]
      exact near_floor f1 hc.le
    · split
      · rw [Int.cast_add, Int.cast_one]; exact near_succ f2 hc.ge
      · exact near_floor f1 hc.le
    · rw [compare_gt_iff_gt.2 hc, hgt, if_pos rfl, Int.cast_add, Int.cast_one]
      exact near_succ f2 hc.le

/-- ties: `HalfUp` away from zero, `HalfDown` towards zero, `HalfEven` to the even neighbour -/
theorem Rat_roundInt_tie (neg : Bool) (t : ℚ) (ht : 0 ≤ t) (h : t - ((⌊t⌋ : ℤ) : ℚ) = 1 / 2) :
    roundInt .halfUp neg t = ⌊t⌋ + 1 ∧ roundInt .halfDown neg t = ⌊t⌋ ∧
    roundInt .halfEven neg t % 2 = 0 := by
  have hne : t ≠ ((⌊t⌋ : ℤ) : ℚ) := by intro hh; rw [← hh, sub_self] at h; norm_num at h
  have h0 : 0 ≤ ⌊t⌋ := Int.floor_nonneg.2 ht
  rw [roundInt_not_int _ _ _ hne, roundInt_not_int _ _ _ hne, roundInt_not_int _ _ _ hne,
    compare_eq_iff_eq.2 h]
  refine ⟨by simp [specAddOne], by simp [specAddOne], ?_⟩
  by_cases hodd : ⌊t⌋.toNat % 2 = 1
  · simp [specAddOne, hodd]; omega
  · simp [specAddOne, hodd]; omega

/-- `Round05Up`: away from zero exactly when the truncated integer ends in 0 or 5 -/
theorem Rat_roundInt_r05up (neg : Bool) (t : ℚ) (ht : 0 ≤ t) (h : t ≠ ((⌊t⌋ : ℤ) : ℚ)) :
    roundInt .r05up neg t = if ⌊t⌋ % 10 = 0 ∨ ⌊t⌋ % 10 = 5 then ⌊t⌋ + 1 else ⌊t⌋ := by
  have h0 : 0 ≤ ⌊t⌋ := Int.floor_nonneg.2 ht
  rw [roundInt_not_int _ _ _ h]
  simp only [specAddOne, Bool.or_eq_true, beq_iff_eq]
  have e : (⌊t⌋.toNat % 10 = 0 ∨ ⌊t⌋.toNat % 10 = 5) ↔ (⌊t⌋ % 10 = 0 ∨ ⌊t⌋ % 10 = 5) := by omega
  simp only [e]

theorem specRound_pos (c : Ctx) (v : Exact) (hn : 0 < v.num) :
    specRound c v = specCore c v (roundAt c.mode v.neg v.num v.den v.e10 (specQ c v)) :=
  specRound_of_pos c v (Nat.pos_iff_ne_zero.1 hn)

theorem core_value (c : Ctx) (v : Exact) (hn : 0 < v.num) (hd : 0 < v.den) {a : ℤ} (ha : IsAdj v.mag a) :
    (((roundAt c.mode v.neg v.num v.den v.e10 (specQ c v)).1 : ℕ) : ℚ) * (10 : ℚ) ^ (specQ c v) =
      roundedMag c v.neg v.mag a := by
  have h := roundAt_roundInt c.mode v.neg v.num v.den v.e10 (specQ c v) (by omega)
  unfold roundedMag
  rw [← specQ_eq c v hn hd ha, mag_eq_qval, ← h, Int.cast_natCast]

theorem Rat_specRound_neg (c : Ctx) (v : Exact) : (specRound c v).neg = v.neg := by
  rw [specRound_eq]; unfold specCore; split_ifs <;> rfl

/-- an exact zero is delivered unchanged (`0 × 10^e10`, sign kept) with no flags -/
theorem Rat_specRound_zero (c : Ctx) (v : Exact) (h : v.num = 0) :
    (specRound c v).inf = false ∧ (specRound c v).m = 0 ∧ (specRound c v).q = v.e10 ∧
    (specRound c v).inexact = false ∧ (specRound c v).subnormal = false ∧
    (specRound c v).overflow = false := by
  rw [specRound_eq]; simp [h]

/-- OVERFLOW: the result is an infinity exactly when the rounded magnitude reaches `10^(emax+1)`,
i.e. when the adjusted exponent of the ROUNDED value exceeds `emax` -/
theorem Rat_specRound_overflow (c : Ctx) (v : Exact) (hn : 0 < v.num) (hd : 0 < v.den)
    {a : ℤ} (ha : IsAdj v.mag a) :
    (specRound c v).inf = true ↔ (10 : ℚ) ^ (c.emax + 1) ≤ roundedMag c v.neg v.mag a := by
  rw [specRound_pos c v hn, specCore_inf, inf_iff, core_value c v hn hd ha]

/-- in the words of the property text -/
theorem Rat_specRound_overflow_adj (c : Ctx) (v : Exact) (hn : 0 < v.num) (hd : 0 < v.den)
    {a b : ℤ} (ha : IsAdj v.mag a) (hb : IsAdj (roundedMag c v.neg v.mag a) b) :
    (specRound c v).inf = true ↔ c.emax < b := by
  rw [Rat_specRound_overflow c v hn hd ha]
  exact ⟨fun h => hb.le_of_le h, fun h => le_trans (zpow_le_zpow_right₀ ten_ge h) hb.1⟩

theorem Rat_specRound_overflow_flag (c : Ctx) (v : Exact) :
    (specRound c v).overflow = (specRound c v).inf := by
  rw [specRound_eq]; unfold specCore; split_ifs <;> rfl

theorem Rat_specRound_q (c : Ctx) (v : Exact) (hn : 0 < v.num) (hd : 0 < v.den)
    {a : ℤ} (ha : IsAdj v.mag a) (hfin : (specRound c v).inf = false) :
    (specRound c v).q = quantum c a := by
  rw [specRound_pos c v hn] at hfin ⊢
  rw [(specCore_of_fin c v _ hfin).2.1, specQ_eq c v hn hd ha]

/-- VALUE: a finite result is the magnitude divided by the quantum, rounded to an integer by the
mode, times the quantum -/
theorem Rat_specRound_value (c : Ctx) (v : Exact) (hn : 0 < v.num) (hd : 0 < v.den)
    {a : ℤ} (ha : IsAdj v.mag a) (hfin : (specRound c v).inf = false) :
    ((specRound c v).m : ℚ) * (10 : ℚ) ^ (specRound c v).q = roundedMag c v.neg v.mag a := by
  rw [specRound_pos c v hn] at hfin ⊢
  obtain ⟨hm, hq, -⟩ := specCore_of_fin c v _ hfin
  rw [hm, hq, core_value c v hn hd ha]

theorem Rat_specRound_toRat (c : Ctx) (v : Exact) (hn : 0 < v.num) (hd : 0 < v.den)
    {a : ℤ} (ha : IsAdj v.mag a) (hfin : (specRound c v).inf = false) :
    (specRound c v).toRat = (if v.neg then -1 else 1) * roundedMag c v.neg v.mag a := by
  unfold SpecOut.toRat
  rw [Rat_specRound_neg, mul_assoc, Rat_specRound_value c v hn hd ha hfin]

/-- INEXACT: raised exactly when the result overflowed or the rounded value differs from the exact one -/
theorem Rat_specRound_inexact (c : Ctx) (v : Exact) (hn : 0 < v.num) (hd : 0 < v.den)
    {a : ℤ} (ha : IsAdj v.mag a) :
    (specRound c v).inexact = true ↔
      ((10 : ℚ) ^ (c.emax + 1) ≤ roundedMag c v.neg v.mag a ∨ roundedMag c v.neg v.mag a ≠ v.mag) := by
  by_cases hinf : (specRound c v).inf = true
  · have h1 : (specRound c v).inexact = true := by
      rw [specRound_pos c v hn] at hinf ⊢
      unfold specCore at hinf ⊢
      split_ifs at hinf ⊢ with h
      rfl
    have h2 := (Rat_specRound_overflow c v hn hd ha).1 hinf
    simp [h1, h2]
  · have h2 : ¬ (10 : ℚ) ^ (c.emax + 1) ≤ roundedMag c v.neg v.mag a :=
      fun hh => hinf ((Rat_specRound_overflow c v hn hd ha).2 hh)
    rw [specRound_pos c v hn] at hinf ⊢
    obtain ⟨-, -, hi⟩ := specCore_of_fin c v _ (by simpa using hinf)
    rw [hi, roundAt_inexact_iff _ _ _ _ _ _ (by omega : v.den ≠ 0)]
    simp only [h2, false_or]
    unfold roundedMag
    rw [← specQ_eq c v hn hd ha, mag_eq_qval]
    have hp := tp (specQ c v)
    rw [Ne, Ne, ← eq_div_iff hp.ne']

/-- SUBNORMAL: raised exactly when the exact (unrounded) magnitude is below `10^emin` -/
theorem Rat_specRound_subnormal (c : Ctx) (v : Exact) (hn : 0 < v.num) (hd : 0 < v.den) :
    (specRound c v).subnormal = true ↔ v.mag < (10 : ℚ) ^ c.emin := by
  have ha := mag_isAdj v hn hd
  have e : (specRound c v).subnormal = decide (adjRat v.num v.den + v.e10 < c.emin) := by
    rw [specRound_pos c v hn]; unfold specCore; split_ifs <;> rfl
  rw [e, decide_eq_true_eq]
  exact ⟨fun h => lt_of_lt_of_le ha.2 (zpow_le_zpow_right₀ ten_ge h), ha.lt_of_lt⟩

/-- UNDERFLOW = subnormal and inexact (definitional) -/
theorem Rat_specRound_underflow (c : Ctx) (v : Exact) :
    (specRound c v).underflow = ((specRound c v).subnormal && (specRound c v).inexact) := rfl

/-- BRACKET (for the readable spec): the rounded magnitude is one of the two adjacent multiples of
the quantum enclosing the exact magnitude, and is the exact magnitude when that is a multiple -/
theorem Rat_roundedMag_bracket (c : Ctx) (neg : Bool) (x : ℚ) (a : ℤ) :
    (roundedMag c neg x a = (⌊x / (10 : ℚ) ^ quantum c a⌋ : ℚ) * (10 : ℚ) ^ quantum c a ∨
     roundedMag c neg x a = (⌈x / (10 : ℚ) ^ quantum c a⌉ : ℚ) * (10 : ℚ) ^ quantum c a) ∧
    (⌊x / (10 : ℚ) ^ quantum c a⌋ : ℚ) * (10 : ℚ) ^ quantum c a ≤ x ∧
    x ≤ (⌈x / (10 : ℚ) ^ quantum c a⌉ : ℚ) * (10 : ℚ) ^ quantum c a ∧
    ⌈x / (10 : ℚ) ^ quantum c a⌉ ≤ ⌊x / (10 : ℚ) ^ quantum c a⌋ + 1 ∧
    (∀ k : ℤ, x = (k : ℚ) * (10 : ℚ) ^ quantum c a → roundedMag c neg x a = x) := by
  have hp := tp (quantum c a)
  refine ⟨?_, ?_, ?_, Int.ceil_le_floor_add_one _, ?_⟩
  · unfold roundedMag
    rcases roundInt_floor_or_ceil c.mode neg (x / (10 : ℚ) ^ quantum c a) with h | h
    · left; rw [h]
    · right; rw [h]
  · rw [← le_div_iff₀ hp]; exact Int.floor_le _
  · rw [← div_le_iff₀ hp]; exact Int.le_ceil _
  · intro k hk
    unfold roundedMag
    rw [roundInt_of_int c.mode neg _ k (by rw [hk]; field_simp), ← hk]

/-- BRACKET for the oracle: the coefficient of a finite result is the floor or the ceiling of
`|v| / 10^q`, the two candidates enclose `|v|`, and the result is exact when `|v|` is a multiple of `10^q` -/
theorem Rat_specRound_bracket (c : Ctx) (v : Exact) (hn : 0 < v.num) (hd : 0 < v.den)
    (hfin : (specRound c v).inf = false) :
    (((specRound c v).m : ℤ) = ⌊v.mag / (10 : ℚ) ^ (specRound c v).q⌋ ∨
     ((specRound c v).m : ℤ) = ⌈v.mag / (10 : ℚ) ^ (specRound c v).q⌉) ∧
    (⌊v.mag / (10 : ℚ) ^ (specRound c v).q⌋ : ℚ) * (10 : ℚ) ^ (specRound c v).q ≤ v.mag ∧
    v.mag ≤ (⌈v.mag / (10 : ℚ) ^ (specRound c v).q⌉ : ℚ) * (10 : ℚ) ^ (specRound c v).q ∧
    ⌈v.mag / (10 : ℚ) ^ (specRound c v).q⌉ ≤ ⌊v.mag / (10 : ℚ) ^ (specRound c v).q⌋ + 1 ∧
    (∀ k : ℤ, v.mag = (k : ℚ) * (10 : ℚ) ^ (specRound c v).q →
      ((specRound c v).m : ℚ) * (10 : ℚ) ^ (specRound c v).q = v.mag) := by
  have ha := mag_isAdj v hn hd
  have hq := Rat_specRound_q c v hn hd ha hfin
  have hv := Rat_specRound_value c v hn hd ha hfin
  obtain ⟨b1, b2, b3, b4, b5⟩ := Rat_roundedMag_bracket c v.neg v.mag (adjRat v.num v.den + v.e10)
  rw [hq] at hv ⊢
  have hp := tp (quantum c (adjRat v.num v.den + v.e10))
  refine ⟨?_, b2, b3, b4, ?_⟩
  · rw [← hv] at b1
    rcases b1 with h | h
    · left; have := mul_right_cancel₀ hp.ne' h; exact_mod_cast this
    · right; have := mul_right_cancel₀ hp.ne' h; exact_mod_cast this
  · intro k hk; rw [hv]; exact b5 k hk

theorem Exact.toRat_eq (v : Exact) : v.toRat = (if v.neg then -1 else 1) * v.mag := by
  unfold Exact.toRat Exact.mag; ring

theorem Exact.abs_toRat (v : Exact) : |v.toRat| = v.mag := by
  have h : 0 ≤ v.mag := by
    unfold Exact.mag
    have := (tp v.e10).le
    positivity
  rw [Exact.toRat_eq]
  cases v.neg <;> simp [abs_of_nonneg h]

theorem _root_.Apd.abs_toRat (d : Dec) : |d.toRat| = (d.coeff : ℚ) * (10 : ℚ) ^ d.exp := by
  have hnn : (0 : ℚ) ≤ (d.coeff : ℚ) * (10 : ℚ) ^ d.exp := by have := tp d.exp; positivity
  unfold Dec.toRat
  cases d.neg <;> simp [abs_of_nonneg hnn]

theorem _root_.Apd.coeff_pos_of_pow_le {d : Dec} {k : ℤ} (h : (10 : ℚ) ^ k ≤ |d.toRat|) : 0 < d.coeff :=
  Nat.pos_of_ne_zero fun h0 => by
    rw [abs_toRat, h0, Nat.cast_zero, zero_mul] at h; exact absurd h (not_le.2 (tp k))

theorem _root_.Apd.abs_toRat_isAdj (d : Dec) (h0 : 0 < d.coeff) :
    IsAdj |d.toRat| (d.exp + (ndigits d.coeff : ℤ) - 1) :=
  abs_toRat d ▸ IsAdj_digits d.coeff d.exp h0

theorem align (k : ℕ) (E e : ℤ) (h : e ≤ E) :
    ((k * 10 ^ (E - e).toNat : ℕ) : ℚ) * (10 : ℚ) ^ e = (k : ℚ) * (10 : ℚ) ^ E := by
  rw [Nat.cast_mul, zpow_toNat _ (by omega), mul_assoc, ← zpow_add₀ ten_ne]
  congr 2; omega

theorem Rat_exactRound_toRat (x : Dec) : (exactRound x).toRat = x.toRat := by
  unfold exactRound Exact.toRat Dec.toRat; simp

theorem Rat_exactAbs_toRat (x : Dec) : (exactAbs x).toRat = |x.toRat| := by
  have h : (0 : ℚ) ≤ (x.coeff : ℚ) * (10 : ℚ) ^ x.exp := by
    have := (tp x.exp).le
    positivity
  unfold exactAbs Exact.toRat Dec.toRat
  cases x.neg <;> simp [abs_of_nonneg h]

theorem Rat_exactNeg_toRat (x : Dec) : (exactNeg x).toRat = - x.toRat := by
  unfold exactNeg Exact.toRat Dec.toRat
  by_cases h : x.coeff = 0
  · simp [h]
  · cases x.neg <;> simp [h]

/-- sign-of-zero rule of `Neg`: the negation of a zero is `+0` -/
theorem Rat_exactNeg_zero_sign (x : Dec) (h : x.coeff = 0) : (exactNeg x).neg = false := by
  unfold exactNeg; simp [h]

theorem sign_xor (a b : Bool) :
    (if (a != b) = true then (-1 : ℚ) else 1) = (if a = true then -1 else 1) * (if b = true then -1 else 1) := by
  cases a <;> cases b <;> norm_num

theorem sign_inv (b : Bool) : (if b = true then (-1 : ℚ) else 1)⁻¹ = if b = true then -1 else 1 := by
  cases b <;> norm_num

theorem Rat_exactMul_toRat (x y : Dec) : (exactMul x y).toRat = x.toRat * y.toRat := by
  unfold exactMul Exact.toRat Dec.toRat
  simp only [Nat.cast_mul, Nat.cast_one, div_one, zpow_add₀ ten_ne, sign_xor]
  ring

/-- (true also for `y.coeff = 0` with Lean's convention `a / 0 = 0`; the oracle only uses it for `y ≠ 0`) -/
theorem Rat_exactQuo_toRat (x y : Dec) : (exactQuo x y).toRat = x.toRat / y.toRat := by
  unfold exactQuo Exact.toRat Dec.toRat
  simp only [zpow_sub₀ ten_ne, sign_xor]
  conv_lhs => rw [← sign_inv y.neg]
  ring

theorem sign_of_ne {a b : Bool} (h : ¬ a = b) :
    (if b = true then (-1 : ℚ) else 1) = -(if a = true then (-1 : ℚ) else 1) := by
  revert h; cases a <;> cases b <;> simp

theorem Dec.toRat_negate (y : Dec) : ({ y with neg := !y.neg } : Dec).toRat = - y.toRat := by
  unfold Dec.toRat; cases y.neg <;> simp

theorem exactAdd_toRat_add (c : Ctx) (x y : Dec) : (exactAdd c x y false).toRat = x.toRat + y.toRat := by
  have hx := align x.coeff x.exp (min x.exp y.exp) (min_le_left _ _)
  have hy := align y.coeff y.exp (min x.exp y.exp) (min_le_right _ _)
  unfold Dec.toRat
  rw [mul_assoc, mul_assoc, ← hx, ← hy]
  unfold exactAdd
  simp only [Bool.false_eq_true, if_false]
  generalize x.coeff * 10 ^ (x.exp - min x.exp y.exp).toNat = A
  generalize y.coeff * 10 ^ (y.exp - min x.exp y.exp).toNat = B
  generalize min x.exp y.exp = e
  by_cases hn : x.neg = y.neg
  · rw [if_pos (by rw [hn, beq_self_eq_true]), ← hn]
    simp only [Exact.toRat, Nat.cast_add, Nat.cast_one, div_one]
    ring
  · -- opposite signs: the larger coefficient gives the sign, the difference the magnitude
    rw [if_neg (by simpa using hn), sign_of_ne hn]
    rcases Nat.lt_trichotomy A B with h | h | h
    · rw [if_neg (Nat.lt_asymm h), if_pos h]
      simp only [Exact.toRat, sign_of_ne hn, Nat.cast_sub h.le, Nat.cast_one, div_one]
      ring
    · subst h
      rw [if_neg (Nat.lt_irrefl A), if_neg (Nat.lt_irrefl A)]
      simp only [Exact.toRat, Nat.cast_zero, Nat.cast_one, div_one]
      ring
    · rw [if_pos h]
      simp only [Exact.toRat, Nat.cast_sub h.le, Nat.cast_one, div_one]
      ring

theorem Rat_exactAdd_toRat (c : Ctx) (x y : Dec) (sub : Bool) :
    (exactAdd c x y sub).toRat = x.toRat + (if sub then - y.toRat else y.toRat) := by
  cases sub
  · exact exactAdd_toRat_add c x y
  · exact (exactAdd_toRat_add c x { y with neg := !y.neg }).trans (by rw [Dec.toRat_negate]; rfl)

/-- shape of the exact sum: an integer coefficient at the smaller exponent (this is what fixes the
exponent of a zero result) -/
theorem Rat_exactAdd_shape (c : Ctx) (x y : Dec) (sub : Bool) :
    (exactAdd c x y sub).den = 1 ∧ (exactAdd c x y sub).e10 = min x.exp y.exp := by
  unfold exactAdd
  simp only [apply_ite Exact.den, apply_ite Exact.e10, ite_self, and_self]

/-- sign-of-zero rule of `Add`/`Sub`: a zero sum takes the common sign of the (effective) operands
when they have the same sign; otherwise it is `+0`, except `-0` under `RoundFloor` -/
theorem Rat_exactAdd_zero_sign (c : Ctx) (x y : Dec) (sub : Bool) (h : (exactAdd c x y sub).num = 0) :
    (exactAdd c x y sub).neg =
      if x.neg = (if sub then !y.neg else y.neg) then x.neg else decide (c.mode = .floor) := by
  unfold exactAdd at h ⊢
  simp only [] at h ⊢
  generalize x.coeff * 10 ^ (x.exp - min x.exp y.exp).toNat = A at h ⊢
  generalize y.coeff * 10 ^ (y.exp - min x.exp y.exp).toNat = B at h ⊢
  generalize (if sub = true then !y.neg else y.neg) = yn at h ⊢
  by_cases hn : x.neg = yn
  · rw [if_pos hn, if_pos (by rw [hn, beq_self_eq_true])]
  · rw [if_neg (by simpa using hn)] at h ⊢
    rw [if_neg hn]
    -- a difference of distinct coefficients is not zero
    by_cases h1 : A > B
    · rw [if_pos h1] at h; exact absurd h (Nat.sub_ne_zero_of_lt h1)
    · rw [if_neg h1] at h ⊢
      by_cases h2 : A < B
      · rw [if_pos h2] at h; exact absurd h (Nat.sub_ne_zero_of_lt h2)
      · rw [if_neg h2]; rfl

theorem Exact.toRat_neg_iff (v : Exact) (hn : 0 < v.num) (hd : 0 < v.den) : v.toRat < 0 ↔ v.neg = true := by
  have := mag_pos v hn hd
  rw [Exact.toRat_eq]
  cases v.neg <;> simp <;> linarith

theorem Rat_matches_iff (s : SpecOut) (d : Dec) (hd : d.form = .finite) :
    s.matches d = true ↔
      (s.inf = false ∧ d.neg = s.neg ∧
        (d.coeff : ℚ) * (10 : ℚ) ^ d.exp = (s.m : ℚ) * (10 : ℚ) ^ s.q) := by
  unfold SpecOut.matches
  rw [hd]
  simp only [Bool.and_eq_true, Bool.not_eq_true', beq_iff_eq, and_assoc]
  refine and_congr Iff.rfl (and_congr Iff.rfl ?_)
  split_ifs with h
  · rw [beq_iff_eq, ← align d.coeff d.exp s.q h, mul_left_inj' (tp s.q).ne']
    exact_mod_cast Iff.rfl
  · rw [beq_iff_eq, ← align s.m s.q d.exp (by omega), mul_left_inj' (tp d.exp).ne']
    exact_mod_cast Iff.rfl

theorem Rat_matches_infinite (s : SpecOut) (d : Dec) (hd : d.form = .infinite) :
    s.matches d = true ↔ (s.inf = true ∧ d.neg = s.neg) := by
  unfold SpecOut.matches; rw [hd]; simp

theorem Rat_matches_nan (s : SpecOut) (d : Dec) (hd : d.form ≠ .finite) (hi : d.form ≠ .infinite) :
    s.matches d = false := by
  unfold SpecOut.matches; cases h : d.form <;> simp_all

theorem Rat_matches_toRat (s : SpecOut) (d : Dec) (hd : d.form = .finite) (h : s.matches d = true) :
    d.toRat = s.toRat := by
  obtain ⟨-, h2, h3⟩ := (Rat_matches_iff s d hd).1 h
  unfold Dec.toRat SpecOut.toRat
  rw [h2, mul_assoc, h3, mul_assoc]

/-! ## the specification is a function of the sign and the rational magnitude -/

/-- two exact values with the same sign and the same magnitude, however written as `num/den × 10^e10`, have the same
specification: the quantum is fixed by the magnitude (`IsAdj_unique`), and so are `roundAt`'s coefficient
(`roundAt_roundInt`) and its inexact verdict (`roundAt_inexact_iff`) -/
theorem specRound_congr (c : Ctx) (v w : Exact) (hvn : 0 < v.num) (hvd : 0 < v.den) (hwn : 0 < w.num)
    (hwd : 0 < w.den) (hneg : v.neg = w.neg) (hmag : v.mag = w.mag) : specRound c v = specRound c w := by
  have hadj : adjRat v.num v.den + v.e10 = adjRat w.num w.den + w.e10 :=
    IsAdj_unique (mag_isAdj v hvn hvd) (hmag ▸ mag_isAdj w hwn hwd)
  have hQ : specQ c v = specQ c w := by unfold specQ; rw [hadj]
  have hr : roundAt c.mode v.neg v.num v.den v.e10 (specQ c v) = roundAt c.mode w.neg w.num w.den w.e10 (specQ c w) := by
    rw [hneg, hQ]
    apply Prod.ext
    · have h1 := roundAt_roundInt c.mode w.neg v.num v.den v.e10 (specQ c v) (by omega)
      have h2 := roundAt_roundInt c.mode w.neg w.num w.den w.e10 (specQ c w) (by omega)
      rw [← mag_eq_qval, hmag, hQ] at h1
      rw [← mag_eq_qval] at h2
      exact_mod_cast h1.trans h2.symm
    · have h1 := roundAt_inexact_iff c.mode w.neg v.num v.den v.e10 (specQ c v) (by omega)
      have h2 := roundAt_inexact_iff c.mode w.neg w.num w.den w.e10 (specQ c w) (by omega)
      rw [← mag_eq_qval, hmag, hQ] at h1
      rw [← mag_eq_qval] at h2
      exact Bool.eq_iff_iff.2 (h1.trans h2.symm)
  rw [specRound_pos c v hvn, specRound_pos c w hwn, hr]
  unfold specCore
  rw [hQ, hadj, hneg]

theorem agrees_congr {c : Ctx} {v w : Exact} {d : Dec} {fl : Cond} (h : Agrees c w d fl) (hvn : 0 < v.num)
    (hvd : 0 < v.den) (hwn : 0 < w.num) (hwd : 0 < w.den) (hneg : v.neg = w.neg) (hmag : v.mag = w.mag) :
    Agrees c v d fl := by
  unfold Agrees at *; rw [specRound_congr c v w hvn hvd hwn hwd hneg hmag]; exact h

/-! ## reading `Agrees` (C01 + C02 + C07) through the rational specification -/

/-- a delivered FINITE result that `Agrees` with the oracle denotes the exact value rounded once by
the readable specification, and Inexact is raised exactly when it differs from the exact value -/
theorem Rat_agrees_finite (c : Ctx) (ex : Exact) (d : Dec) (fl : Cond) (hn : 0 < ex.num) (hd : 0 < ex.den)
    {a : ℤ} (ha : IsAdj ex.mag a) (hA : Agrees c ex d fl) (hf : d.form = .finite) :
    d.toRat = (if ex.neg then -1 else 1) * roundedMag c ex.neg ex.mag a ∧
    (fl.inexact = true ↔ d.toRat ≠ ex.toRat) ∧
    (fl.subnormal = true ↔ |ex.toRat| < (10 : ℚ) ^ c.emin) ∧
    fl.overflow = false := by
  obtain ⟨hm, hfl, -⟩ := hA
  obtain ⟨hfin, -, -⟩ := (Rat_matches_iff _ d hf).1 hm
  have hval := Rat_matches_toRat _ d hf hm
  rw [Rat_specRound_toRat c ex hn hd ha hfin] at hval
  have hno : ¬ (10 : ℚ) ^ (c.emax + 1) ≤ roundedMag c ex.neg ex.mag a := by
    intro hh; rw [(Rat_specRound_overflow c ex hn hd ha).2 hh] at hfin; exact Bool.noConfusion hfin
  refine ⟨hval, ?_, ?_, ?_⟩
  · rw [hfl.1, Rat_specRound_inexact c ex hn hd ha, hval, Exact.toRat_eq]
    simp only [hno, false_or]
    cases ex.neg <;> simp
  · rw [hfl.2.1, Rat_specRound_subnormal c ex hn hd, Exact.abs_toRat]
  · rw [hfl.2.2.2.1, Rat_specRound_overflow_flag, hfin]

/-- a delivered INFINITE result that `Agrees` with the oracle: the rounded magnitude is beyond the
largest finite number of the context; Overflow and Inexact are raised -/
theorem Rat_agrees_infinite (c : Ctx) (ex : Exact) (d : Dec) (fl : Cond) (hn : 0 < ex.num) (hd : 0 < ex.den)
    {a : ℤ} (ha : IsAdj ex.mag a) (hA : Agrees c ex d fl) (hf : d.form = .infinite) :
    (10 : ℚ) ^ (c.emax + 1) ≤ roundedMag c ex.neg ex.mag a ∧ d.neg = ex.neg ∧
    fl.overflow = true ∧ fl.inexact = true := by
  obtain ⟨hm, hfl, -⟩ := hA
  obtain ⟨hinf, hneg⟩ := (Rat_matches_infinite _ d hf).1 hm
  have hov := (Rat_specRound_overflow c ex hn hd ha).1 hinf
  refine ⟨hov, by rw [hneg, Rat_specRound_neg], ?_, ?_⟩
  · rw [hfl.2.2.2.1, Rat_specRound_overflow_flag, hinf]
  · rw [hfl.1]; exact (Rat_specRound_inexact c ex hn hd ha).2 (Or.inl hov)

end Apd.RatSpec

open Apd.RatSpec in
section
#print axioms Rat_adjRat_isAdj
#print axioms IsAdj_existsUnique
#print axioms Rat_specRound_value
#print axioms Rat_specRound_q
#print axioms Rat_specRound_toRat
#print axioms Rat_specRound_neg
#print axioms Rat_specRound_zero
#print axioms Rat_specRound_overflow
#print axioms Rat_specRound_overflow_adj
#print axioms Rat_specRound_overflow_flag
#print axioms Rat_specRound_inexact
#print axioms Rat_specRound_subnormal
#print axioms Rat_specRound_underflow
#print axioms Rat_roundedMag_bracket
#print axioms Rat_specRound_bracket
#print axioms Rat_roundInt_down
#print axioms Rat_roundInt_up
#print axioms Rat_roundInt_ceiling
#print axioms Rat_roundInt_floor
#print axioms Rat_roundInt_half_nearest
#print axioms Rat_roundInt_tie
#print axioms Rat_roundInt_r05up
#print axioms Rat_exactAdd_toRat
#print axioms Rat_exactAdd_shape
#print axioms Rat_exactAdd_zero_sign
#print axioms Rat_exactMul_toRat
#print axioms Rat_exactQuo_toRat
#print axioms Rat_exactRound_toRat
#print axioms Rat_exactAbs_toRat
#print axioms Rat_exactNeg_toRat
#print axioms Rat_exactNeg_zero_sign
#print axioms Rat_matches_iff
#print axioms Rat_matches_infinite
#print axioms Rat_matches_nan
#print axioms Rat_matches_toRat
#print axioms Rat_agrees_finite
#print axioms Rat_agrees_infinite
end
