import ApdVerif.Gen.Imp
import ApdVerif.Lemmas.GenTieImpLemmas
import ApdVerif.Lemmas.ProgEq
/-!
# Regenerated tie, store level: the programs re-extracted from the Go source on every run
(`ApdVerif/Gen/Imp.lean`, written by harness/cmd/xlate, group `imp`) behave exactly like the hand-written
programs of `Imp/Ops.lean`: same result and same final heap, for every heap and every aliasing of the cells.
If the Go source changes one of these functions (a statement moved, a comparison changed, …) the regenerated
program changes and the corresponding theorem below stops checking.

Wherever the two programs make the same field accesses in the same order they are EQUAL once both are in monad-law
normal form (`EqTie_*`, by the equational theory of `Lemmas/ProgEq.lean`).  Where the accesses differ (`add`, `Quo`,
`quantize` and what calls them) they are tied by `RunEq` (`RunTie_*`), built from the congruence rules and the heap law
that says how they differ.  Each `GenTieImp_*` statement is the run of one of these; five are stated at one heap and
proved by running both sides: `setSlow` and `SetFinite`, which differ from the other side by idle accesses, `Set_loc0`
(against the value read), and `Decimal.Reduce` / `Context.Reduce`, whose tie holds only on heaps where the fuel exceeds
the coefficient.
-/
namespace Apd.Props
open Apd.Imp Apd.Cond Apd.Gen.ImpG

theorem GenTieImp_Condition_Inexact (r : Cond) : Condition_Inexact r = r.inexact := by
  unfold Condition_Inexact; exact cond_and_ne_inexact r

theorem GenTieImp_Condition_Subnormal (r : Cond) : Condition_Subnormal r = r.subnormal := by
  unfold Condition_Subnormal; exact cond_and_ne_subnormal r

theorem GenTieImp_Condition_GoError (r traps : Cond) : Condition_GoError r traps = (r, goError traps r) := by
  unfold Condition_GoError goError
  simp only [cond_ne_zero_any, cond_and_sys_any]

theorem GenTieImp_Context_goError (c : Ctx) (fl : Cond) : Context_goError c fl = (fl, goError c.traps fl) := by
  unfold Context_goError
  by_cases h : fl = {}
  · subst h; simp [goError_noFlags]
  · simp [h, GenTieImp_Condition_GoError]

theorem EqTie_Decimal_NumDigits (s : Src) : Decimal_NumDigits s = numDigitsP s >>= fun n => pure (n : Int) := by
  simp only [Decimal_NumDigits, numDigitsP, bind_assoc, pure_bind]

theorem GenTieImp_Decimal_NumDigits (s : Src) (h : Heap) :
    run (Decimal_NumDigits s) h = run (numDigitsP s >>= fun n => pure (n : Int)) h :=
  RunEq.of_eq (EqTie_Decimal_NumDigits ..) h

theorem EqTie_Decimal_Sign (s : Src) : Decimal_Sign s = signP s := by
  unfold Decimal_Sign signP
  simp only [bind_assoc, pure_bind, ite_bind, natSign_beq_zero, beq_iff_eq, Bool.false_eq_true, if_false,
    apply_ite (pure : Int → Prog Int)]

theorem GenTieImp_Decimal_Sign (s : Src) (h : Heap) : run (Decimal_Sign s) h = run (signP s) h :=
  RunEq.of_eq (EqTie_Decimal_Sign ..) h

theorem EqTie_Decimal_IsZero (s : Src) : Decimal_IsZero s = isZeroP s := by
  unfold Decimal_IsZero isZeroP; rw [EqTie_Decimal_Sign]

theorem GenTieImp_Decimal_IsZero (s : Src) (h : Heap) : run (Decimal_IsZero s) h = run (isZeroP s) h :=
  RunEq.of_eq (EqTie_Decimal_IsZero ..) h

theorem EqTie_Decimal_Set (d : Cell) (x : Src) : Decimal_Set d x = setDec d x := by
  unfold Decimal_Set Decimal_setSlow setDec
  simp only [bind_assoc, bind_pure_unit, beq_iff_eq, eq_comm (a := Src.cell d)]

theorem GenTieImp_Decimal_Set (d : Cell) (x : Src) (h : Heap) : run (Decimal_Set d x) h = run (setDec d x) h :=
  RunEq.of_eq (EqTie_Decimal_Set ..) h

theorem EqTie_Decimal_Neg (d : Cell) (x : Src) : Decimal_Neg d x = negDec d x := by
  unfold Decimal_Neg negDec
  simp only [EqTie_Decimal_Set, EqTie_Decimal_IsZero, bind_assoc, bind_pure_unit, ite_bind]

theorem GenTieImp_Decimal_Neg (d : Cell) (x : Src) (h : Heap) : run (Decimal_Neg d x) h = run (negDec d x) h :=
  RunEq.of_eq (EqTie_Decimal_Neg ..) h

theorem EqTie_Decimal_Abs (d : Cell) (x : Src) : Decimal_Abs d x = absDec d x := by
  unfold Decimal_Abs absDec
  simp only [EqTie_Decimal_Set, bind_pure_unit]

theorem GenTieImp_Decimal_Abs (d : Cell) (x : Src) (h : Heap) : run (Decimal_Abs d x) h = run (absDec d x) h :=
  RunEq.of_eq (EqTie_Decimal_Abs ..) h

/-- the hand-written side writes the exponent twice (`setInt64P` ends with `d.Exponent = 0`) -/
theorem GenTieImp_Decimal_SetFinite (d : Cell) (v e : Int) (h : Heap) :
    run (Decimal_SetFinite d v e) h = run (do setInt64P d v; wrExp d e) h := by
  unfold Decimal_SetFinite Decimal_setCoefficient setInt64P
  simp

theorem EqTie_Decimal_SetInt64 (d : Cell) (v : Int) : Decimal_SetInt64 d v = setInt64P d v := by
  unfold Decimal_SetInt64 Decimal_SetFinite Decimal_setCoefficient setInt64P
  simp only [bind_assoc, bind_pure_unit]

theorem GenTieImp_Decimal_SetInt64 (d : Cell) (v : Int) (h : Heap) :
    run (Decimal_SetInt64 d v) h = run (setInt64P d v) h :=
  RunEq.of_eq (EqTie_Decimal_SetInt64 ..) h

/-- `setSlow` (the copy without the `d == x` test) also agrees with `Set` when `x` is `d` itself: there it reads each
field of `d` and writes it back, where `Set` does nothing -/
theorem GenTieImp_Decimal_setSlow (d : Cell) (x : Src) (h : Heap) :
    run (Decimal_setSlow d x) h = run (setDec d x) h := by
  unfold Decimal_setSlow setDec
  by_cases hx : x = .cell d
  · subst hx; simp
  · simp [hx]

theorem EqTie_Context_shouldSetAsNaN (c : Ctx) (x : Src) (y : Option Src) :
    Context_shouldSetAsNaN c x y = shouldSetAsNaNP x y := by
  unfold Context_shouldSetAsNaN shouldSetAsNaNP isNaNP
  cases y <;> simp only [bind_assoc, beq_iff_eq]

theorem GenTieImp_Context_shouldSetAsNaN (c : Ctx) (x : Src) (y : Option Src) (h : Heap) :
    run (Context_shouldSetAsNaN c x y) h = run (shouldSetAsNaNP x y) h :=
  RunEq.of_eq (EqTie_Context_shouldSetAsNaN ..) h

theorem EqTie_Context_setAsNaN (c : Ctx) (d : Cell) (x : Src) (y : Option Src) :
    Context_setAsNaN c d x y = setAsNaNP c d x y := by
  unfold Context_setAsNaN setAsNaNP
  cases y <;>
    simp only [bind_assoc, pure_bind, ite_bind, EqTie_Decimal_Set, GenTieImp_Context_goError, beq_iff_eq, goError_noFlags,
      Option.getD_some, if_true, if_false, Bool.false_eq_true]

theorem GenTieImp_Context_setAsNaN (c : Ctx) (d : Cell) (x : Src) (y : Option Src) (h : Heap) :
    run (Context_setAsNaN c d x y) h = run (setAsNaNP c d x y) h :=
  RunEq.of_eq (EqTie_Context_setAsNaN ..) h

theorem GenTieImp_roundAddOne (b : Nat) (diff : Int) :
    Apd.Gen.ImpG.roundAddOne b diff = Apd.roundAddOne b diff := by
  unfold Apd.Gen.ImpG.roundAddOne Apd.roundAddOne
  have h0 : ¬ (natSign b < 0) := by unfold natSign; split <;> omega
  simp only [h0, decide_false, Bool.false_eq_true, if_false, Apd.Gen.bigOne, Apd.Gen.bigTen]
  by_cases h : ndigits (b + 1) > ndigits b
  · have h' : ((ndigits (b + 1) : Int) > (ndigits b : Int)) := by omega
    simp [h, h']
  · have h' : ¬ ((ndigits (b + 1) : Int) > (ndigits b : Int)) := by omega
    simp [h, h']

/-- the `nd` argument of `setExponent`: `unknownNumDigits` or a digit count -/
def ndArg : Option Nat → Int
  | none => -1
  | some n => (n : Int)

theorem EqTie_Decimal_setExponent (c : Ctx) (d : Cell) (nd : Option Nat) (res : Cond) (xs : List Int) :
    Decimal_setExponent d c (ndArg nd) res xs = setExponentP c d nd res xs := by
  unfold Decimal_setExponent setExponentP
  dsimp only [narrow32]
  simp only [setExponent_loop, Int.zero_add]
  cases hx : checkXs xs with
  | some fl => rfl
  | none =>
    have hnd : (if (ndArg nd == -1) = true then do
              let t_3 ← Decimal_NumDigits (Src.cell d)
              have nd : Int := t_3
              pure nd
            else pure (ndArg nd)) = ndOrCountP d nd >>= fun n => pure (n : Int) := by
      cases nd with
      | none => simp only [ndArg, ndOrCountP, EqTie_Decimal_NumDigits, bind_assoc, pure_bind, beq_self_eq_true, if_true]
      | some n =>
        have : ¬ ((n : Int) = -1) := by omega
        simp only [ndArg, ndOrCountP, this, beq_iff_eq, if_false, pure_bind]
    simp only [hnd, bind_assoc, pure_bind, MaxExponent, MinExponent, decide_eq_true_eq,
      EqTie_Decimal_IsZero, GenTieImp_Condition_Inexact, GenTieImp_Condition_Subnormal, seFinishP, ite_pure]
    refine bindc fun n => itec (fun _ => rfl) fun _ => itec (fun _ => rfl) fun _ => itec_bind (fun _ => ?_) fun _ => ?_
    · simp only [bind_assoc, pure_bind]
      refine bindc fun z => itec_bind (fun c4 => ?_) fun _ => ?_
      · generalize (if (!z) = true then res ||| cSubnormal else res) = res1
        simp only [bind_assoc]
        refine bindc fun tc => bindc fun tn => ?_
        -- `tmp.Modf(&integ, &frac)` and `frac.Cmp(decimalHalf)` on locals: quotient, remainder, `2·frac` against `10^K`
        generalize hK : (c.emin - ((c.prec : Int) - 1) - sumInts xs).toNat = K
        have hexp : sumInts xs - (c.emin - ((c.prec : Int) - 1)) = -(K : Int) := by omega
        have hKpos : 0 < K := by omega
        have hm := modf_nonpos tc tn (-(K : Int)) (by omega)
        rw [Int.neg_neg, Int.toNat_natCast] at hm
        simp only [hexp, hm, Dec.absD, Dec.isZero]
        by_cases hz : tc % 10 ^ K = 0
        · simp [hz]
        · have hlt : tc % 10 ^ K < 10 ^ K := Nat.mod_lt _ (Nat.pow_pos (by decide))
          rw [cmp_half _ K hKpos hlt hz]
          by_cases hs : shouldAddOne c.mode (tc / 10 ^ K) tn (cmpNat (2 * (tc % 10 ^ K)) (10 ^ K)) = true
          · simp [hz, hs, Gen.bigOne]
          · simp [hz, hs]
      · simp only [pure_bind]
    · simp only [bind_assoc, pure_bind]
      refine itec_bind (fun _ => ?_) fun _ => ?_
      · simp only [bind_assoc]
        refine bindc fun z => ?_
        cases z <;> simp [cond_or_assoc]
      · simp only [pure_bind]

theorem GenTieImp_Decimal_setExponent (c : Ctx) (d : Cell) (nd : Option Nat) (res : Cond) (xs : List Int) (h : Heap) :
    run (Decimal_setExponent d c (ndArg nd) res xs) h = run (setExponentP c d nd res xs) h :=
  RunEq.of_eq (EqTie_Decimal_setExponent ..) h

theorem EqTie_setExponent_some (c : Ctx) (d : Cell) (n : Nat) (res : Cond) (xs : List Int) :
    Decimal_setExponent d c (n : Int) res xs = setExponentP c d (some n) res xs :=
  EqTie_Decimal_setExponent c d (some n) res xs

theorem EqTie_setExponent_none (c : Ctx) (d : Cell) (res : Cond) (xs : List Int) :
    Decimal_setExponent d c (-1) res xs = setExponentP c d none res xs :=
  EqTie_Decimal_setExponent c d none res xs

theorem GenTieImp_Decimal_setExponent_some (c : Ctx) (d : Cell) (n : Nat) (res : Cond) (xs : List Int) (h : Heap) :
    run (Decimal_setExponent d c (n : Int) res xs) h = run (setExponentP c d (some n) res xs) h :=
  GenTieImp_Decimal_setExponent c d (some n) res xs h

theorem GenTieImp_Decimal_setExponent_none (c : Ctx) (d : Cell) (res : Cond) (xs : List Int) (h : Heap) :
    run (Decimal_setExponent d c (-1) res xs) h = run (setExponentP c d none res xs) h :=
  GenTieImp_Decimal_setExponent c d none res xs h

/-- `Rounder.Round` with the context's own rounder (`c.Rounding.Round(c, d, x, flag)`, the only way it is called) -/
theorem EqTie_Rounder_Round (c : Ctx) (d : Cell) (x : Src) (dis : Bool) :
    Rounder_Round c.mode c d x dis = roundP c d x dis := by
  unfold Rounder_Round roundP roundFinP roundTailP
  dsimp only [narrow32]
  simp only [EqTie_Decimal_Set, EqTie_Decimal_NumDigits, EqTie_Decimal_Sign, bind_assoc, pure_bind,
    EqTie_setExponent_some, EqTie_setExponent_none, Cond.empty_or, GenTieImp_roundAddOne, decide_eq_true_eq, MaxExponent,
    bind_pure]
  refine bindc fun _ => bindc fun xf => itec (fun _ => rfl) fun _ => bindc fun nd => bindc fun xs =>
    itec (fun _ => rfl) fun _ => bindc fun xe => itec (fun _ => rfl) fun _ => itec (fun c3 => ?_) fun _ => rfl
  refine itec (fun _ => rfl) fun c4 => ?_
  generalize (nd : Int) - (c.prec : Int) = D at c3 c4
  rw [if_neg (by omega : ¬ D < -100000)]
  refine bindc fun dc => ?_
  by_cases hm : dc % 10 ^ D.toNat = 0
  · simp [hm, natSign]
  · have hlt : dc % 10 ^ D.toNat < 10 ^ D.toNat := Nat.mod_lt _ (Nat.pow_pos (by decide))
    have hexp : -D = -((D.toNat : Nat) : Int) := by omega
    rw [hexp, cmp_half _ D.toNat (by omega) hlt hm]
    have hm' : (dc % 10 ^ D.toNat != 0) = true := by simpa using hm
    simp only [natSign_ne_zero, hm', if_true, bind_assoc]
    refine bindc fun xn => ?_
    exact itec_bind (fun _ => rfl) fun _ => rfl

theorem GenTieImp_Rounder_Round (c : Ctx) (d : Cell) (x : Src) (dis : Bool) (h : Heap) :
    run (Rounder_Round c.mode c d x dis) h = run (roundP c d x dis) h :=
  RunEq.of_eq (EqTie_Rounder_Round ..) h

theorem EqTie_Context_round (c : Ctx) (d : Cell) (x : Src) : Context_round c d x = roundP c d x true := by
  unfold Context_round
  rw [EqTie_Rounder_Round]

theorem GenTieImp_Context_round (c : Ctx) (d : Cell) (x : Src) (h : Heap) :
    run (Context_round c d x) h = run (roundP c d x true) h :=
  RunEq.of_eq (EqTie_Context_round ..) h

/-! ## `Context` methods.  The generated programs return Go's `(Condition, error)`; the hand-written ones carry a
third component (the auxiliary integer of `Reduce`, 0 here), dropped by `dropAux`. -/

def dropAux (p : Prog Res) : Prog (Cond × ErrKind) := p >>= fun r => pure (r.1, r.2.1)

theorem dropAux_bind {α : Type} (p : Prog α) (f : α → Prog Res) : dropAux (p >>= f) = p >>= fun a => dropAux (f a) :=
  bind_assoc _ _ _
theorem dropAux_ite (c : Prop) [Decidable c] (p q : Prog Res) :
    dropAux (if c then p else q) = if c then dropAux p else dropAux q := ite_bind _ _ _ _
theorem dropAux_pure (r : Res) : dropAux (pure r) = pure (r.1, r.2.1) := rfl
theorem dropAux_retFlags (c : Ctx) (fl : Cond) : dropAux (retFlags c fl) = pure (fl, goError c.traps fl) := rfl

theorem EqTie_Context_Round (c : Ctx) (d : Cell) (x : Src) : Context_Round c d x = dropAux (roundOpP c d x) := by
  unfold Context_Round roundOpP
  simp only [dropAux_bind, dropAux_ite, dropAux_pure, dropAux_retFlags, EqTie_Context_shouldSetAsNaN,
    EqTie_Context_setAsNaN, EqTie_Context_round, GenTieImp_Context_goError]

theorem GenTieImp_Context_Round (c : Ctx) (d : Cell) (x : Src) (h : Heap) :
    run (Context_Round c d x) h = run (dropAux (roundOpP c d x)) h :=
  RunEq.of_eq (EqTie_Context_Round ..) h

theorem EqTie_Context_Abs (c : Ctx) (d : Cell) (x : Src) : Context_Abs c d x = dropAux (absP c d x) := by
  unfold Context_Abs absP
  simp only [dropAux_bind, dropAux_ite, dropAux_pure, dropAux_retFlags, EqTie_Context_shouldSetAsNaN,
    EqTie_Context_setAsNaN, EqTie_Context_round, GenTieImp_Context_goError, EqTie_Decimal_Abs]

theorem GenTieImp_Context_Abs (c : Ctx) (d : Cell) (x : Src) (h : Heap) :
    run (Context_Abs c d x) h = run (dropAux (absP c d x)) h :=
  RunEq.of_eq (EqTie_Context_Abs ..) h

theorem EqTie_Context_Neg (c : Ctx) (d : Cell) (x : Src) : Context_Neg c d x = dropAux (negP c d x) := by
  unfold Context_Neg negP
  simp only [dropAux_bind, dropAux_ite, dropAux_pure, dropAux_retFlags, EqTie_Context_shouldSetAsNaN,
    EqTie_Context_setAsNaN, EqTie_Context_round, GenTieImp_Context_goError, EqTie_Decimal_Neg]

theorem GenTieImp_Context_Neg (c : Ctx) (d : Cell) (x : Src) (h : Heap) :
    run (Context_Neg c d x) h = run (dropAux (negP c d x)) h :=
  RunEq.of_eq (EqTie_Context_Neg ..) h

def bptrOf (a b : Src) : BRef → BPtr
  | .val n => .val n
  | .fst => .coeff a
  | .snd => .coeff b

theorem EqTie_derefB_bptrOf (a b : Src) (r : BRef) : derefB (bptrOf a b r) = rdB a b r := by
  cases r <;> rfl

def upscaleRes (a b : Src) : Option (BRef × BRef × Int) → BPtr × BPtr × Int × ErrKind
  | none => (BPtr.null, BPtr.null, 0, ErrKind.sys)
  | some (ra, rb, s) => (bptrOf a b ra, bptrOf a b rb, s, ErrKind.none)

theorem EqTie_upscale (a b : Src) (tmp : BPtr) :
    Apd.Gen.ImpG.upscale a b tmp = upscaleP a b >>= fun u => pure (upscaleRes a b u) := by
  unfold Apd.Gen.ImpG.upscale upscaleP
  delta MaxExponent
  simp only [bind_assoc, pure_bind, ite_bind, upscaleRes, bptrOf, decide_eq_true_eq, if_true,
    Bool.false_eq_true, if_false]

theorem GenTieImp_upscale (a b : Src) (tmp : BPtr) (h : Heap) :
    run (Apd.Gen.ImpG.upscale a b tmp) h = run (upscaleP a b >>= fun u => pure (upscaleRes a b u)) h :=
  RunEq.of_eq (EqTie_upscale ..) h

/-- in the branch `a < b` Go tests `d.Coeff.Sign()` after `d.Coeff.Sub(a, b)`; `addFiniteP` branches on the difference
it has just written without reading it back -/
theorem RunTie_Context_add (c : Ctx) (d : Cell) (x y : Src) (sub : Bool) :
    RunEq (Context_add c d x y sub) (dropAux (addP c d x y sub)) := by
  unfold Context_add addP
  simp only [dropAux_bind, dropAux_ite, dropAux_pure, dropAux_retFlags, EqTie_Context_shouldSetAsNaN,
    EqTie_Context_setAsNaN, EqTie_Context_round, GenTieImp_Context_goError, EqTie_Decimal_Set, EqTie_upscale,
    bind_assoc, pure_bind, bind_pure_unit, decimalNaN, decNaN, decimalInfinity, decInf]
  refine .bind .rfl fun _ => .ite (fun _ => .rfl) fun _ => .bind .rfl fun xn => .bind .rfl fun yn0 =>
    .bind .rfl fun xf => .bind .rfl fun yf => .ite (fun _ => .ite (fun _ => .rfl) fun _ => .of_eq (ite_bind _ _ _ _))
      fun _ => .bind .rfl fun u => ?_
  rcases u with _ | ⟨ra, rb, s⟩
  · exact .rfl
  · simp only [upscaleRes, addFiniteP, EqTie_derefB_bptrOf, dropAux_bind, dropAux_retFlags, bne_self_eq_false,
      Bool.false_eq_true, if_false]
    generalize (yn0 != sub) = yn
    refine .bind .rfl fun _ => ?_
    rw [ite_bind, ite_bind]
    refine .ite (fun _ => .of_eq (by simp only [bind_assoc, pure_bind])) fun _ => ?_
    simp only [bind_assoc]
    refine .bind .rfl fun av => .bind .rfl fun bv => .trans (RunEq.wr_rdCoeff _ _ _) ?_
    simp only [bigSign_sub_neg, bigSign_sub_zero, decide_eq_true_eq]
    by_cases hlt : av < bv
    · simp only [hlt, if_true, bind_assoc, pure_bind, natAbs_sub]
      exact .rfl
    · simp only [hlt, if_false, bind_assoc, pure_bind, natAbs_sub]
      exact .symm (RunEq.wr_rdCoeff _ _ _)

theorem GenTieImp_Context_add (c : Ctx) (d : Cell) (x y : Src) (sub : Bool) (h : Heap) :
    run (Context_add c d x y sub) h = run (dropAux (addP c d x y sub)) h :=
  RunTie_Context_add c d x y sub h

theorem RunTie_Context_Add (c : Ctx) (d : Cell) (x y : Src) :
    RunEq (Context_Add c d x y) (dropAux (addP c d x y false)) := by
  unfold Context_Add
  rw [bind_pure_pair]
  exact RunTie_Context_add c d x y false

theorem GenTieImp_Context_Add (c : Ctx) (d : Cell) (x y : Src) (h : Heap) :
    run (Context_Add c d x y) h = run (dropAux (addP c d x y false)) h :=
  RunTie_Context_Add c d x y h

theorem RunTie_Context_Sub (c : Ctx) (d : Cell) (x y : Src) :
    RunEq (Context_Sub c d x y) (dropAux (addP c d x y true)) := by
  unfold Context_Sub
  rw [bind_pure_pair]
  exact RunTie_Context_add c d x y true

theorem GenTieImp_Context_Sub (c : Ctx) (d : Cell) (x y : Src) (h : Heap) :
    run (Context_Sub c d x y) h = run (dropAux (addP c d x y true)) h :=
  RunTie_Context_Sub c d x y h

theorem EqTie_Context_Mul (c : Ctx) (d : Cell) (x y : Src) : Context_Mul c d x y = dropAux (mulP c d x y) := by
  unfold Context_Mul mulP
  simp only [dropAux_bind, dropAux_ite, dropAux_pure, dropAux_retFlags, EqTie_Context_shouldSetAsNaN,
    EqTie_Context_setAsNaN, EqTie_Context_round, GenTieImp_Context_goError, EqTie_Decimal_Set, EqTie_Decimal_IsZero,
    EqTie_setExponent_none, decimalNaN, decNaN, decimalInfinity, decInf]

theorem GenTieImp_Context_Mul (c : Ctx) (d : Cell) (x y : Src) (h : Heap) :
    run (Context_Mul c d x y) h = run (dropAux (mulP c d x y)) h :=
  RunEq.of_eq (EqTie_Context_Mul ..) h

theorem GenTieImp_Context_etiny (c : Ctx) : Context_etiny c = c.emin - (c.prec : Int) + 1 := rfl

/-- the `(set, res, err)` of the generated `quoSpecials` for the `Option` of `quoSpecialsP` -/
def specialsRes : Option (Cond × ErrKind) → Bool × Cond × ErrKind
  | some r => (true, r.1, r.2)
  | none => (false, {}, ErrKind.none)

theorem EqTie_Context_quoSpecials (c : Ctx) (d : Cell) (x y : Src) (cc : Bool) :
    Context_quoSpecials c d x y cc = quoSpecialsP c d x y cc >>= fun o => pure (specialsRes o) := by
  unfold Context_quoSpecials quoSpecialsP
  simp only [EqTie_Context_shouldSetAsNaN, EqTie_Context_setAsNaN, GenTieImp_Context_goError, EqTie_Decimal_Set,
    EqTie_Decimal_IsZero, EqTie_Decimal_SetInt64, GenTieImp_Context_etiny, bind_assoc, pure_bind, ite_bind,
    decimalNaN, decNaN, decimalInfinity, decInf, specialsRes, Cond.empty_or, goError_noFlags]

theorem GenTieImp_Context_quoSpecials (c : Ctx) (d : Cell) (x y : Src) (cc : Bool) (h : Heap) :
    run (Context_quoSpecials c d x y cc) h = run (quoSpecialsP c d x y cc >>= fun o => pure (specialsRes o)) h :=
  RunEq.of_eq (EqTie_Context_quoSpecials ..) h

/-- continuations of `quoSpecialsP` need only agree on the values it can return: `none` only when the precision is
not 0 (so that the `uint32` subtraction `c.Precision - 1` of `Quo` does not wrap) -/
theorem quoSpecialsP_bind_runEq {β : Type} (c : Ctx) (d : Cell) (x y : Src) (cc : Bool)
    {f g : Option (Cond × ErrKind) → Prog β} (hs : ∀ r, RunEq (f (some r)) (g (some r)))
    (hn : c.prec ≠ 0 → RunEq (f none) (g none)) :
    RunEq (quoSpecialsP c d x y cc >>= f) (quoSpecialsP c d x y cc >>= g) := by
  unfold quoSpecialsP
  simp only [bind_assoc, ite_bind, pure_bind]
  refine .bind .rfl fun _ => .ite (fun _ => .bind .rfl fun _ => hs _) fun _ => .bind .rfl fun _ => .bind .rfl fun _ =>
    .bind .rfl fun _ => .bind .rfl fun _ => .ite (fun _ => ?_) fun _ => .bind .rfl fun _ => .ite (fun _ => ?_) fun _ =>
      .ite (fun _ => hs _) fun hp => hn (by simpa using hp)
  · refine .ite (fun _ => .bind .rfl fun _ => hs _) fun _ => .ite (fun _ => .bind .rfl fun _ => .bind .rfl fun _ => hs _)
      fun _ => .bind .rfl fun _ => .bind .rfl fun _ => .ite (fun _ => .bind .rfl fun _ => hs _) fun _ => hs _
  · exact .bind .rfl fun _ => .ite (fun _ => .bind .rfl fun _ => hs _) fun _ => .bind .rfl fun _ => .bind .rfl fun _ => hs _

theorem EqTie_Context_QuoInteger (c : Ctx) (d : Cell) (x y : Src) :
    Context_QuoInteger c d x y = dropAux (quoIntegerP c d x y) := by
  unfold Context_QuoInteger quoIntegerP
  simp only [EqTie_Context_quoSpecials, EqTie_upscale, EqTie_Decimal_NumDigits, numDigitsP, EqTie_Decimal_Set,
    GenTieImp_Context_goError, dropAux_bind, bind_assoc, pure_bind,
    decimalNaN, decNaN, Cond.empty_or, decide_eq_true_eq]
  refine bindc fun sp => ?_
  rcases sp with _ | r
  · simp only [specialsRes, Bool.false_eq_true, if_false, dropAux_bind]
    refine bindc fun _ => bindc fun _ => bindc fun u => ?_
    rcases u with _ | ⟨ra, rb, s⟩
    · rfl
    · simp only [upscaleRes, EqTie_derefB_bptrOf, bne_self_eq_false, Bool.false_eq_true, if_false, ite_bind, bind_assoc,
        pure_bind, dropAux_bind, dropAux_ite, dropAux_pure, dropAux_retFlags, goError_noFlags]
  · rfl

theorem GenTieImp_Context_QuoInteger (c : Ctx) (d : Cell) (x y : Src) (h : Heap) :
    run (Context_QuoInteger c d x y) h = run (dropAux (quoIntegerP c d x y)) h :=
  RunEq.of_eq (EqTie_Context_QuoInteger ..) h

theorem EqTie_Context_Rem (c : Ctx) (d : Cell) (x y : Src) : Context_Rem c d x y = dropAux (remP c d x y) := by
  unfold Context_Rem remP
  simp only [EqTie_Context_shouldSetAsNaN, EqTie_Context_setAsNaN, EqTie_Context_round, EqTie_upscale,
    EqTie_Decimal_IsZero, EqTie_Decimal_Set,
    GenTieImp_Context_goError, dropAux_bind, dropAux_ite, dropAux_pure, dropAux_retFlags, bind_assoc, pure_bind,
    decimalNaN, decNaN, Cond.empty_or, decide_eq_true_eq, ite_pure]
  refine bindc fun _ => itec (fun _ => rfl) fun _ => bindc fun _ => itec (fun _ => rfl) fun _ => bindc fun _ =>
    itec (fun _ => rfl) fun _ => bindc fun _ => itec (fun _ => rfl) fun _ => bindc fun u => ?_
  rcases u with _ | ⟨ra, rb, s⟩
  · rfl
  · simp only [upscaleRes, EqTie_derefB_bptrOf, bne_self_eq_false, Bool.false_eq_true, if_false, dropAux_bind,
      dropAux_ite, dropAux_retFlags]

theorem GenTieImp_Context_Rem (c : Ctx) (d : Cell) (x y : Src) (h : Heap) :
    run (Context_Rem c d x y) h = run (dropAux (remP c d x y)) h :=
  RunEq.of_eq (EqTie_Context_Rem ..) h

/-- before `ShouldAddOne(&d.Coeff, d.Negative, half)` Go reads `d.Negative`, then `d.Coeff`; `quoP` reads them in the
other order -/
theorem RunTie_Context_Quo (c : Ctx) (d : Cell) (x y : Src) : RunEq (Context_Quo c d x y) (dropAux (quoP c d x y)) := by
  unfold Context_Quo quoP
  rw [EqTie_Context_quoSpecials, bind_assoc, dropAux_bind]
  refine quoSpecialsP_bind_runEq c d x y true (fun r => .rfl) fun hp => ?_
  simp only [pure_bind, specialsRes, Bool.false_eq_true, if_false, EqTie_Decimal_IsZero, dropAux_bind, dropAux_ite]
  refine .bind .rfl fun xn => .bind .rfl fun yn => .bind .rfl fun xe => .bind .rfl fun ye => .bind .rfl fun xz =>
    .ite (fun _ => .of_eq ?_) fun _ => .bind .rfl fun xc => .bind .rfl fun yc => ?_
  · simp only [EqTie_Decimal_Set, EqTie_setExponent_none, GenTieImp_Context_goError, dropAux_retFlags, Cond.empty_or,
      decimalZero, decZero]
  · have hE : (((c.prec - 1 : Nat) : Int)) = (c.prec : Int) - 1 := by omega
    simp only [ite_pure, pure_bind, bind_assoc, quoK, usub, hE, cmpNat_lt_zero, ite_neg_ite_pos, decide_eq_true_eq,
      apply_ite Prod.fst, apply_ite Prod.snd, show Gen.bigTen = 10 from rfl, show Gen.bigTwo = 2 from rfl, show Gen.bigOne = 1 from rfl,
      natSign_ne_zero, GenTieImp_roundAddOne, GenTieImp_Context_goError, quoTailP, dropAux_bind, dropAux_retFlags,
      Nat.mul_comm _ 2, Cond.empty_or, numDigitsP]
    refine .bind .rfl fun _ => .bind .rfl fun _ => .bind .rfl fun _ => .bind .rfl fun nd => .ite_bind (fun _ => ?_)
      fun _ => .of_eq ?_
    · rw [bind_assoc]
      refine .ite_bind (fun _ => ?_) fun _ => .of_eq ?_
      · simp only [bind_assoc, pure_bind]
        refine .trans (.rdNeg_rdCoeff _ _ _) (.bind .rfl fun dc => .bind .rfl fun dn =>
          .of_eq (itec_bind (fun _ => ?_) fun _ => ?_))
        · simp only [bind_assoc, pure_bind, EqTie_setExponent_none]
        · simp only [pure_bind, EqTie_setExponent_some]
      · simp only [bind_assoc, pure_bind, EqTie_setExponent_none, Cond.empty_or]
    · simp only [pure_bind, EqTie_setExponent_some, Cond.empty_or]

theorem GenTieImp_Context_Quo (c : Ctx) (d : Cell) (x y : Src) (h : Heap) :
    run (Context_Quo c d x y) h = run (dropAux (quoP c d x y)) h :=
  RunTie_Context_Quo c d x y h

theorem GenTieImp_Condition_Overflow (r : Cond) : Condition_Overflow r = r.overflow := by
  unfold Condition_Overflow; exact cond_and_ne_overflow r

theorem GenTieImp_Condition_Underflow (r : Cond) : Condition_Underflow r = r.underflow := by
  unfold Condition_Underflow; exact cond_and_ne_underflow r

/-- `quantizeCoreP` reads `d.Coeff`, then `d.Negative` before `ShouldAddOne(&d.Coeff, d.Negative, -1)`; Go the other way
round -/
theorem RunTie_Context_quantize (c : Ctx) (d : Cell) (v : Src) (exp : Int) :
    RunEq (Context_quantize c d v exp) (quantizeCoreP c d v exp) := by
  unfold Context_quantize quantizeCoreP
  dsimp only [narrow32, toU32]
  delta MinExponent
  simp only [EqTie_Decimal_Set, EqTie_Decimal_IsZero, EqTie_Decimal_NumDigits, numDigitsP, EqTie_Rounder_Round,
    bind_assoc, pure_bind, decide_eq_true_eq, show Int.natAbs 0 = 0 from rfl, show Int.natAbs 1 = 1 from rfl, ite_pure,
    show Gen.bigTen = 10 from rfl, bind_pure_unit, bind_pure]
  refine .bind .rfl fun ve => .bind .rfl fun _ => .ite (fun _ => .rfl) fun _ => .ite_bind (fun _ => ?_) fun _ => .rfl
  rw [bind_assoc]
  refine .bind .rfl fun dc => .ite_bind (fun _ => ?_) fun _ => .of_eq ?_
  · rw [bind_assoc]
    refine .bind .rfl fun z => .ite_bind (fun _ => ?_) fun _ => .of_eq (pure_bind _ _)
    simp only [bind_assoc, pure_bind]
    exact .bind .rfl fun _ => .rdNeg_rdCoeff _ _ _
  · -- `nc.MaxExponent = c.MaxExponent - exp`, clamped by the three-way `if` of Go
    have hnc : ∀ P : Nat,
        (if c.emax - exp > 100000 then ({ c with prec := P, emin := -100000, emax := 100000 } : Ctx)
         else if c.emax - exp < -100000 then { c with prec := P, emin := -100000, emax := -100000 }
         else { c with prec := P, emin := -100000, emax := c.emax - exp }) =
        { c with prec := P, emin := -100000, emax := frameEmax c.emax exp } := by
      intro P
      unfold frameEmax MaxExponent MinExponent
      simp only [apply_ite (fun e : Int => ({ c with prec := P, emin := -100000, emax := e } : Ctx))]
    simp only [hnc, bind_assoc, pure_bind]

theorem GenTieImp_Context_quantize (c : Ctx) (d : Cell) (v : Src) (exp : Int) (h : Heap) :
    run (Context_quantize c d v exp) h = run (quantizeCoreP c d v exp) h :=
  RunTie_Context_quantize c d v exp h

theorem RunTie_Context_Quantize (c : Ctx) (d : Cell) (x : Src) (exp : Int) :
    RunEq (Context_Quantize c d x exp) (dropAux (quantizeP c d x exp)) := by
  unfold Context_Quantize quantizeP
  simp only [dropAux_bind, dropAux_ite, dropAux_pure, dropAux_retFlags, EqTie_Context_shouldSetAsNaN,
    EqTie_Context_setAsNaN, EqTie_Context_round, GenTieImp_Context_goError, GenTieImp_Context_etiny, EqTie_Decimal_Set,
    EqTie_Decimal_NumDigits, numDigitsP, GenTieImp_Condition_Overflow, GenTieImp_Condition_Underflow, bind_assoc,
    pure_bind, ite_bind, decimalNaN, decNaN]
  exact .bind .rfl fun _ => .ite (fun _ => .rfl) fun _ => .bind .rfl fun _ => .ite (fun _ => .rfl) fun _ =>
    .bind (RunTie_Context_quantize c d x exp) fun _ => .rfl

theorem GenTieImp_Context_Quantize (c : Ctx) (d : Cell) (x : Src) (exp : Int) (h : Heap) :
    run (Context_Quantize c d x exp) h = run (dropAux (quantizeP c d x exp)) h :=
  RunTie_Context_Quantize c d x exp h

theorem EqTie_Decimal_Cmp (d x : Src) : Decimal_Cmp d x = cmpP d x := by
  unfold Decimal_Cmp cmpP
  simp only [EqTie_Decimal_Sign, EqTie_Decimal_NumDigits, numDigitsP, bind_assoc, pure_bind, ite_pure, decide_eq_true_eq,
    apply_ite Prod.fst, apply_ite Prod.snd, ite_bind]

theorem GenTieImp_Decimal_Cmp (d x : Src) (h : Heap) : run (Decimal_Cmp d x) h = run (cmpP d x) h :=
  RunEq.of_eq (EqTie_Decimal_Cmp ..) h

theorem EqTie_Context_Cmp (c : Ctx) (d : Cell) (x y : Src) : Context_Cmp c d x y = dropAux (cmpOpP c d x y) := by
  unfold Context_Cmp cmpOpP
  simp only [dropAux_bind, dropAux_ite, dropAux_pure, EqTie_Context_shouldSetAsNaN, EqTie_Context_setAsNaN,
    EqTie_Decimal_Cmp, EqTie_Decimal_SetInt64]

theorem GenTieImp_Context_Cmp (c : Ctx) (d : Cell) (x y : Src) (h : Heap) :
    run (Context_Cmp c d x y) h = run (dropAux (cmpOpP c d x y)) h :=
  RunEq.of_eq (EqTie_Context_Cmp ..) h

theorem EqTie_Decimal_Modf (d : Src) (integ frac : Option Cell) : Decimal_Modf d integ frac = modfP d integ frac := by
  unfold Decimal_Modf modfP
  cases integ <;> cases frac <;>
    simp only [EqTie_Decimal_Set, EqTie_Decimal_NumDigits, numDigitsP, bind_assoc, pure_bind, bind_pure_unit,
      decide_eq_true_eq, show Int.natAbs 0 = 0 from rfl, reduceCtorEq, and_self, and_false, false_and, if_true, if_false]

theorem GenTieImp_Decimal_Modf (d : Src) (integ frac : Option Cell) (h : Heap) :
    run (Decimal_Modf d integ frac) h = run (modfP d integ frac) h :=
  RunEq.of_eq (EqTie_Decimal_Modf ..) h

theorem RunTie_Context_toIntegral (c : Ctx) (d : Cell) (x : Src) :
    RunEq (Context_toIntegral c d x) (quantizeCoreP c d x 0) := by
  unfold Context_toIntegral
  rw [bind_pure]
  exact RunTie_Context_quantize c d x 0

theorem GenTieImp_Context_toIntegral (c : Ctx) (d : Cell) (x : Src) (h : Heap) :
    run (Context_toIntegral c d x) h = run (quantizeCoreP c d x 0) h :=
  RunTie_Context_toIntegral c d x h

theorem EqTie_Context_toIntegralSpecials (c : Ctx) (d : Cell) (x : Src) :
    Context_toIntegralSpecials c d x = toIntegralSpecialsP c d x >>= fun o => pure (specialsRes o) := by
  unfold Context_toIntegralSpecials toIntegralSpecialsP
  simp only [EqTie_Context_shouldSetAsNaN, EqTie_Context_setAsNaN, EqTie_Decimal_Set, bind_assoc, pure_bind, ite_bind,
    specialsRes]

theorem GenTieImp_Context_toIntegralSpecials (c : Ctx) (d : Cell) (x : Src) (h : Heap) :
    run (Context_toIntegralSpecials c d x) h =
      run (toIntegralSpecialsP c d x >>= fun o => pure (specialsRes o)) h :=
  RunEq.of_eq (EqTie_Context_toIntegralSpecials ..) h

/-- a method that begins `if set, res, err := c.toIntegralSpecials(d, x); set { return res, err }`: only what follows
is left to tie -/
theorem toIntegralSpecials_bind_runEq (c : Ctx) (d : Cell) (x : Src) {g : Prog (Cond × ErrKind)} {p : Prog Res}
    (hn : RunEq g (dropAux p)) :
    RunEq (Context_toIntegralSpecials c d x >>= fun t => if t.1 then pure (t.2.1, t.2.2) else g)
      (dropAux (toIntegralSpecialsP c d x >>= fun sp => match sp with
        | some r => pure (r.1, r.2, 0)
        | none => p)) := by
  rw [EqTie_Context_toIntegralSpecials, bind_assoc, dropAux_bind]
  refine .bind .rfl fun sp => ?_
  rcases sp with _ | r
  · exact hn
  · exact .rfl

theorem RunTie_Context_RoundToIntegralValue (c : Ctx) (d : Cell) (x : Src) :
    RunEq (Context_RoundToIntegralValue c d x) (dropAux (rtivP c d x)) := by
  unfold Context_RoundToIntegralValue rtivP
  refine toIntegralSpecials_bind_runEq c d x ?_
  rw [dropAux_bind]
  refine .bind (RunTie_Context_toIntegral c d x) fun res => .of_eq ?_
  simp only [GenTieImp_Context_goError, cond_clear_inexact_rounded, dropAux_retFlags]

theorem GenTieImp_Context_RoundToIntegralValue (c : Ctx) (d : Cell) (x : Src) (h : Heap) :
    run (Context_RoundToIntegralValue c d x) h = run (dropAux (rtivP c d x)) h :=
  RunTie_Context_RoundToIntegralValue c d x h

theorem RunTie_Context_RoundToIntegralExact (c : Ctx) (d : Cell) (x : Src) :
    RunEq (Context_RoundToIntegralExact c d x) (dropAux (rtieP c d x)) := by
  unfold Context_RoundToIntegralExact rtieP
  refine toIntegralSpecials_bind_runEq c d x ?_
  rw [dropAux_bind]
  refine .bind (RunTie_Context_toIntegral c d x) fun res => .of_eq ?_
  simp only [GenTieImp_Context_goError, dropAux_retFlags]

theorem GenTieImp_Context_RoundToIntegralExact (c : Ctx) (d : Cell) (x : Src) (h : Heap) :
    run (Context_RoundToIntegralExact c d x) h = run (dropAux (rtieP c d x)) h :=
  RunTie_Context_RoundToIntegralExact c d x h

/-- `frac.Set(x)` into a local: the four fields are read in order (as an equation of programs, with `snapP`:
`EqTie_Decimal_Set_loc0` in `Props/GenTieImpTrans`) -/
theorem GenTieImp_Decimal_Set_loc0 (d0 : Dec) (x : Src) (h : Heap) :
    run (Decimal_Set_loc0 d0 x) h = (x.val h, h) := by
  unfold Decimal_Set_loc0 Decimal_setSlow_loc0
  simp only [Bool.false_eq_true, if_false, bind_assoc, pure_bind, prog_run]

/-- `d.Modf(integ, &frac)` with `frac` a local (`Context.Ceil` / `Floor`) -/
theorem EqTie_Decimal_Modf_loc2 (d : Src) (i : Cell) (f0 : Dec) :
    Decimal_Modf_loc2 d (some i) f0 = modfLocFrac d i := by
  unfold Decimal_Modf_loc2 modfLocFrac Decimal_Set_loc0 Decimal_setSlow_loc0
  simp only [EqTie_Decimal_Set, EqTie_Decimal_NumDigits, numDigitsP, bind_assoc, pure_bind, decide_eq_true_eq,
    show Int.natAbs 0 = 0 from rfl, Bool.false_eq_true, if_false]

theorem GenTieImp_Decimal_Modf_loc2 (d : Src) (i : Cell) (f0 : Dec) (h : Heap) :
    run (Decimal_Modf_loc2 d (some i) f0) h = run (modfLocFrac d i) h :=
  RunEq.of_eq (EqTie_Decimal_Modf_loc2 ..) h

theorem decimalOne_eq : decimalOne = decOne := rfl

theorem RunTie_Context_Ceil (c : Ctx) (d : Cell) (x : Src) : RunEq (Context_Ceil c d x) (dropAux (ceilP c d x)) := by
  unfold Context_Ceil ceilP
  refine toIntegralSpecials_bind_runEq c d x ?_
  simp only [EqTie_Decimal_Modf_loc2, dropAux_bind, dropAux_ite, decide_eq_true_eq, bind_pure_pair]
  exact .bind .rfl fun frac => .ite (fun _ => RunTie_Context_Add c d _ _) fun _ => .rfl

theorem GenTieImp_Context_Ceil (c : Ctx) (d : Cell) (x : Src) (h : Heap) :
    run (Context_Ceil c d x) h = run (dropAux (ceilP c d x)) h :=
  RunTie_Context_Ceil c d x h

theorem RunTie_Context_Floor (c : Ctx) (d : Cell) (x : Src) : RunEq (Context_Floor c d x) (dropAux (floorP c d x)) := by
  unfold Context_Floor floorP
  refine toIntegralSpecials_bind_runEq c d x ?_
  simp only [EqTie_Decimal_Modf_loc2, dropAux_bind, dropAux_ite, decide_eq_true_eq, bind_pure_pair]
  exact .bind .rfl fun frac => .ite (fun _ => RunTie_Context_Sub c d _ _) fun _ => .rfl

theorem GenTieImp_Context_Floor (c : Ctx) (d : Cell) (x : Src) (h : Heap) :
    run (Context_Floor c d x) h = run (dropAux (floorP c d x)) h :=
  RunTie_Context_Floor c d x h

/-! ## `Decimal.Reduce`, `Context.Reduce`.  The `for` loops run on fuel (`Gen/Imp.lean`); the programs agree with
the hand-written ones (which use the kernel `stripZeros`) as soon as the fuel exceeds the coefficient.  That is a
hypothesis on the heap, so these two ties are no `RunEq`: they are stated and proved at one heap, by running both sides
(the loops by `reduce_loops12`, `reduce_loop3` of `Lemmas/GenTieImpLemmas.lean`). -/

theorem run_Decimal_setBig (s : Src) (z : Nat) (h : Heap) : (run (Decimal_setBig s z) h).2 = h := by
  unfold Decimal_setBig
  simp only [prog_run, ite_pair_heap]

theorem GenTieImp_Decimal_Reduce (fuel : Nat) (d : Cell) (x : Src) (h : Heap) (hf : (x.val h).coeff < fuel) :
    run (Decimal_Reduce fuel d x) h = run (reduceDec d x) h := by
  unfold Decimal_Reduce reduceDec
  simp only [prog_run, GenTieImp_Decimal_Set, GenTieImp_Decimal_Sign, GenTieImp_Decimal_NumDigits,
    GenTieImp_Decimal_SetInt64, narrow32, ite_pair_heap, apply_ite Prod.snd, decide_eq_true_eq, run_Decimal_setBig]
  generalize hX : x.val h = X at hf
  by_cases h1 : (X.form != Form.finite) = true
  · simp only [h1, if_true]
  simp only [h1, Bool.false_eq_true, if_false]
  have hfin : X.form = Form.finite := by simpa using h1
  by_cases h2 : X.coeff = 0
  · have hs : X.sign = 0 := by simp [Dec.sign, hfin, h2]
    have hnd0 : ndigits 0 = 1 := by decide
    simp [hs, h2, hnd0]
  · have hs : (X.sign == 0) = false := by
      unfold Dec.sign; simp [hfin, h2]; cases X.neg <;> simp
    have hs' : ¬ (X.sign = 0) := by simpa using hs
    have hn : (X.sign == -1) = X.neg := by
      unfold Dec.sign; simp [hfin, h2]; cases X.neg <;> simp
    have hn' : decide (X.sign = -1) = X.neg := by
      unfold Dec.sign; simp [hfin, h2]
    simp only [hs, hs', hn, hn', Bool.false_eq_true, if_false]
    by_cases h3 : X.coeff < 18446744073709551616
    · obtain ⟨j1, m1, e1, m2, e2, e3⟩ := reduce_loops12 fuel X.coeff (h.set d X) h2 hf
      simp only [h3, if_true, Nat.mod_eq_of_lt h3, e1, e2]
      generalize (stripZeros X.coeff).2 = t at e3 ⊢
      generalize (stripZeros X.coeff).1 = sc
      have hm : (m1 : Int) + (m2 : Int) = (t : Int) := by omega
      rw [hm]
      by_cases ht : t = 0
      · simp [ht]
      · have ht' : ((t : Int) != 0) = true := by simp; omega
        have ht'' : (t != 0) = true := by simp [ht]
        simp only [ht', ht'', if_true, Heap.set_same, Heap.set_set]
        cases X.neg <;> rfl
    · obtain ⟨m, r', z', e1, e2⟩ := reduce_loop3 d fuel 0 0 (run (Decimal_setBig (Src.cell d) 0) (h.set d X)).1
        (h.set d X) (by simpa using h2) (by simpa using hf)
      simp only [h3, if_false, e1, e2, Heap.set_same, Heap.set_set]
      simp

/-- `Context.Reduce` returns `(int, Condition, error)`; the hand-written `reduceP` returns `(flags, error, count)` -/
theorem GenTieImp_Context_Reduce (fuel : Nat) (c : Ctx) (d : Cell) (x : Src) (h : Heap)
    (hf : (roundX c (x.val h) true).1.coeff < fuel) :
    run (Context_Reduce fuel c d x) h = run (reduceP c d x >>= fun r => pure (r.2.2, r.1, r.2.1)) h := by
  unfold Context_Reduce reduceP
  simp only [run_bind, run_ite, run_pure, GenTieImp_Context_shouldSetAsNaN, GenTieImp_Context_setAsNaN,
    GenTieImp_Context_round, GenTieImp_Context_goError, run_rdNeg, run_roundP]
  split
  · rfl
  · rw [GenTieImp_Decimal_Reduce fuel d (Src.cell d) _ (by simpa using hf)]

#print axioms Apd.Props.GenTieImp_Condition_Inexact
#print axioms Apd.Props.GenTieImp_Condition_Subnormal
#print axioms Apd.Props.GenTieImp_Condition_GoError
#print axioms Apd.Props.GenTieImp_Context_goError
#print axioms Apd.Props.GenTieImp_Decimal_NumDigits
#print axioms Apd.Props.GenTieImp_Decimal_Sign
#print axioms Apd.Props.GenTieImp_Decimal_IsZero
#print axioms Apd.Props.GenTieImp_Decimal_Set
#print axioms Apd.Props.GenTieImp_Decimal_Neg
#print axioms Apd.Props.GenTieImp_Decimal_Abs
#print axioms Apd.Props.GenTieImp_Decimal_SetInt64
#print axioms Apd.Props.GenTieImp_Decimal_setSlow
#print axioms Apd.Props.GenTieImp_Decimal_SetFinite
#print axioms Apd.Props.GenTieImp_Context_shouldSetAsNaN
#print axioms Apd.Props.GenTieImp_Context_setAsNaN
#print axioms Apd.Props.GenTieImp_roundAddOne
#print axioms Apd.Props.GenTieImp_Decimal_setExponent
#print axioms Apd.Props.GenTieImp_Decimal_setExponent_some
#print axioms Apd.Props.GenTieImp_Decimal_setExponent_none
#print axioms Apd.Props.GenTieImp_Rounder_Round
#print axioms Apd.Props.GenTieImp_Context_round
#print axioms Apd.Props.GenTieImp_Context_Round
#print axioms Apd.Props.GenTieImp_Context_Abs
#print axioms Apd.Props.GenTieImp_Context_Neg
#print axioms Apd.Props.GenTieImp_upscale
#print axioms Apd.Props.GenTieImp_Context_add
#print axioms Apd.Props.GenTieImp_Context_Add
#print axioms Apd.Props.GenTieImp_Context_Sub
#print axioms Apd.Props.GenTieImp_Context_Mul
#print axioms Apd.Props.GenTieImp_Context_etiny
#print axioms Apd.Props.GenTieImp_Context_quoSpecials
#print axioms Apd.Props.GenTieImp_Context_QuoInteger
#print axioms Apd.Props.GenTieImp_Context_Rem
#print axioms Apd.Props.GenTieImp_Context_Quo
#print axioms Apd.Props.GenTieImp_Condition_Overflow
#print axioms Apd.Props.GenTieImp_Condition_Underflow
#print axioms Apd.Props.GenTieImp_Context_quantize
#print axioms Apd.Props.GenTieImp_Context_Quantize
#print axioms Apd.Props.GenTieImp_Decimal_Cmp
#print axioms Apd.Props.GenTieImp_Context_Cmp
#print axioms Apd.Props.GenTieImp_Decimal_Modf
#print axioms Apd.Props.GenTieImp_Context_toIntegral
#print axioms Apd.Props.GenTieImp_Context_toIntegralSpecials
#print axioms Apd.Props.GenTieImp_Context_RoundToIntegralValue
#print axioms Apd.Props.GenTieImp_Context_RoundToIntegralExact
#print axioms Apd.Props.GenTieImp_Decimal_Set_loc0
#print axioms Apd.Props.GenTieImp_Decimal_Modf_loc2
#print axioms Apd.Props.GenTieImp_Context_Ceil
#print axioms Apd.Props.GenTieImp_Context_Floor
#print axioms Apd.Props.GenTieImp_Decimal_Reduce
#print axioms Apd.Props.GenTieImp_Context_Reduce

end Apd.Props
