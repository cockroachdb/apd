import ApdVerif.Gen.ImpTrans
import ApdVerif.Imp.TransOps
import ApdVerif.Props.GenTieImp
import ApdVerif.Lemmas.C05TransLemmas
/-!
# Regenerated tie, store level, composite functions: the programs of `ApdVerif/Gen/ImpTrans.lean` (written by
harness/cmd/xlate, group `imptrans`, from the Go source) behave exactly like the hand-written programs of
`Imp/TransOps.lean`: same result and same final heap, for every heap and every aliasing of the cells.

As in `Props/GenTieImp.lean`: equal programs where the accesses agree (`EqTie_*`), `RunEq` through the congruence rules
where a callee is only `RunEq` (`Quo`) or a loop runs on fuel.
-/
namespace Apd.Props
open Apd.Imp Apd.Gen.ImpG

theorem EqTie_Context_rootSpecials (c : Ctx) (d : Cell) (x : Src) (factor : Int) :
    Context_rootSpecials c d x factor = rootSpecialsP c d x factor >>= fun o => pure (specialsRes o) := by
  unfold Context_rootSpecials rootSpecialsP
  simp only [EqTie_Context_shouldSetAsNaN, EqTie_Context_setAsNaN, GenTieImp_Context_goError, EqTie_Decimal_Set,
    EqTie_Decimal_Sign, EqTie_Context_round, bind_assoc, pure_bind, ite_bind, decimalNaN, decNaN, specialsRes,
    tmod_two_eq_zero]

theorem GenTieImpT_Context_rootSpecials (c : Ctx) (d : Cell) (x : Src) (factor : Int) (h : Heap) :
    run (Context_rootSpecials c d x factor) h =
      run (rootSpecialsP c d x factor >>= fun o => pure (specialsRes o)) h :=
  RunEq.of_eq (EqTie_Context_rootSpecials ..) h

theorem EqTie_Context_logSpecials (c : Ctx) (d : Cell) (x : Src) :
    Context_logSpecials c d x = logSpecialsP c d x >>= fun o => pure (specialsRes o) := by
  unfold Context_logSpecials logSpecialsP
  simp only [EqTie_Context_shouldSetAsNaN, EqTie_Context_setAsNaN, GenTieImp_Context_goError, EqTie_Decimal_Set,
    EqTie_Decimal_Sign, EqTie_Decimal_Cmp, bind_assoc, pure_bind, ite_bind, decimalNaN, decNaN, decimalInfinity, decInf,
    show decimalZero = decZero from rfl, decimalOne_eq, specialsRes, decide_eq_true_eq]

theorem GenTieImpT_Context_logSpecials (c : Ctx) (d : Cell) (x : Src) (h : Heap) :
    run (Context_logSpecials c d x) h = run (logSpecialsP c d x >>= fun o => pure (specialsRes o)) h :=
  RunEq.of_eq (EqTie_Context_logSpecials ..) h

/-! ## `sqrtSettle` (its arguments `approx`, `x` are locals of `Sqrt` at the only call site: values) -/

theorem EqTie_sqrtSettle (nc : Ctx) (d : Cell) (approx x : Dec) :
    Apd.Gen.ImpG.sqrtSettle nc d approx x = sqrtSettleP nc d approx x := by
  unfold Apd.Gen.ImpG.sqrtSettle sqrtSettleP sqrtSettleT
  simp only [GenTieImp_Condition_Inexact, GenTieImp_Condition_Subnormal, EqTie_Decimal_Cmp, EqTie_Context_round,
    show Gen.bigTen = 10 from rfl, show Gen.bigFive = 5 from rfl, show Gen.bigOne = 1 from rfl, natCast_bne, ite_pure,
    pure_bind, bind_pure, decide_eq_true_eq, Int.ofNat_lt, gt_iff_lt]
  generalize ctxRound _ approx = dn
  split <;> rfl

theorem GenTieImpT_sqrtSettle (nc : Ctx) (d : Cell) (approx x : Dec) (h : Heap) :
    run (Apd.Gen.ImpG.sqrtSettle nc d approx x) h = run (sqrtSettleP nc d approx x) h :=
  RunEq.of_eq (EqTie_sqrtSettle ..) h

/-! ## `ErrDecimal`: the struct is a value `ED`; `Err()` stores the error it reports -/

theorem GenTieImpT_Condition_SystemOverflow (r : Cond) : Condition_SystemOverflow r = r.sysOverflow := by
  unfold Condition_SystemOverflow
  rw [cond_ne_zero_any]
  simp [HAnd.hAnd, AndOp.and, Cond.and, Cond.any, Cond.cSysOverflow]

theorem GenTieImpT_Condition_negateOverflowFlags (r : Cond) :
    Condition_negateOverflowFlags r = r.negateOverflowFlags := by
  unfold Condition_negateOverflowFlags Cond.negateOverflowFlags
  simp only [GenTieImp_Condition_Overflow, GenTieImpT_Condition_SystemOverflow]
  rcases r with ⟨b0, b1, b2, b3, b4, b5, b6, b7, b8, b9, b10, b11⟩
  cases b0 <;> cases b2 <;>
    simp [HAnd.hAnd, AndOp.and, Cond.and, HOr.hOr, OrOp.or, Cond.or, condNot, Cond.cOverflow, Cond.cUnderflow,
      Cond.cSubnormal, Cond.cSysOverflow, Cond.cSysUnderflow]

theorem GenTieImpT_MakeErrDecimal (c : Ctx) : MakeErrDecimal c = { c := c } := rfl

def edNrm (e : ED) : ED := { e with err := e.errOf }

theorem GenTieImpT_ErrDecimal_Err (e : ED) : ErrDecimal_Err e = (e.errOf, edNrm e) := by
  unfold ErrDecimal_Err ED.errOf edNrm ED.errOf
  by_cases h : e.err = ErrKind.none
  · simp [h, GenTieImp_Context_goError]
  · simp [h]

theorem edNrm_of_not_failed (e : ED) (h : e.failed = false) : edNrm e = e := by
  obtain ⟨h1, h2⟩ := (ED.failed_false_iff e).1 h
  unfold edNrm ED.errOf
  cases e; simp_all

theorem errOf_bne_none (e : ED) : (e.errOf != ErrKind.none) = e.failed := by
  unfold ED.errOf ED.failed
  by_cases h : e.err = ErrKind.none <;> simp [h]

theorem GenTieImpT_ErrDecimal_update (e : ED) (res : Cond) (err : ErrKind) :
    ErrDecimal_update e res err = { e with fl := e.fl ||| res, err := err } := rfl

/-- `ed.Op(d, …)` with a heap destination, for any method `g` tied to a hand-written `p`: `edStepCellP`, except that a
failed `ErrDecimal` stores its error -/
theorem edWrapper_tie (e : ED) (g : Ctx → Prog (Cond × ErrKind)) (p : Ctx → Prog Res)
    (hg : ∀ cc, RunEq (g cc) (dropAux (p cc))) :
    RunEq (do
      let t_1 := ErrDecimal_Err e
      let e : ED := t_1.2
      if (t_1.1 != ErrKind.none) then pure e
      else do
        let t_2 ← g e.c
        let t_3 := ErrDecimal_update e t_2.1 t_2.2
        let e : ED := t_3
        pure e)
      (if e.failed then pure (edNrm e) else edStepCellP e p) := by
  unfold edStepCellP
  simp only [GenTieImpT_ErrDecimal_Err, errOf_bne_none, GenTieImpT_ErrDecimal_update]
  refine .ite (fun _ => .rfl) fun hf => ?_
  have hf' : e.failed = false := by simpa using hf
  simp only [hf', edNrm_of_not_failed e hf', Bool.false_eq_true, if_false]
  exact .trans (.bind (hg e.c) fun _ => .rfl) (.of_eq (bind_assoc _ _ _))

theorem RunTie_ErrDecimal_Mul (e : ED) (d : Cell) (x y : Src) :
    RunEq (ErrDecimal_Mul e d x y) (if e.failed then pure (edNrm e) else edStepCellP e fun cc => mulP cc d x y) :=
  edWrapper_tie e (fun cc => Context_Mul cc d x y) _ fun cc => .of_eq (EqTie_Context_Mul cc d x y)

theorem GenTieImpT_ErrDecimal_Mul (e : ED) (d : Cell) (x y : Src) (h : Heap) :
    run (ErrDecimal_Mul e d x y) h =
      if e.failed then (edNrm e, h) else run (edStepCellP e (fun cc => mulP cc d x y)) h :=
  (RunTie_ErrDecimal_Mul e d x y h).trans (run_ite _ _ _ _)

theorem RunTie_ErrDecimal_Quo (e : ED) (d : Cell) (x y : Src) :
    RunEq (ErrDecimal_Quo e d x y) (if e.failed then pure (edNrm e) else edStepCellP e fun cc => quoP cc d x y) :=
  edWrapper_tie e (fun cc => Context_Quo cc d x y) _ fun cc => RunTie_Context_Quo cc d x y

theorem GenTieImpT_ErrDecimal_Quo (e : ED) (d : Cell) (x y : Src) (h : Heap) :
    run (ErrDecimal_Quo e d x y) h =
      if e.failed then (edNrm e, h) else run (edStepCellP e (fun cc => quoP cc d x y)) h :=
  (RunTie_ErrDecimal_Quo e d x y h).trans (run_ite _ _ _ _)

theorem GenTieImpT_ErrDecimal_Abs (e : ED) (d : Cell) (x : Src) (h : Heap) :
    run (ErrDecimal_Abs e d x) h =
      if e.failed then (edNrm e, h) else run (edStepCellP e (fun cc => absP cc d x)) h :=
  (edWrapper_tie e (fun cc => Context_Abs cc d x) _ (fun cc => .of_eq (EqTie_Context_Abs cc d x)) h).trans
    (run_ite _ _ _ _)

/-! ## `integerPower` (the loop runs on fuel; the hand-written loop has fuel `log2 |y| + 2`) -/

theorem edNrm_fl (e : ED) : (edNrm e).fl = e.fl := rfl

/-- the two loops followed by continuations that agree on the two ways the loops end (an `ErrDecimal` that has failed:
the generated loop returns early; one that has not), for every fuel of either side that covers the bits of `b` -/
theorem intPow_loop {β : Type} (neg : Bool) (d : Cell) (Kg : Sum (Cond × ErrKind) (Nat × ED × Dec × Bool) → Prog β)
    (Kh : ED → Prog β)
    (hfail : ∀ q : ED, q.failed = true →
      RunEq (Kg (.inl ((if neg then q.fl.negateOverflowFlags else q.fl), q.errOf))) (Kh q))
    (hok : ∀ (q : ED) (b : Nat) (n : Dec), q.failed = false → RunEq (Kg (.inr (b, q, n, false))) (Kh q)) :
    ∀ (f g b : Nat) (e : ED) (n : Dec), b < 2 ^ f → f + 1 ≤ g → e.failed = false →
    RunEq (Context_integerPower_loop1 neg d g b e n false >>= Kg) (intPowLoopP (f + 1) e b d n >>= Kh) := by
  intro f
  induction f with
  | zero =>
    intro g b e n hb hg he
    obtain ⟨g', rfl⟩ : ∃ g', g = g' + 1 := ⟨g - 1, by omega⟩
    have hb0 : b = 0 := by omega
    subst hb0
    simpa [Context_integerPower_loop1, intPowLoopP, bigSign] using hok e 0 n he
  | succ f ih =>
    intro g b e n hb hg he
    obtain ⟨g', rfl⟩ : ∃ g', g = g' + 1 := ⟨g - 1, by omega⟩
    rw [Context_integerPower_loop1, intPowLoopP]
    by_cases hb0 : b = 0
    · subst hb0
      simpa [bigSign] using hok e 0 n he
    · have hpos : (b / 2 > 0) = ((b / 2 != 0) = true) := by simp [Nat.pos_iff_ne_zero]
      simp only [bigSign_false_pos, bigRshMag, Bool.false_eq_true, if_false, Nat.pow_one, ite_pure, bind_assoc, pure_bind,
        GenTieImpT_ErrDecimal_Err, errOf_bne_none, GenTieImpT_Condition_negateOverflowFlags, edNrm_fl, hb0, hpos,
        bne_iff_ne, ne_eq, not_false_eq_true, if_true, beq_iff_eq, bind_pure]
      refine .bind (.ite (fun _ => ?_) fun _ => .rfl) fun e1 => ?_
      · have := RunTie_ErrDecimal_Mul e d (Src.cell d) (Src.const n)
        rwa [he] at this
      generalize (if ¬ b / 2 = 0 then e1.step n (fun cc => mulOp cc n n) else (e1, n)) = r2
      rw [Apd.Imp.ite_bind, Apd.Imp.ite_bind]
      refine .ite (fun hf => ?_) fun hf => ?_
      · have := hfail r2.1 hf
        cases neg <;> exact this
      · have hf' : r2.1.failed = false := by simpa using hf
        rw [edNrm_of_not_failed _ hf']
        exact ih g' (b / 2) r2.1 r2.2 (by rw [Nat.pow_succ] at hb; omega) (by omega) hf'

theorem EqTie_Decimal_Set_loc0 (d0 : Dec) (x : Src) : Decimal_Set_loc0 d0 x = snapP x := by
  unfold Decimal_Set_loc0 Decimal_setSlow_loc0 snapP
  simp only [Bool.false_eq_true, if_false, bind_assoc, pure_bind]

theorem RunTie_Context_integerPower (fuel : Nat) (c : Ctx) (d : Cell) (x : Src) (y : Int)
    (hf : Nat.log2 y.natAbs + 2 ≤ fuel) : RunEq (Context_integerPower fuel c d x y) (integerPowerP c d x y) := by
  unfold Context_integerPower integerPowerP
  have hneg : (decide (bigSign (decide (y < 0)) y.natAbs < 0)) = decide (y < 0) := by
    unfold bigSign
    by_cases hy : y < 0
    · have : y.natAbs ≠ 0 := by omega
      simp [hy, this]
    · simp only [hy, decide_false]
      split <;> simp
  have he0 : ({ c := c } : ED).failed = false := by simp [ED.failed, goError_noFlags]
  have hsg : (if decide (y < 0) = true then false else decide (y < 0)) = false := by
    by_cases hy : y < 0 <;> simp [hy]
  simp only [hneg, ite_pure, pure_bind, EqTie_Decimal_Set, EqTie_Decimal_Set_loc0, GenTieImpT_MakeErrDecimal,
    decimalOne_eq, apply_ite Prod.fst, apply_ite Prod.snd, ite_self, hsg, bind_pure]
  refine .bind .rfl fun n => .bind .rfl fun _ => intPow_loop _ d _ _ (fun q hq => ?_) (fun q b n' hq => ?_)
    (Nat.log2 y.natAbs + 1) fuel _ _ n Nat.lt_log2_self (by omega) he0
  · simp only [hq, if_true]
    exact .rfl
  · have := RunTie_ErrDecimal_Quo q d (Src.const decOne) (Src.cell d)
    simp only [hq, Bool.false_eq_true, if_false] at this ⊢
    simp only [GenTieImpT_ErrDecimal_Err]
    exact .bind (.ite (fun _ => this) fun _ => .rfl) fun _ => .rfl

theorem GenTieImpT_Context_integerPower (fuel : Nat) (c : Ctx) (d : Cell) (x : Src) (y : Int) (h : Heap)
    (hf : Nat.log2 y.natAbs + 2 ≤ fuel) :
    run (Context_integerPower fuel c d x y) h = run (integerPowerP c d x y) h :=
  RunTie_Context_integerPower fuel c d x y hf h

/-! ## `Sqrt` (the Newton loop runs on fuel; the hand-written program uses the model's `sqrtLoop 64`) -/

theorem GenTieImpT_Decimal_SetFinite_loc0 (d0 : Dec) (v e : Int) (h : Heap) :
    run (Decimal_SetFinite_loc0 d0 v e) h =
      ({ form := .finite, neg := decide (v < 0), exp := e, coeff := v.natAbs }, h) := rfl

/-- one Newton step does not depend on the previous contents of `tmp` -/
theorem sqrt_step_indep (e : ED) (f approx cur1 cur2 : Dec) :
    let A := fun cur => e.step cur (fun c => quoOp c f approx)
    let B := fun cur => (A cur).1.step (A cur).2 (fun c => addOp c (A cur).2 approx false)
    let C := fun cur => (B cur).1.step approx (fun c => mulOp c (B cur).2 decHalf)
    C cur1 = C cur2 := by
  intro A B C
  simp only [C, B, A]
  unfold ED.step
  by_cases hf : e.failed = true
  · simp [hf]
  · simp [hf]

/-- the Newton loop makes no access: it returns `approx` and the `ErrDecimal` of the model's `sqrtLoop`, for every fuel
of either side that covers the doublings from `p` to `maxp` -/
theorem sqrt_loop (maxp : Nat) : ∀ (k g f' p : Nat) (approx : Dec) (ed : ED) (f : Dec) (nc : Ctx) (tmp : Dec),
    3 ≤ p → p ≤ maxp → maxp - 2 ≤ (p - 2) * 2 ^ k → k + 1 ≤ g → k + 1 ≤ f' → ed.c = nc →
    ∃ (q : Nat) (tmp' : Dec), Context_Sqrt_loop1 maxp g approx ed f nc p tmp =
      pure ((sqrtLoop f' ed f approx p maxp).2, (sqrtLoop f' ed f approx p maxp).1, f, { nc with prec := q }, maxp, tmp') := by
  intro k
  induction k with
  | zero =>
    intro g f' p approx ed f nc tmp h3 hle hk hg hf hc
    have hp : p = maxp := by simp at hk; omega
    obtain ⟨g', rfl⟩ : ∃ g', g = g' + 1 := ⟨g - 1, by omega⟩
    obtain ⟨f'', rfl⟩ : ∃ f'', f' = f'' + 1 := ⟨f' - 1, by omega⟩
    exact ⟨nc.prec, tmp, by simp [Context_Sqrt_loop1, sqrtLoop, hp]⟩
  | succ k ih =>
    intro g f' p approx ed f nc tmp h3 hle hk hg hf hc
    obtain ⟨g', rfl⟩ : ∃ g', g = g' + 1 := ⟨g - 1, by omega⟩
    obtain ⟨f'', rfl⟩ : ∃ f'', f' = f'' + 1 := ⟨f' - 1, by omega⟩
    by_cases hp : p = maxp
    · exact ⟨nc.prec, tmp, by simp [Context_Sqrt_loop1, sqrtLoop, hp]⟩
    · have hp' : (p != maxp) = true := by simp [hp]
      have hp'' : (p == maxp) = false := by simp [hp]
      have hus : usub (2 * p) 2 = 2 * p - 2 := rfl
      obtain ⟨h31, hle1⟩ := SqrtD.nextP_mem h3 hle
      have hk1 := SqrtD.nextP_budget h3 (Nat.mul_comm _ _ ▸ hk)
      rw [Nat.mul_comm] at hk1
      generalize hp1 : (if 2 * p - 2 > maxp then maxp else 2 * p - 2) = p1
      rw [show SqrtD.nextP p maxp = p1 from hp1] at h31 hle1 hk1
      have hind := sqrt_step_indep { ed with c := { nc with prec := p1 } } f approx tmp {}
      simp only at hind
      rw [Context_Sqrt_loop1, sqrtLoop]
      simp only [hp', hp'', if_true, if_false, Bool.false_eq_true, hus, ite_pure, pure_bind, decide_eq_true_eq, hp1, hc,
        show decimalHalf = decHalf from rfl, hind]
      exact ih g' f'' p1 _ _ f { nc with prec := p1 } _ h31 hle1 hk1 (by omega) (by omega) (by simp only [ED.step_c])

theorem rootSpecialsP_none (c : Ctx) (d : Cell) (x : Src) (k : Int) (h h' : Heap)
    (hn : run (rootSpecialsP c d x k) h = (none, h')) : h' = h := by
  rcases spRun_rootSpecialsP c d x k h with ⟨_, hr⟩ | ⟨o, _, _, hr, _, _⟩
  · rw [hr] at hn; exact (Prod.mk.inj hn).2.symm
  · rw [hr] at hn; cases hn

def sqrtWorkp (c : Ctx) (nd : Nat) : Nat :=
  let w := c.prec + 1
  let w := if w < nd then nd else w
  if w < 7 then 7 else w

/-- `Sqrt` after the Newton loop: from `ed.Err()` on (`nc` is the working context, whatever its precision) -/
theorem EqTie_Context_Sqrt_k1 (approx : Dec) (c : Ctx) (d : Cell) (e : Int) (ed : ED) (err : ErrKind) (f : Dec)
    (q : Nat) (res : Cond) :
    Context_Sqrt_k1 approx c d e ed err f { c with prec := q, mode := .halfEven, emin := -100000, emax := 100000 } res =
      dropAux (if ed.failed then retErr {} ed.errOf else sqrtFinishP c d approx e f) := by
  unfold Context_Sqrt_k1 sqrtFinishP sqrtSettleIfP sqrtExactP andFiniteP
  dsimp only [narrow32]
  delta MaxExponent
  simp only [GenTieImpT_ErrDecimal_Err, errOf_bne_none, EqTie_Decimal_Set, EqTie_Decimal_Set_loc0, EqTie_Context_round,
    EqTie_sqrtSettle, GenTieImp_Condition_Inexact, GenTieImp_Context_goError, dropAux_ite, dropAux_bind, dropAux_retFlags,
    retErr, dropAux_pure, bind_assoc, pure_bind, ite_bind, cond_or_assoc]

theorem GenTieImpT_Context_Sqrt_k1 (approx : Dec) (c : Ctx) (d : Cell) (e : Int) (ed : ED) (err : ErrKind) (f : Dec)
    (q : Nat) (res : Cond) (h : Heap) :
    run (Context_Sqrt_k1 approx c d e ed err f
      { c with prec := q, mode := .halfEven, emin := -100000, emax := 100000 } res) h =
    run (dropAux (if ed.failed then retErr {} ed.errOf else sqrtFinishP c d approx e f)) h :=
  RunEq.of_eq (EqTie_Context_Sqrt_k1 ..) h

theorem GenTieImpT_Context_Sqrt (fuel : Nat) (c : Ctx) (d : Cell) (x : Src) (h : Heap)
    (hfuel : 64 ≤ fuel) (hw : sqrtWorkp c (ndigits (x.val h).coeff) + 5 ≤ 2 ^ 63) :
    run (Context_Sqrt fuel c d x) h = run (dropAux (sqrtP c d x)) h := by
  unfold Context_Sqrt sqrtP
  rw [EqTie_Context_rootSpecials, bind_assoc, dropAux_bind]
  refine run_bindc fun sp h' hs => ?_
  rcases sp with _ | r
  · -- not special: nothing has been written, so the digit count that `workp` is taken from is the one `hw` speaks of
    cases rootSpecialsP_none c d x 2 h h' hs
    simp only [pure_bind, specialsRes, Bool.false_eq_true, if_false, EqTie_Decimal_NumDigits, numDigitsP, bind_assoc,
      dropAux_bind]
    refine run_bindc fun cf h' hcf => ?_
    rw [run_rdCoeff] at hcf
    cases hcf
    generalize ndigits (x.val h).coeff = ndw at hw
    refine congrArg (fun p => run p h) ?_
    unfold sqrtWorkp at hw
    dsimp only [narrow32] at hw ⊢
    rw [show toU32 (ndw : Int) = ndw from Int.toNat_natCast _]
    simp only [decide_eq_true_eq, ite_pure, pure_bind, EqTie_Decimal_Set_loc0,
      show Decimal_SetFinite_loc0 {} 819 (-3) = pure { exp := -3, coeff := 819 } from rfl,
      show Decimal_SetFinite_loc0 {} 259 (-2) = pure { exp := -2, coeff := 259 } from rfl, GenTieImpT_MakeErrDecimal]
    generalize hW : (if (if c.prec + 1 < ndw then ndw else c.prec + 1) < 7 then 7
      else if c.prec + 1 < ndw then ndw else c.prec + 1) = W at hw
    refine bindc fun f0 => bindc fun cf => bindc fun xe => ?_
    unfold sqrtNewton
    simp only [hW]
    delta MaxExponent MinExponent
    -- the two parities differ in the scaled operand `F` and in constants that the loop lemma does not look at
    by_cases hev : ((↑(ndigits cf) + xe : Int).tmod 2 == 0) = true <;>
      simp only [hev, if_true, if_false, Bool.false_eq_true]
    all_goals
      generalize (Dec.mk f0.form f0.neg _ f0.coeff) = F
      generalize hA : (ED.step _ _ _) = A
      have hc2 : A.1.c = { c with prec := W, mode := .halfEven, emin := -100000, emax := 100000 } := by
        rw [← hA, ED.step_c, ED.step_c]
      obtain ⟨q, tmp', e1⟩ := sqrt_loop (W + 5) 63 fuel 64 3 A.2 A.1 F
        { c with prec := W, mode := .halfEven, emin := -100000, emax := 100000 } {}
        (by omega) (by omega) (by omega) (by omega) (by omega) hc2
      rw [e1, pure_bind]
      exact EqTie_Context_Sqrt_k1 _ c d _ _ _ F q _
  · rfl

/-! ## `loop` (loop.go): the struct is a value `Loop`; the model's `LoopSt` keeps its fields `i` and `prevZ` -/

theorem GenTieImpT_Context_newLoop (c : Ctx) (name : String) (arg : Src) (precision : Nat) (k : Int) (h : Heap) :
    run (Context_newLoop c name arg precision k) h =
      (({ c := c, arg := arg.val h, precision := (precision : Int),
          maxIterations := 10 + (k * (precision : Int)).toNat } : Loop), h) := by
  unfold Context_newLoop
  simp only [run_bind, GenTieImp_Decimal_Set_loc0, run_pure, narrow32, toU32]

/-- `loop.done(z)`: the verdict is the model's `loopDone` on `(l.i, l.prevZ)`; the context, the precision and the
iteration bound of the struct are unchanged, and on "continue" its `i` and `prevZ` are those of the model's new state -/
theorem GenTieImpT_loop_done (l : Loop) (z : Dec) (h : Heap) :
    ∃ l' : Loop, (run (loop_done l z) h).2 = h ∧ (run (loop_done l z) h).1.2.2 = l' ∧
      l'.c = l.c ∧ l'.precision = l.precision ∧ l'.maxIterations = l.maxIterations ∧
      match loopDone l.c l.precision l.maxIterations { i := l.i, prevZ := l.prevZ } z with
      | .done => (run (loop_done l z) h).1.1 = true ∧ (run (loop_done l z) h).1.2.1 = ErrKind.none
      | .error er => (run (loop_done l z) h).1.1 = false ∧ (run (loop_done l z) h).1.2.1 = er
      | .continue s => (run (loop_done l z) h).1.1 = false ∧ (run (loop_done l z) h).1.2.1 = ErrKind.none ∧
          l'.i = s.i ∧ l'.prevZ = s.prevZ := by
  refine ⟨_, ?_, rfl, ?_⟩
  · unfold loop_done
    simp only [run_bind, run_ite, run_pure, ite_pair_heap]
  · unfold loop_done loopDone
    simp only [run_bind, run_ite, run_pure, ite_pair_heap, apply_ite Prod.fst, apply_ite Prod.snd, narrow32, Gen.bigOne, decide_eq_true_eq]
    generalize addOp l.c l.prevZ z true = o
    by_cases h1 : (o.err != ErrKind.none) = true
    · simp [h1]
    · simp only [h1, Bool.false_eq_true, if_false]
      by_cases h2 : (o.d.sign == 0) = true
      · simp [h2]
      · simp only [h2, Bool.false_eq_true, if_false]
        by_cases h3 : o.d.sign < 0
        · simp only [h3, if_true]
          by_cases h4 : o.d.negD.cmp { exp := -l.precision + ↑(ndigits z.coeff) + z.exp, coeff := 1 } ≤ 0 <;>
            by_cases h5 : (l.i + 1 == l.maxIterations) = true <;> simp [h4, h5]
        · simp only [h3, if_false]
          by_cases h4 : o.d.cmp { exp := -l.precision + ↑(ndigits z.coeff) + z.exp, coeff := 1 } ≤ 0 <;>
            by_cases h5 : (l.i + 1 == l.maxIterations) = true <;> simp [h4, h5]

/-- a call whose destination is a Go local runs as `localize L p v`, and that run is determined by the runs of `p`
(`run_localize`): a tie between a generated and a hand-written program carries over to their localised forms.  No tie
in this file uses it: the functions that make such calls on heap operands (`Pow`, `Exp`, `Log10`) are not regenerated
(DESIGN §13.9). -/
theorem run_localize_congr {α : Type} (L : Cell) (p p' : Prog α) (v : Dec)
    (hpp : ∀ h, run p h = run p' h) (h : Heap) : run (localize L p v) h = run (localize L p' v) h := by
  rw [run_localize, run_localize, hpp]

#print axioms Apd.Props.GenTieImpT_Context_rootSpecials
#print axioms Apd.Props.GenTieImpT_Context_logSpecials
#print axioms Apd.Props.GenTieImpT_sqrtSettle
#print axioms Apd.Props.GenTieImpT_Condition_SystemOverflow
#print axioms Apd.Props.GenTieImpT_Condition_negateOverflowFlags
#print axioms Apd.Props.GenTieImpT_MakeErrDecimal
#print axioms Apd.Props.GenTieImpT_ErrDecimal_Err
#print axioms Apd.Props.GenTieImpT_ErrDecimal_update
#print axioms Apd.Props.GenTieImpT_ErrDecimal_Mul
#print axioms Apd.Props.GenTieImpT_ErrDecimal_Quo
#print axioms Apd.Props.GenTieImpT_ErrDecimal_Abs
#print axioms Apd.Props.GenTieImpT_Context_integerPower
#print axioms Apd.Props.GenTieImpT_Decimal_SetFinite_loc0
#print axioms Apd.Props.GenTieImpT_Context_Sqrt_k1
#print axioms Apd.Props.GenTieImpT_Context_Sqrt
#print axioms Apd.Props.GenTieImpT_Context_newLoop
#print axioms Apd.Props.GenTieImpT_loop_done

end Apd.Props
