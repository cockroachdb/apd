import ApdVerif.Spec.Agrees
import ApdVerif.Lemmas.QuoLemmas
import ApdVerif.Props.Rational
/-! # Quo agrees with the specification (scaled integer division, remainder-based rounding,
carry renormalisation, sticky digit in the subnormal range) -/
namespace Apd.Props
open Apd Apd.Oracle Apd.QuoL

open Apd.C20L in
theorem quo_value (P X Y : Nat) (hP : 1 ≤ P) (hY : 0 < Y) :
    ((qDividend P X Y : ℕ) : ℚ) / ((qDivisor X Y : ℕ) : ℚ) =
      (X : ℚ) / (Y : ℚ) * (10 : ℚ) ^ (qAdjCoeffs X Y + ((P : ℤ) - 1)) := by
  have hYq : (Y : ℚ) ≠ 0 := by exact_mod_cast hY.ne'
  have e0 : ((qDividend0 X Y : ℕ) : ℚ) / ((qDivisor X Y : ℕ) : ℚ) = (X : ℚ) / (Y : ℚ) * (10 : ℚ) ^ (-(qNdDiff X Y)) := by
    unfold qDividend0 qDivisor
    rcases lt_trichotomy (qNdDiff X Y) 0 with h | h | h
    · rw [if_pos h, if_neg (by omega), Nat.cast_mul, zpow_toNat _ (by omega)]; ring
    · rw [if_neg (by omega), if_neg (by omega), h]; simp
    · rw [if_neg (by omega), if_pos h, Nat.cast_mul, zpow_toNat _ (by omega), zpow_neg]
      have := (tp (qNdDiff X Y)).ne'
      field_simp
  have e1 : ((qDividend1 X Y : ℕ) : ℚ) / ((qDivisor X Y : ℕ) : ℚ) = (X : ℚ) / (Y : ℚ) * (10 : ℚ) ^ (qAdjCoeffs X Y) := by
    unfold qDividend1 qAdjCoeffs
    split
    · rw [Nat.cast_mul, mul_div_right_comm, e0, zpow_add₀ ten_ne, zpow_one]; push_cast; ring
    · exact e0
  unfold qDividend
  rw [Nat.cast_mul, mul_div_right_comm, e1, zpow_toNat _ (by omega), zpow_add₀ ten_ne, mul_assoc]

theorem C01_quo (c : Ctx) (hc : c.WF) (x y : Dec) (hx : x.form = .finite) (hy : y.form = .finite)
    (hy0 : y.coeff ≠ 0) (h : Delivered (quoOp c x y).err) :
    Agrees c (exactQuo x y) (quoOp c x y).d (quoOp c x y).fl := by
  have hP := hc.1
  have hp : c.prec ≠ 0 := by omega
  by_cases hx0 : x.coeff = 0
  · -- zero dividend: a zero with the ideal exponent, clamped into range
    rw [quoOp_zero c x y hx hy hy0 hp hx0] at h ⊢
    obtain ⟨z1, z2, z3, z4, z5⟩ := setExponent_zero c _ {} _ rfl rfl benign_empty (noSys_of_delivered _ _ h)
    exact agrees_zero c _ hx0 _ _ z1 z2 z3 z4 hP (z5 hP (by have := hc.2.1; have := hc.2.2.2.2; omega))
  · rw [quoOp_eq c x y hx hy hy0 hp hx0] at h ⊢
    have hX : 0 < x.coeff := Nat.pos_of_ne_zero hx0
    have hY : 0 < y.coeff := Nat.pos_of_ne_zero hy0
    obtain ⟨s1, hlo, hhi⟩ := quo_bounds c.prec x.coeff y.coeff hP hX hY
    have hN : 0 < qDividend c.prec x.coeff y.coeff :=
      Nat.lt_of_lt_of_le (Nat.mul_pos s1 (Nat.pow_pos (by decide))) hlo
    -- `Quo` rounds the fraction it divides, which is the same rational as the exact quotient
    refine RatSpec.agrees_congr (quo_core c hc _ _ _ _ _ s1 hlo hhi
      (RatSpec.adjRat_of_bounds _ _ c.prec hP s1 hlo hhi) (noSys_of_delivered _ _ h)) hX hY hN s1 rfl ?_
    unfold Exact.mag exactQuo
    simp only []
    rw [quo_value c.prec x.coeff y.coeff hP hY, mul_assoc, ← zpow_add₀ C20L.ten_ne]
    congr 2; ring

end Apd.Props

#print axioms Apd.Props.C01_quo
