import ApdVerif.Lemmas.C11SettleLemmas
/-!
# C11 — the settling step of Sqrt decides exactly

`Context.Sqrt` ends with the step Hull and Abrham prescribe (the repair of the double-rounding defect, finding F2,
commits ed94392, 11c3aad, b875535): the iterate is truncated to the rounding position, giving `t = m·10^q`, and
the square of the midpoint `t + 10^q/2` is compared with the operand — exactly, on the coefficients. The theorem below says
that this choice is the half-even rounding of the exact root *whenever `t` brackets the root from below
within one unit* (`t² ≤ x < (t + 10^q)²`) — a decidable condition on `t` and `x`. That the truncated iterate of
`Context.Sqrt` satisfies this bracket is not proved, and not needed: `SqrtI.iter_close` gives
`t - 10^q/2 < √x < t + 3·10^q/2`, which suffices for the same conclusion (`C11Q.Near_choice_of`), and that is the
way `C11Q.tail_core` goes. Both ways rest on one fact over `ℚ` (Lemmas/NearRoot.lean): `sqrtChoice` is
`C11Q.choice` of the coefficient of `t` and `x / 10^(2q)` (`sqrtChoice_rat`, with `Decimal.Cmp` read as the order
of the values), and so is the specification's coefficient, taken from the floor of the root
(`C11Q.specM_eq_choice`). The proof of `C11_sqrt_correct_partial` uses the lemmas of Lemmas/C11SettleLemmas.lean, not
the theorems `C11_settle_*` of this file.
-/
namespace Apd.Props
open Apd Apd.Oracle Apd.C11L Apd.C15L Apd.C11S

set_option linter.unusedVariables false in
/-- **the choice is the nearest multiple of `10^q` to `√x`, ties to even** — stated on squares exactly as
`C11_specSqrt_nearest` states it for the specification -/
theorem C11_settle_choice (t x : Dec) (hx : x.form = .finite) (hxn : x.neg = false) (hx0 : x.coeff ≠ 0)
    (ht : t.form = .finite) (htn : t.neg = false)
    (hlo : t.coeff * t.coeff * sqrtDen x t.exp ≤ sqrtNum x t.exp)
    (hhi : sqrtNum x t.exp < (t.coeff + 1) * (t.coeff + 1) * sqrtDen x t.exp) :
    let m := sqrtChoice t x
    let num := sqrtNum x t.exp
    let den := sqrtDen x t.exp
    (m = t.coeff ∨ m = t.coeff + 1) ∧
    ((2 * m - 1) * (2 * m - 1) * den ≤ 4 * num ∨ m = 0) ∧ 4 * num ≤ (2 * m + 1) * (2 * m + 1) * den ∧
    (4 * num = (2 * m + 1) * (2 * m + 1) * den → m % 2 = 0) ∧
    (m ≠ 0 → (2 * m - 1) * (2 * m - 1) * den = 4 * num → m % 2 = 0) := by
  intro m num den
  have hd := sqrtDen_pos x t.exp
  have hf := frame_rat x t.exp
  obtain ⟨f1, f2⟩ := C11Q.floor_frame hd hf t.coeff hlo hhi
  have hm : m = C11Q.choice t.coeff _ := sqrtChoice_rat t x hx hxn
  exact ⟨hm ▸ C11Q.choice_cases _ _, (C11Q.near_frame hd hf m).2 (hm ▸ C11Q.Near_choice_floor _ _ f1 f2)⟩

/-- `C11_settle_is_spec` without the hypotheses its proof does not read (`hx0`, `ht`, `htn`, `hinex`) -/
theorem C11_settle_is_spec' (c : Ctx) (t x : Dec) (hx : x.form = .finite) (hxn : x.neg = false)
    (hq : (specSqrt c x).q = t.exp) (hinf : (specSqrt c x).inf = false)
    (hlo : t.coeff * t.coeff * sqrtDen x t.exp ≤ sqrtNum x t.exp)
    (hhi : sqrtNum x t.exp < (t.coeff + 1) * (t.coeff + 1) * sqrtDen x t.exp) :
    (specSqrt c x).m = sqrtChoice t x := by
  obtain ⟨hm, hq', -⟩ := specSqrt_fields c x hinf
  rw [hq] at hq'
  rw [← hq'] at hm
  have hd := sqrtDen_pos x t.exp
  rw [hm.trans (C11Q.specM_eq_choice (isqrt (sqrtNum x t.exp / sqrtDen x t.exp)) (sqrtNum x t.exp)
      (sqrtDen x t.exp) hd),
    isqrt_eq _ _ ((Nat.le_div_iff_mul_le hd).mpr hlo) ((Nat.div_lt_iff_lt_mul hd).mpr hhi), frame_rat,
    sqrtChoice_rat t x hx hxn]

set_option linter.unusedVariables false in
/-- under the same bracket the choice is the specification's coefficient, when the specification rounds
at the same position `q = t.exp` and does not overflow -/
theorem C11_settle_is_spec (c : Ctx) (t x : Dec) (hx : x.form = .finite) (hxn : x.neg = false) (hx0 : x.coeff ≠ 0)
    (ht : t.form = .finite) (htn : t.neg = false)
    (hq : (specSqrt c x).q = t.exp) (hinf : (specSqrt c x).inf = false)
    (hlo : t.coeff * t.coeff * sqrtDen x t.exp ≤ sqrtNum x t.exp)
    (hhi : sqrtNum x t.exp < (t.coeff + 1) * (t.coeff + 1) * sqrtDen x t.exp)
    (hinex : (specSqrt c x).inexact = true) :
    (specSqrt c x).m = sqrtChoice t x := by
  exact C11_settle_is_spec' c t x hx hxn hq hinf hlo hhi

/-- the unconditional form: the renormalisation is applied only when the successor was chosen -/
theorem C11_settle_shape_all (nc : Ctx) (d approx x : Dec) :
    let dn := ctxRound { nc with mode := .down } approx
    let t := dn.1
    sqrtSettle nc d approx x = (d, {}) ∨
    (let m := sqrtChoice t x
     let t' : Dec := if m ≠ t.coeff ∧ ndigits m > nc.prec then { t with coeff := m / 10, exp := t.exp + 1 } else { t with coeff := m }
     sqrtSettle nc d approx x = ctxRound nc t') := by
  intro dn t
  rw [sqrtSettle_eq]
  simp only []
  split
  · exact Or.inl rfl
  · split
    · exact Or.inl rfl
    · right
      rw [settleT_eq]

/-- the shape of `sqrtSettle` for `prec ≠ 0` (false at 0: `C11_settle_shape_false`) -/
theorem C11_settle_shape_partial (nc : Ctx) (d approx x : Dec) (hp : nc.prec ≠ 0) :
    let dn := ctxRound { nc with mode := .down } approx
    let t := dn.1
    sqrtSettle nc d approx x = (d, {}) ∨
    (let m := sqrtChoice t x
     let t' : Dec := if ndigits m > nc.prec then { t with coeff := m / 10, exp := t.exp + 1 } else { t with coeff := m }
     sqrtSettle nc d approx x = ctxRound nc t') := by
  intro dn t
  rw [sqrtSettle_eq]
  simp only []
  split
  · exact Or.inl rfl
  · rename_i hg
    split
    · exact Or.inl rfl
    · right
      have hin : (ctxRound { nc with mode := .down } approx).2.inexact = true := by
        cases h : (ctxRound { nc with mode := .down } approx).2.inexact
        · exact absurd (by simp [h]) hg
        · rfl
      have hd : ndigits (ctxRound { nc with mode := .down } approx).1.coeff ≤ nc.prec :=
        roundDown_digits { nc with mode := .down } approx rfl (Nat.pos_of_ne_zero hp) hin
      rw [settleT_eq' nc _ x hd]

/- The shape without the hypothesis `nc.prec ≠ 0` (renormalise whenever `ndigits m > nc.prec`) is false at
precision 0.  Counterexample (checked below): `nc = {prec := 0, emin := -10, emax := 10}`, `approx = 123E-20`,
`x = 1E-30`, `d = 1`.  The truncation gives `t = 0E-9` (one digit, more than the precision 0, Subnormal and Inexact
set, so the guard lets it through); the midpoint square `25E-20` exceeds `x`, so the choice is `t.coeff = 0` and
`sqrtSettle` rounds `t` itself, returning `0E-9`; the renormalised `t'` would be `0E-8` because
`ndigits 0 = 1 > 0`, and `ctxRound nc 0E-8 = 0E-8 ≠ 0E-9`.  For `nc.prec ≠ 0` the truncation never delivers
more than `prec` digits (`roundDown_digits`): `C11_settle_shape_partial`; `C11_settle_shape_all` is the form
valid at every precision. -/

section Counterexample
private def ceNc : Ctx := { prec := 0, emin := -10, emax := 10 }
private def ceApprox : Dec := { coeff := 123, exp := -20 }
private def ceX : Dec := { coeff := 1, exp := -30 }
private def ceD : Dec := { coeff := 1 }
private def ceT : Dec := (ctxRound { ceNc with mode := .down } ceApprox).1

example : ceT = { coeff := 0, exp := -9 } := by decide
example : sqrtChoice ceT ceX = 0 := by decide
example : sqrtSettle ceNc ceD ceApprox ceX = ({ coeff := 0, exp := -9 }, {}) := by decide
example : sqrtSettle ceNc ceD ceApprox ceX ≠ (ceD, {}) := by decide
example :
    (let m := sqrtChoice ceT ceX
     let t' : Dec := if ndigits m > ceNc.prec then { ceT with coeff := m / 10, exp := ceT.exp + 1 } else { ceT with coeff := m }
     ctxRound ceNc t') = ({ coeff := 0, exp := -8 }, {}) := by decide

/-- the shape without a hypothesis on the precision is refutable -/
theorem C11_settle_shape_false :
    ¬ ∀ (nc : Ctx) (d approx x : Dec),
      let dn := ctxRound { nc with mode := .down } approx
      let t := dn.1
      sqrtSettle nc d approx x = (d, {}) ∨
      (let m := sqrtChoice t x
       let t' : Dec := if ndigits m > nc.prec then { t with coeff := m / 10, exp := t.exp + 1 } else { t with coeff := m }
       sqrtSettle nc d approx x = ctxRound nc t') := by
  intro h
  exact absurd (h ceNc ceD ceApprox ceX) (by decide)
end Counterexample

/-! ## non-vacuity: the witness of finding F2 satisfies the bracket, and the choice is `t.coeff`
(the exact root lies just below the midpoint; the unrepaired code returned the successor) -/

section Witness
private def wT : Dec := { coeff := 99999999999, exp := -16 }
private def wX : Dec := { coeff := 99999999999, exp := -21 }

example : wT.coeff * wT.coeff * sqrtDen wX wT.exp ≤ sqrtNum wX wT.exp := by decide
example : sqrtNum wX wT.exp < (wT.coeff + 1) * (wT.coeff + 1) * sqrtDen wX wT.exp := by decide
example : sqrtChoice wT wX = 99999999999 := by decide
example :
    let m := sqrtChoice wT wX
    (m = wT.coeff ∨ m = wT.coeff + 1) ∧
    ((2 * m - 1) * (2 * m - 1) * sqrtDen wX wT.exp ≤ 4 * sqrtNum wX wT.exp ∨ m = 0) ∧
    4 * sqrtNum wX wT.exp ≤ (2 * m + 1) * (2 * m + 1) * sqrtDen wX wT.exp :=
  let h := C11_settle_choice wT wX rfl rfl (by decide) rfl rfl (by decide) (by decide)
  ⟨h.1, h.2.1, h.2.2.1⟩
end Witness

#print axioms C11_settle_choice
#print axioms C11_settle_is_spec
#print axioms C11_settle_is_spec'
#print axioms C11_settle_shape_partial
#print axioms C11_settle_shape_all
#print axioms C11_settle_shape_false

end Apd.Props
