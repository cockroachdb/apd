import ApdVerif.Lemmas.TextView
import ApdVerif.Lemmas.SetExponent
import ApdVerif.Spec.Defs
/-!
# C13 — text round trips: `parse ∘ append = id`

`Text.parse` returns the decimal with its exponent field still `0` and the summed exponent
separately (what `setString` hands to `setExponent`); `reparsed d` is that pair for `d`.
`C13_roundtrip_format` (the fmt verbs) is in Props/C14.lean: it needs the `Format` layout proved there.
For the whole cycle through `setString`: under `BaseContext`, `setExponent` stores the exponent unchanged when
coefficient and exponent are within the package limits (`Lim`, `setExponent_base_ok`) and reports a system error when
they are not (`setExponent_base_sys`).
-/
namespace Apd.Props
open Apd Apd.Text Apd.TextL

/-- what the parser must hand back for the text of `d`: for a finite `d` its sign and coefficient
and, separately, its exponent; for NaN / sNaN / Infinity the form and the sign only (apd has no
payloads: coefficient and exponent of the parsed special are 0) -/
def reparsed (d : Dec) : Dec × Int :=
  if d.form = .finite then ({ form := .finite, neg := d.neg, exp := 0, coeff := d.coeff }, d.exp)
  else ({ form := d.form, neg := d.neg, exp := 0, coeff := 0 }, 0)

theorem parseL_special (d : Dec) (verb : Char) (h : d.form ≠ .finite) :
    parseL (appendL d verb) = some (reparsed d) := by
  unfold appendL reparsed
  cases hf : d.form <;> simp only [hf] at h ⊢
  · exact absurd rfl h
  all_goals (cases d.neg <;> rfl)

theorem parseL_E (d : Dec) (h : d.WF) (hf : d.form = .finite) (fmt : Char) (hfmt : fmt = 'e' ∨ fmt = 'E') :
    parseL ((if d.neg then ['-'] else []) ++ fmtE fmt d (natDigits d.coeff)) = some (reparsed d) := by
  obtain ⟨h1, h2, h3, h4⟩ := h
  rw [GramL.parseL_fmtE d.neg hfmt d (Digs.natDigits _) (natDigits_ne_nil _) (by rw [natDigits_length]; omega),
    natDigits_val]
  simp [reparsed, hf]

theorem parseL_F_nonpos (d : Dec) (hf : d.form = .finite) (he : d.exp ≤ 0) :
    parseL ((if d.neg then ['-'] else []) ++ fmtF d (natDigits d.coeff)) = some (reparsed d) := by
  rw [GramL.parseL_fmtF d.neg d (Digs.natDigits _) (natDigits_ne_nil _), natDigits_val]
  by_cases h0 : d.exp < 0
  · simp [reparsed, hf, h0]
  · have : d.exp = 0 := by omega
    simp [reparsed, hf, this]

theorem parseL_roundtrip (d : Dec) (h : d.WF) (verb : Char)
    (hv : verb = 'G' ∨ verb = 'g' ∨ verb = 'E' ∨ verb = 'e') :
    parseL (appendL d verb) = some (reparsed d) := by
  by_cases hf : d.form = .finite
  · have hv' : (verb = 'e' ∨ verb = 'E') ∨ (verb = 'g' ∨ verb = 'G') := by
      rcases hv with h | h | h | h <;> simp [h]
    rcases hv' with hE | hG
    · rw [appendL_E d hf hE]
      exact parseL_E d h hf verb hE
    · rcases appendL_G_cases d hf hG with ⟨he, e⟩ | ⟨fmt, hfmt, e⟩ <;> rw [e]
      · exact parseL_F_nonpos d hf he
      · exact parseL_E d h hf fmt hfmt
  · exact parseL_special d verb hf

/-- **C13 (G, g, E, e)**: for every decimal within the package limits, of any form and sign,
parsing `Text(verb)` returns the same form and sign and — for finite values — the same coefficient
and the same exponent; for NaN, sNaN and Infinity the parsed coefficient and exponent are 0. -/
theorem C13_roundtrip_G (d : Dec) (h : d.WF) (verb : Char)
    (hv : verb = 'G' ∨ verb = 'g' ∨ verb = 'E' ∨ verb = 'e') :
    Text.parse (Text.append d verb) = some (reparsed d) := by
  unfold Text.parse Text.append
  rw [String.toList_ofList]
  exact parseL_roundtrip d h verb hv

theorem C13_roundtrip_G_fields (d : Dec) (h : d.WF) (verb : Char)
    (hv : verb = 'G' ∨ verb = 'g' ∨ verb = 'E' ∨ verb = 'e') :
    ∃ d' e, Text.parse (Text.append d verb) = some (d', e) ∧
      d'.form = d.form ∧ d'.neg = d.neg ∧ d'.exp = 0 ∧
      (d.form = .finite → d'.coeff = d.coeff ∧ e = d.exp) ∧
      (d.form ≠ .finite → d'.coeff = 0 ∧ e = 0) := by
  refine ⟨(reparsed d).1, (reparsed d).2, C13_roundtrip_G d h verb hv, ?_⟩
  unfold reparsed
  by_cases hf : d.form = .finite <;> simp [hf]

theorem C13_roundtrip_string (d : Dec) (h : d.WF) : Text.parse (Text.string d) = some (reparsed d) :=
  C13_roundtrip_G d h 'G' (Or.inl rfl)

/-- what the parser returns for the plain (`'f'`) text of `d` -/
def reparsedF (d : Dec) : Dec × Int :=
  if d.form = .finite then
    ({ form := .finite, neg := d.neg, exp := 0, coeff := if d.exp < 0 then d.coeff else d.coeff * 10 ^ d.exp.toNat },
     if d.exp < 0 then d.exp else 0)
  else reparsed d

theorem parseL_roundtrip_f (d : Dec) : parseL (appendL d 'f') = some (reparsedF d) := by
  by_cases hf : d.form = .finite
  · rw [appendL_f d hf, GramL.parseL_fmtF d.neg d (Digs.natDigits _) (natDigits_ne_nil _), natDigits_val]
    simp [reparsedF, hf]
  · rw [parseL_special d 'f' hf]; simp [reparsedF, hf]

/-- **C13 ('f')**: for every decimal (no limits needed) parsing `Text('f')` gives the same form and
sign and, for a finite value, the exponent `min(exp, 0)` with the coefficient scaled by `10^max(exp,0)`… -/
theorem C13_roundtrip_f (d : Dec) : Text.parse (Text.append d 'f') = some (reparsedF d) := by
  unfold Text.parse Text.append
  rw [String.toList_ofList]
  exact parseL_roundtrip_f d

/-- … that is, the same numeric value `coeff × 10^exp` and the same sign: the parsed exponent `e`
is `≤ d.exp` and the parsed coefficient is `d.coeff × 10^(d.exp - e)`. -/
theorem C13_roundtrip_f_value (d : Dec) :
    ∃ d' e, Text.parse (Text.append d 'f') = some (d', e) ∧
      d'.form = d.form ∧ d'.neg = d.neg ∧ d'.exp = 0 ∧
      (d.form = .finite → e ≤ d.exp ∧ d'.coeff = d.coeff * 10 ^ (d.exp - e).toNat) ∧
      (d.form ≠ .finite → d'.coeff = 0 ∧ e = 0) := by
  refine ⟨(reparsedF d).1, (reparsedF d).2, C13_roundtrip_f d, ?_⟩
  unfold reparsedF reparsed
  by_cases hf : d.form = .finite
  · by_cases he : d.exp < 0
    · simp [hf, he]
    · simp [hf, he]; omega
  · simp [hf]

def Lim (co : Nat) (e : Int) : Prop :=
  -100000 ≤ e ∧ e ≤ 100000 ∧ -100000 ≤ e + (ndigits co : Int) - 1 ∧ e + (ndigits co : Int) - 1 ≤ 100000

/-- `Lim` is the body of `Dec.WF` (and of the second disjunct of `Spec.WithinLimits`), on a coefficient and an
exponent that need not sit in one decimal -/
theorem Lim_iff_WF (d : Dec) : Lim d.coeff d.exp ↔ d.WF := Iff.rfl

theorem setExponent_base_ok (d : Dec) (e : Int) (h : Lim d.coeff e) :
    setExponent baseCtx d {} [e] = ({ d with exp := e }, {}) := by
  obtain ⟨h1, h2, h3, h4⟩ := h
  have e1 : ¬ e > 100000 := by omega
  have e2 : ¬ e < -100000 := by omega
  have e3 : ¬ e + (ndigits d.coeff : Int) - 1 > 100000 := by omega
  have e4 : ¬ e + (ndigits d.coeff : Int) - 1 < -100000 := by omega
  simp only [setExponent, checkXs, sumInts, baseCtx, MaxExponent, MinExponent, seFinish, e1, e2, e3, e4,
    if_false, Int.add_zero]
  simp

theorem setExponent_base_sys (d : Dec) (e : Int) (h : ¬ Lim d.coeff e) :
    goError baseCtx.traps (setExponent baseCtx d {} [e]).2 = .sys := by
  rw [goError_sys_iff]
  intro hns
  obtain ⟨hx, hlo, hhi⟩ := setExponent_noSys baseCtx d {} [e] (sumInts_single e) hns
  have he := (checkXs_none_iff [e]).1 hx e (List.mem_singleton_self e)
  exact h ⟨he.1, he.2, hlo, hhi⟩

theorem setExponent_base (d : Dec) (h : d.WF) (hf : d.form = .finite) :
    setExponent baseCtx { form := .finite, neg := d.neg, exp := 0, coeff := d.coeff } {} [d.exp] = (d, {}) := by
  rw [setExponent_base_ok ⟨.finite, d.neg, 0, d.coeff⟩ d.exp ((Lim_iff_WF d).2 h)]
  cases d
  cases hf
  rfl

/-- with precision 0 `Context.round` only checks the exponent -/
theorem ctxRound_base (d : Dec) (h : d.WF) : ctxRound baseCtx d = (d, {}) := by
  by_cases hf : d.form = .finite
  · rw [ctxRound_finite _ _ hf]
    exact setExponent_base_ok d d.exp ((Lim_iff_WF d).2 h)
  · exact ctxRound_nonfinite _ _ hf

/-- the value `SetString` stores for the text of `d` -/
def stored (d : Dec) : Dec :=
  if d.form = .finite then d else { form := d.form, neg := d.neg, exp := 0, coeff := 0 }

/-- **C13, whole cycle**: `Decimal.setString` under `BaseContext` on `Text(verb)` of a decimal
within the limits stores the identical decimal (for specials: form and sign), no flags, no error. -/
theorem C13_setString_roundtrip (d : Dec) (h : d.WF) (verb : Char)
    (hv : verb = 'G' ∨ verb = 'g' ∨ verb = 'E' ∨ verb = 'e') :
    Text.setString baseCtx (Text.append d verb) = some { d := stored d, fl := {}, err := .none } := by
  unfold Text.setString
  rw [C13_roundtrip_G d h verb hv]
  unfold reparsed stored
  by_cases hf : d.form = .finite
  · simp only [hf, if_true]
    rw [setExponent_base d h hf]
    rfl
  · simp [hf]

/-- … and so does `Context.SetString` / `Context.NewFromString` / `apd.NewFromString`. -/
theorem C13_ctxSetString_roundtrip (d : Dec) (h : d.WF) (verb : Char)
    (hv : verb = 'G' ∨ verb = 'g' ∨ verb = 'E' ∨ verb = 'e') :
    Text.ctxSetString baseCtx (Text.append d verb) = some { d := stored d, fl := {}, err := .none } := by
  unfold Text.ctxSetString
  rw [C13_setString_roundtrip d h verb hv]
  have hw : (stored d).WF := by
    unfold stored
    by_cases hf : d.form = .finite
    · simpa [hf] using h
    · simp only [hf, if_false]; unfold Dec.WF; simp only []; decide
  simp only [if_true]
  rw [ctxRound_base _ hw]
  rfl

#print axioms C13_roundtrip_G
#print axioms C13_roundtrip_f
#print axioms C13_roundtrip_f_value
#print axioms C13_setString_roundtrip
#print axioms C13_ctxSetString_roundtrip
#print axioms C13_roundtrip_G_fields

end Apd.Props
