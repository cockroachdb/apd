import ApdVerif.Props.C05
import ApdVerif.Lemmas.FootLemmas
/-!
# C06 — results depend only on operands and context; operands, context and shared constants are never modified

* `C06_writes_<op>`  : every write of the program goes to the destination cell (`WritesOnly (· = d)`); the `Context`
  is a Lean value and the package constants are `Src.const` values, which no program can write;
* `C06_foot_<op>`    : the footprint: reads within `{x, y} ∪ {d}`, writes within `{d}`;
* `C06_<op>`         : when `d ∉ {x, y}` the run does not depend on the previous contents of `d`;
* `C06_ctxOp_operands_only` : two runs on heaps that agree on the operand cells have the same error class and, when
  delivered, the same flags, aux value and final destination (no assumption on aliasing).
A result triple is `(flags, error class, aux)`, so `(run p h).1.1` are the flags, `.1.2.1` the error class,
`.1.2.2` the aux value and `.2 d` the destination.  The `_ctxOp` statements are the same for the dispatch table.
-/
namespace Apd.Props
open Apd.Imp

theorem opSpec_agree {p : Prog Res} {d : Cell} {h1 h2 : Heap} {m : Out}
    (s1 : OpSpec p d h1 m) (s2 : OpSpec p d h2 m) :
    (run p h1).1.2.1 = (run p h2).1.2.1 ∧
    (Delivered (run p h1).1.2.1 →
      (run p h1).1.1 = (run p h2).1.1 ∧ (run p h1).2 d = (run p h2).2 d ∧ (run p h1).1.2.2 = (run p h2).1.2.2) := by
  obtain ⟨e1, d1, _⟩ := s1
  obtain ⟨e2, d2, _⟩ := s2
  refine ⟨e1.trans e2.symm, fun hd => ?_⟩
  obtain ⟨a1, a2, a3⟩ := d1 hd
  obtain ⟨b1, b2, b3⟩ := d2 (by rw [e2, ← e1]; exact hd)
  exact ⟨a1.trans b1.symm, a2.trans b2.symm, a3.trans b3.symm⟩

theorem opSpec_indep {p : Prog Res} {d : Cell} {m : Heap → Out} (hs : ∀ h, OpSpec p d h (m h)) {h1 h2 : Heap}
    (hm : m h2 = m h1) :
    (run p h1).1.2.1 = (run p h2).1.2.1 ∧
    (Delivered (run p h1).1.2.1 →
      (run p h1).1.1 = (run p h2).1.1 ∧ (run p h1).2 d = (run p h2).2 d ∧ (run p h1).1.2.2 = (run p h2).1.2.2) :=
  opSpec_agree (hs h1) (hm ▸ hs h2)

theorem C06_ctxOp_operands_only {op : String} {c : Ctx} {d x y : Cell} {iarg : Int} {p : Prog Res}
    (hp : runCtxOp op c d x y iarg = some p) (h1 h2 : Heap) (hx : h1 x = h2 x) (hy : h1 y = h2 y) :
    (run p h1).1.2.1 = (run p h2).1.2.1 ∧
    (Delivered (run p h1).1.2.1 →
      (run p h1).1.1 = (run p h2).1.1 ∧ (run p h1).2 d = (run p h2).2 d ∧ (run p h1).1.2.2 = (run p h2).1.2.2) := by
  obtain ⟨m1, hm1, s1⟩ := C05_ctxOp hp h1
  obtain ⟨m2, hm2, s2⟩ := C05_ctxOp hp h2
  rw [hx, hy] at hm1
  have : m1 = m2 := Option.some.inj (hm1.symm.trans hm2)
  subst this
  exact opSpec_agree s1 s2

theorem C06_writes_ctxOp {op : String} {c : Ctx} {d x y : Cell} {iarg : Int} {p : Prog Res}
    (hp : runCtxOp op c d x y iarg = some p) : WritesOnly (· = d) p :=
  (Foot_runCtxOp _ hp).writesOnly

theorem C06_frame_ctxOp {op : String} {c : Ctx} {d x y : Cell} {iarg : Int} {p : Prog Res}
    (hp : runCtxOp op c d x y iarg = some p) (h : Heap) : ∀ cell, cell ≠ d → (run p h).2 cell = h cell :=
  (C06_writes_ctxOp hp).frame h

theorem C06_ctxOp {op : String} {c : Ctx} {d x y : Cell} {iarg : Int} {p : Prog Res}
    (hp : runCtxOp op c d x y iarg = some p) (hdx : d ≠ x) (hdy : d ≠ y) (h : Heap) (v : Dec) :
    (run p h).1.2.1 = (run p (h.set d v)).1.2.1 ∧
    (Delivered (run p h).1.2.1 →
      (run p h).1.1 = (run p (h.set d v)).1.1 ∧ (run p h).2 d = (run p (h.set d v)).2 d ∧
      (run p h).1.2.2 = (run p (h.set d v)).1.2.2) :=
  C06_ctxOp_operands_only hp h (h.set d v) (Heap.set_other _ _ (Ne.symm hdx)).symm (Heap.set_other _ _ (Ne.symm hdy)).symm

theorem C06_foot_add (c : Ctx) (d x y : Cell) : Foot (footR x y) (footW d) (addP c d (.cell x) (.cell y) false) :=
  Foot_addP footW_self footR_fst footR_snd c false
theorem C06_writes_add (c : Ctx) (d x y : Cell) : WritesOnly (· = d) (addP c d (.cell x) (.cell y) false) :=
  (C06_foot_add c d x y).writesOnly
theorem C06_add (c : Ctx) (d x y : Cell) (hdx : d ≠ x) (hdy : d ≠ y) (h : Heap) (v : Dec) :
    let r1 := run (addP c d (.cell x) (.cell y) false) h
    let r2 := run (addP c d (.cell x) (.cell y) false) (h.set d v)
    r1.1.2.1 = r2.1.2.1 ∧ (Delivered r1.1.2.1 → r1.1.1 = r2.1.1 ∧ r1.2 d = r2.2 d ∧ r1.1.2.2 = r2.1.2.2) :=
  opSpec_indep (C05_add c d x y) (by rw [Heap.set_other _ _ hdx.symm, Heap.set_other _ _ hdy.symm])

theorem C06_foot_sub (c : Ctx) (d x y : Cell) : Foot (footR x y) (footW d) (addP c d (.cell x) (.cell y) true) :=
  Foot_addP footW_self footR_fst footR_snd c true
theorem C06_writes_sub (c : Ctx) (d x y : Cell) : WritesOnly (· = d) (addP c d (.cell x) (.cell y) true) :=
  (C06_foot_sub c d x y).writesOnly
theorem C06_sub (c : Ctx) (d x y : Cell) (hdx : d ≠ x) (hdy : d ≠ y) (h : Heap) (v : Dec) :
    let r1 := run (addP c d (.cell x) (.cell y) true) h
    let r2 := run (addP c d (.cell x) (.cell y) true) (h.set d v)
    r1.1.2.1 = r2.1.2.1 ∧ (Delivered r1.1.2.1 → r1.1.1 = r2.1.1 ∧ r1.2 d = r2.2 d ∧ r1.1.2.2 = r2.1.2.2) :=
  opSpec_indep (C05_sub c d x y) (by rw [Heap.set_other _ _ hdx.symm, Heap.set_other _ _ hdy.symm])

theorem C06_foot_mul (c : Ctx) (d x y : Cell) : Foot (footR x y) (footW d) (mulP c d (.cell x) (.cell y)) :=
  Foot_mulP footW_self footR_fst footR_snd c
theorem C06_writes_mul (c : Ctx) (d x y : Cell) : WritesOnly (· = d) (mulP c d (.cell x) (.cell y)) :=
  (C06_foot_mul c d x y).writesOnly
theorem C06_mul (c : Ctx) (d x y : Cell) (hdx : d ≠ x) (hdy : d ≠ y) (h : Heap) (v : Dec) :
    let r1 := run (mulP c d (.cell x) (.cell y)) h
    let r2 := run (mulP c d (.cell x) (.cell y)) (h.set d v)
    r1.1.2.1 = r2.1.2.1 ∧ (Delivered r1.1.2.1 → r1.1.1 = r2.1.1 ∧ r1.2 d = r2.2 d ∧ r1.1.2.2 = r2.1.2.2) :=
  opSpec_indep (C05_mul c d x y) (by rw [Heap.set_other _ _ hdx.symm, Heap.set_other _ _ hdy.symm])

theorem C06_foot_quo (c : Ctx) (d x y : Cell) : Foot (footR x y) (footW d) (quoP c d (.cell x) (.cell y)) :=
  Foot_quoP footW_self footR_fst footR_snd c
theorem C06_writes_quo (c : Ctx) (d x y : Cell) : WritesOnly (· = d) (quoP c d (.cell x) (.cell y)) :=
  (C06_foot_quo c d x y).writesOnly
theorem C06_quo (c : Ctx) (d x y : Cell) (hdx : d ≠ x) (hdy : d ≠ y) (h : Heap) (v : Dec) :
    let r1 := run (quoP c d (.cell x) (.cell y)) h
    let r2 := run (quoP c d (.cell x) (.cell y)) (h.set d v)
    r1.1.2.1 = r2.1.2.1 ∧ (Delivered r1.1.2.1 → r1.1.1 = r2.1.1 ∧ r1.2 d = r2.2 d ∧ r1.1.2.2 = r2.1.2.2) :=
  opSpec_indep (C05_quo c d x y) (by rw [Heap.set_other _ _ hdx.symm, Heap.set_other _ _ hdy.symm])

theorem C06_foot_quoint (c : Ctx) (d x y : Cell) : Foot (footR x y) (footW d) (quoIntegerP c d (.cell x) (.cell y)) :=
  Foot_quoIntegerP footW_self footR_fst footR_snd c
theorem C06_writes_quoint (c : Ctx) (d x y : Cell) : WritesOnly (· = d) (quoIntegerP c d (.cell x) (.cell y)) :=
  (C06_foot_quoint c d x y).writesOnly
theorem C06_quoint (c : Ctx) (d x y : Cell) (hdx : d ≠ x) (hdy : d ≠ y) (h : Heap) (v : Dec) :
    let r1 := run (quoIntegerP c d (.cell x) (.cell y)) h
    let r2 := run (quoIntegerP c d (.cell x) (.cell y)) (h.set d v)
    r1.1.2.1 = r2.1.2.1 ∧ (Delivered r1.1.2.1 → r1.1.1 = r2.1.1 ∧ r1.2 d = r2.2 d ∧ r1.1.2.2 = r2.1.2.2) :=
  opSpec_indep (C05_quoint c d x y) (by rw [Heap.set_other _ _ hdx.symm, Heap.set_other _ _ hdy.symm])

theorem C06_foot_rem (c : Ctx) (d x y : Cell) : Foot (footR x y) (footW d) (remP c d (.cell x) (.cell y)) :=
  Foot_remP footW_self footR_fst footR_snd c
theorem C06_writes_rem (c : Ctx) (d x y : Cell) : WritesOnly (· = d) (remP c d (.cell x) (.cell y)) :=
  (C06_foot_rem c d x y).writesOnly
theorem C06_rem (c : Ctx) (d x y : Cell) (hdx : d ≠ x) (hdy : d ≠ y) (h : Heap) (v : Dec) :
    let r1 := run (remP c d (.cell x) (.cell y)) h
    let r2 := run (remP c d (.cell x) (.cell y)) (h.set d v)
    r1.1.2.1 = r2.1.2.1 ∧ (Delivered r1.1.2.1 → r1.1.1 = r2.1.1 ∧ r1.2 d = r2.2 d ∧ r1.1.2.2 = r2.1.2.2) :=
  opSpec_indep (C05_rem c d x y) (by rw [Heap.set_other _ _ hdx.symm, Heap.set_other _ _ hdy.symm])

theorem C06_foot_cmp (c : Ctx) (d x y : Cell) : Foot (footR x y) (footW d) (cmpOpP c d (.cell x) (.cell y)) :=
  Foot_cmpOpP footW_self footR_fst footR_snd c
theorem C06_writes_cmp (c : Ctx) (d x y : Cell) : WritesOnly (· = d) (cmpOpP c d (.cell x) (.cell y)) :=
  (C06_foot_cmp c d x y).writesOnly
theorem C06_cmp (c : Ctx) (d x y : Cell) (hdx : d ≠ x) (hdy : d ≠ y) (h : Heap) (v : Dec) :
    let r1 := run (cmpOpP c d (.cell x) (.cell y)) h
    let r2 := run (cmpOpP c d (.cell x) (.cell y)) (h.set d v)
    r1.1.2.1 = r2.1.2.1 ∧ (Delivered r1.1.2.1 → r1.1.1 = r2.1.1 ∧ r1.2 d = r2.2 d ∧ r1.1.2.2 = r2.1.2.2) :=
  opSpec_indep (C05_cmp c d x y) (by rw [Heap.set_other _ _ hdx.symm, Heap.set_other _ _ hdy.symm])

theorem C06_foot_abs (c : Ctx) (d x : Cell) : Foot (footR x x) (footW d) (absP c d (.cell x)) :=
  Foot_absP footW_self footR_fst c
theorem C06_writes_abs (c : Ctx) (d x : Cell) : WritesOnly (· = d) (absP c d (.cell x)) :=
  (C06_foot_abs c d x).writesOnly
theorem C06_abs (c : Ctx) (d x : Cell) (hdx : d ≠ x) (h : Heap) (v : Dec) :
    let r1 := run (absP c d (.cell x)) h
    let r2 := run (absP c d (.cell x)) (h.set d v)
    r1.1.2.1 = r2.1.2.1 ∧ (Delivered r1.1.2.1 → r1.1.1 = r2.1.1 ∧ r1.2 d = r2.2 d ∧ r1.1.2.2 = r2.1.2.2) :=
  opSpec_indep (C05_abs c d x) (by rw [Heap.set_other _ _ hdx.symm])

theorem C06_foot_neg (c : Ctx) (d x : Cell) : Foot (footR x x) (footW d) (negP c d (.cell x)) :=
  Foot_negP footW_self footR_fst c
theorem C06_writes_neg (c : Ctx) (d x : Cell) : WritesOnly (· = d) (negP c d (.cell x)) :=
  (C06_foot_neg c d x).writesOnly
theorem C06_neg (c : Ctx) (d x : Cell) (hdx : d ≠ x) (h : Heap) (v : Dec) :
    let r1 := run (negP c d (.cell x)) h
    let r2 := run (negP c d (.cell x)) (h.set d v)
    r1.1.2.1 = r2.1.2.1 ∧ (Delivered r1.1.2.1 → r1.1.1 = r2.1.1 ∧ r1.2 d = r2.2 d ∧ r1.1.2.2 = r2.1.2.2) :=
  opSpec_indep (C05_neg c d x) (by rw [Heap.set_other _ _ hdx.symm])

theorem C06_foot_round (c : Ctx) (d x : Cell) : Foot (footR x x) (footW d) (roundOpP c d (.cell x)) :=
  Foot_roundOpP footW_self footR_fst c
theorem C06_writes_round (c : Ctx) (d x : Cell) : WritesOnly (· = d) (roundOpP c d (.cell x)) :=
  (C06_foot_round c d x).writesOnly
theorem C06_round (c : Ctx) (d x : Cell) (hdx : d ≠ x) (h : Heap) (v : Dec) :
    let r1 := run (roundOpP c d (.cell x)) h
    let r2 := run (roundOpP c d (.cell x)) (h.set d v)
    r1.1.2.1 = r2.1.2.1 ∧ (Delivered r1.1.2.1 → r1.1.1 = r2.1.1 ∧ r1.2 d = r2.2 d ∧ r1.1.2.2 = r2.1.2.2) :=
  opSpec_indep (C05_round c d x) (by rw [Heap.set_other _ _ hdx.symm])

theorem C06_foot_reduce (c : Ctx) (d x : Cell) : Foot (footR x x) (footW d) (reduceP c d (.cell x)) :=
  Foot_reduceP footW_self footR_fst c
theorem C06_writes_reduce (c : Ctx) (d x : Cell) : WritesOnly (· = d) (reduceP c d (.cell x)) :=
  (C06_foot_reduce c d x).writesOnly
theorem C06_reduce (c : Ctx) (d x : Cell) (hdx : d ≠ x) (h : Heap) (v : Dec) :
    let r1 := run (reduceP c d (.cell x)) h
    let r2 := run (reduceP c d (.cell x)) (h.set d v)
    r1.1.2.1 = r2.1.2.1 ∧ (Delivered r1.1.2.1 → r1.1.1 = r2.1.1 ∧ r1.2 d = r2.2 d ∧ r1.1.2.2 = r2.1.2.2) :=
  opSpec_indep (C05_reduce c d x) (by rw [Heap.set_other _ _ hdx.symm])

theorem C06_foot_rtie (c : Ctx) (d x : Cell) : Foot (footR x x) (footW d) (rtieP c d (.cell x)) :=
  Foot_rtieP footW_self footR_fst c
theorem C06_writes_rtie (c : Ctx) (d x : Cell) : WritesOnly (· = d) (rtieP c d (.cell x)) :=
  (C06_foot_rtie c d x).writesOnly
theorem C06_rtie (c : Ctx) (d x : Cell) (hdx : d ≠ x) (h : Heap) (v : Dec) :
    let r1 := run (rtieP c d (.cell x)) h
    let r2 := run (rtieP c d (.cell x)) (h.set d v)
    r1.1.2.1 = r2.1.2.1 ∧ (Delivered r1.1.2.1 → r1.1.1 = r2.1.1 ∧ r1.2 d = r2.2 d ∧ r1.1.2.2 = r2.1.2.2) :=
  opSpec_indep (C05_rtie c d x) (by rw [Heap.set_other _ _ hdx.symm])

theorem C06_foot_rtiv (c : Ctx) (d x : Cell) : Foot (footR x x) (footW d) (rtivP c d (.cell x)) :=
  Foot_rtivP footW_self footR_fst c
theorem C06_writes_rtiv (c : Ctx) (d x : Cell) : WritesOnly (· = d) (rtivP c d (.cell x)) :=
  (C06_foot_rtiv c d x).writesOnly
theorem C06_rtiv (c : Ctx) (d x : Cell) (hdx : d ≠ x) (h : Heap) (v : Dec) :
    let r1 := run (rtivP c d (.cell x)) h
    let r2 := run (rtivP c d (.cell x)) (h.set d v)
    r1.1.2.1 = r2.1.2.1 ∧ (Delivered r1.1.2.1 → r1.1.1 = r2.1.1 ∧ r1.2 d = r2.2 d ∧ r1.1.2.2 = r2.1.2.2) :=
  opSpec_indep (C05_rtiv c d x) (by rw [Heap.set_other _ _ hdx.symm])

theorem C06_foot_ceil (c : Ctx) (d x : Cell) : Foot (footR x x) (footW d) (ceilP c d (.cell x)) :=
  Foot_ceilP footW_self footR_fst c
theorem C06_writes_ceil (c : Ctx) (d x : Cell) : WritesOnly (· = d) (ceilP c d (.cell x)) :=
  (C06_foot_ceil c d x).writesOnly
theorem C06_ceil (c : Ctx) (d x : Cell) (hdx : d ≠ x) (h : Heap) (v : Dec) :
    let r1 := run (ceilP c d (.cell x)) h
    let r2 := run (ceilP c d (.cell x)) (h.set d v)
    r1.1.2.1 = r2.1.2.1 ∧ (Delivered r1.1.2.1 → r1.1.1 = r2.1.1 ∧ r1.2 d = r2.2 d ∧ r1.1.2.2 = r2.1.2.2) :=
  opSpec_indep (C05_ceil c d x) (by rw [Heap.set_other _ _ hdx.symm])

theorem C06_foot_floor (c : Ctx) (d x : Cell) : Foot (footR x x) (footW d) (floorP c d (.cell x)) :=
  Foot_floorP footW_self footR_fst c
theorem C06_writes_floor (c : Ctx) (d x : Cell) : WritesOnly (· = d) (floorP c d (.cell x)) :=
  (C06_foot_floor c d x).writesOnly
theorem C06_floor (c : Ctx) (d x : Cell) (hdx : d ≠ x) (h : Heap) (v : Dec) :
    let r1 := run (floorP c d (.cell x)) h
    let r2 := run (floorP c d (.cell x)) (h.set d v)
    r1.1.2.1 = r2.1.2.1 ∧ (Delivered r1.1.2.1 → r1.1.1 = r2.1.1 ∧ r1.2 d = r2.2 d ∧ r1.1.2.2 = r2.1.2.2) :=
  opSpec_indep (C05_floor c d x) (by rw [Heap.set_other _ _ hdx.symm])

theorem C06_foot_quantize (c : Ctx) (d x : Cell) (exp : Int) :
    Foot (footR x x) (footW d) (quantizeP c d (.cell x) exp) :=
  Foot_quantizeP footW_self footR_fst c exp
theorem C06_writes_quantize (c : Ctx) (d x : Cell) (exp : Int) : WritesOnly (· = d) (quantizeP c d (.cell x) exp) :=
  (C06_foot_quantize c d x exp).writesOnly
theorem C06_quantize (c : Ctx) (d x : Cell) (exp : Int) (hdx : d ≠ x) (h : Heap) (v : Dec) :
    let r1 := run (quantizeP c d (.cell x) exp) h
    let r2 := run (quantizeP c d (.cell x) exp) (h.set d v)
    r1.1.2.1 = r2.1.2.1 ∧ (Delivered r1.1.2.1 → r1.1.1 = r2.1.1 ∧ r1.2 d = r2.2 d ∧ r1.1.2.2 = r2.1.2.2) :=
  opSpec_indep (C05_quantize c d x exp) (by rw [Heap.set_other _ _ hdx.symm])

theorem C06_writes_set (d x : Cell) : WritesOnly (· = d) (setDec d (.cell x)) :=
  (Foot_setDec footW_self (footR_fst (y := x))).writesOnly
theorem C06_writes_negDec (d x : Cell) : WritesOnly (· = d) (negDec d (.cell x)) :=
  (Foot_negDec footW_self (footR_fst (y := x))).writesOnly
theorem C06_writes_absDec (d x : Cell) : WritesOnly (· = d) (absDec d (.cell x)) :=
  (Foot_absDec footW_self (footR_fst (y := x))).writesOnly
theorem C06_writes_reduceDec (d x : Cell) : WritesOnly (· = d) (reduceDec d (.cell x)) :=
  (Foot_reduceDec footW_self (footR_fst (y := x))).writesOnly
theorem C06_writes_modf (r : Cell) (integ frac : Option Cell) :
    WritesOnly (fun cell => integ = some cell ∨ frac = some cell) (modfP (.cell r) integ frac) :=
  (Foot_modfP (footR_fst (y := r)) (fun _ => Or.inl) (fun _ => Or.inr)).writesOnly
theorem C06_writes_Round (c : Ctx) (d x : Cell) (b : Bool) : WritesOnly (· = d) (roundP c d (.cell x) b) :=
  (Foot_roundP footW_self (footR_fst (y := x)) c b).writesOnly
theorem C06_writes_setExponent (c : Ctx) (d : Cell) (nd : Option Nat) (res : Cond) (xs : List Int) :
    WritesOnly (· = d) (setExponentP c d nd res xs) :=
  (Foot_setExponentP (R := fun _ => False) (W := footW d) rfl c nd res xs).writesOnly

end Apd.Props

#print axioms Apd.Props.C06_add
#print axioms Apd.Props.C06_writes_add
#print axioms Apd.Props.C06_sub
#print axioms Apd.Props.C06_writes_sub
#print axioms Apd.Props.C06_mul
#print axioms Apd.Props.C06_writes_mul
#print axioms Apd.Props.C06_quo
#print axioms Apd.Props.C06_writes_quo
#print axioms Apd.Props.C06_quoint
#print axioms Apd.Props.C06_writes_quoint
#print axioms Apd.Props.C06_rem
#print axioms Apd.Props.C06_writes_rem
#print axioms Apd.Props.C06_cmp
#print axioms Apd.Props.C06_writes_cmp
#print axioms Apd.Props.C06_abs
#print axioms Apd.Props.C06_writes_abs
#print axioms Apd.Props.C06_neg
#print axioms Apd.Props.C06_writes_neg
#print axioms Apd.Props.C06_round
#print axioms Apd.Props.C06_writes_round
#print axioms Apd.Props.C06_reduce
#print axioms Apd.Props.C06_writes_reduce
#print axioms Apd.Props.C06_rtie
#print axioms Apd.Props.C06_writes_rtie
#print axioms Apd.Props.C06_rtiv
#print axioms Apd.Props.C06_writes_rtiv
#print axioms Apd.Props.C06_ceil
#print axioms Apd.Props.C06_writes_ceil
#print axioms Apd.Props.C06_floor
#print axioms Apd.Props.C06_writes_floor
#print axioms Apd.Props.C06_quantize
#print axioms Apd.Props.C06_writes_quantize
#print axioms Apd.Props.C06_ctxOp
#print axioms Apd.Props.C06_ctxOp_operands_only
#print axioms Apd.Props.C06_writes_ctxOp
#print axioms Apd.Props.C06_frame_ctxOp
#print axioms Apd.Props.C06_writes_modf
#print axioms Apd.Props.C06_writes_Round
