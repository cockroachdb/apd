import ApdVerif.Lemmas.CbrtConvLoop
import ApdVerif.Lemmas.CbrtRules
/-!
# C04 — `Context.Cbrt` always returns (no hang)

With the repair of the scaling loops (commit 7d351b9: `if err := ed.Err(); err != nil { return 0, err }` after every
multiplication) a round of a scaling loop either leaves through the error exit or multiplies `z` by `8` / `0.125` with
one rounding at `2P+2 ≥ 2` digits — a factor of at least `7` / at most `1/7`.  A multiplication that did not fail
delivered a result that is neither subnormal nor an overflow (both are trapped in the working context), i.e. inside
`[10^-100001, 10^100001)`: so after its first round a loop can make at most `2·100001` further rounds, whatever the
operand was (any exponent, any number of digits).  The Newton loop is bounded by its own counter.  Hence the fuel of
the model (400000 per scaling loop, `maxIterations + 2` for the Newton loop) is never exhausted:
`C04_cbrt_total`.

The only hypothesis is `c.prec * 2 + 2 ≤ 100000` (the working precision does not exceed the package's exponent limit —
the domain of the single-operation theorems `C01_mul`; weaker than the `c.prec * 3 + 2 ≤ 100000` of the other Cbrt
theorems); nothing is assumed about the operand.
-/
namespace Apd.CbrtC
open Apd Apd.Oracle Apd.RatSpec Apd.C20L Apd.SqrtL Apd.CbrtL Apd.CbrtR Cond

theorem eps_le_20 (p : ℕ) (hp : 2 ≤ p) : eps p ≤ 1 / 20 := by
  unfold eps
  have : (10 : ℚ) ^ (-(p : ℤ)) ≤ (10 : ℚ) ^ (-2 : ℤ) := zpow_le_zpow_right₀ ten_ge (by omega)
  rw [tm2] at this
  linarith

/-- the counting argument: `v` grows by a factor 7 with every successful round, is below 1 while the test holds, and
is at least `L ≥ 10^(-M)` after a successful round: fewer than `2M` rounds can follow the first (`scale_count`), so the
invariant bounds the round counter, and the `none` exit of the rule (counter = fuel) cannot be taken -/
theorem scaleLoop_total (test : Dec → Bool) (k : Dec) (J : ED → Dec → Prop) (v : Dec → ℚ) (L : ℚ) (M : ℕ)
    (hL0 : 0 < L) (hL : 1 ≤ L * 10 ^ M)
    (hstep : ∀ (e : ED) (z : Dec), J e z → test z = true →
      (e.step z (fun c => mulOp c z k)).1.failed = false →
      J (e.step z (fun c => mulOp c z k)).1 (e.step z (fun c => mulOp c z k)).2 ∧
      7 * v z ≤ v (e.step z (fun c => mulOp c z k)).2 ∧ L ≤ v (e.step z (fun c => mulOp c z k)).2 ∧ v z < 1)
    (fuel : ℕ) (hfuel : 2 * M + 2 ≤ fuel) (e : ED) (z : Dec) (hJ : J e z) :
    (scaleLoop test k fuel e z 0).isSome = true := by
  have R := scaleLoop_rule test k (fun e z m => J e z ∧ m ≤ 2 * M + 1 ∧ (1 ≤ m → L * 7 ^ (m - 1) ≤ v z))
    (fun e z m ⟨hJ, hm, hv⟩ ht hnf => by
      obtain ⟨g1, g2, g3, g4⟩ := hstep e z hJ ht hnf
      have hmB : 1 ≤ m → m - 1 < 2 * M := fun h1 => scale_count hL0 (hv h1) (lt_of_lt_of_le g4 hL)
      refine ⟨g1, by omega, fun _ => ?_⟩
      rcases Nat.eq_zero_or_pos m with rfl | hm1
      · simpa using g3
      · have := hv hm1
        calc L * 7 ^ (m + 1 - 1) = 7 * (L * 7 ^ (m - 1)) := by
              rw [show m + 1 - 1 = (m - 1) + 1 by omega, pow_succ]; ring
          _ ≤ 7 * v z := by linarith
          _ ≤ _ := g2)
    fuel e z 0
  cases h : scaleLoop test k fuel e z 0 with
  | some r => rfl
  | none =>
    obtain ⟨_, _, -, hm, -⟩ := R _ h ⟨hJ, by omega, fun h => absurd h (by omega)⟩
    omega

theorem L_bound : (1 : ℚ) ≤ (10 : ℚ) ^ (-100001 : ℤ) * (10 : ℚ) ^ (100001 : ℕ) := by
  rw [← zpow_natCast, ← zpow_add₀ ten_ne]; norm_num

theorem Lm : (10 : ℚ) ^ (-100001 : ℤ) = (10 : ℚ) ^ (-100000 : ℤ) / 10 := by
  rw [show (-100001 : ℤ) = -100000 - 1 by norm_num, zpow_sub_one₀ ten_ne]; ring

theorem down_total (cc : Ctx) (p : ℕ) (hw : NCtx cc p) (hp : 2 ≤ p) (e : ED) (z : Dec)
    (he : EDg cc e) (hz : Pos z) :
    (scaleLoop (fun z => decide (z.cmp decOneEighth < 0)) decEight 400000 e z 0).isSome = true :=
  scaleLoop_total _ decEight (fun e z => EDg cc e ∧ Pos z) (fun z => z.toRat) ((10 : ℚ) ^ (-100001 : ℤ))
    100001 (tp _) L_bound
    (fun e z ⟨he, hz⟩ ht hnf => by
      obtain ⟨s1, s2, -, s4, -, s6, -⟩ := scale_step cc p hw decEight decEight_pos e z he hz hnf
      rw [decEight_toRat] at s4 s6
      have hze := mul_le_mul_of_nonneg_left (eps_le_20 p hp) hz.toRat_pos.le
      have hlt := (test_down z hz).1 ht
      refine ⟨⟨s1, s2⟩, by linarith only [s4, hze, hz.toRat_pos], ?_, by linarith only [hlt]⟩
      rw [Lm]; linarith only [s4, s6, hze, tp (-100000 : ℤ)])
    400000 (by norm_num) e z ⟨he, hz⟩

theorem up_total (cc : Ctx) (p : ℕ) (hw : NCtx cc p) (hp : 2 ≤ p) (e : ED) (z : Dec)
    (he : EDg cc e) (hz : Pos z) :
    (scaleLoop (fun z => decide (z.cmp decOne > 0)) decOneEighth 400000 e z 0).isSome = true :=
  scaleLoop_total _ decOneEighth (fun e z => EDg cc e ∧ Pos z) (fun z => (z.toRat)⁻¹) ((10 : ℚ) ^ (-100001 : ℤ))
    100001 (tp _) L_bound
    (fun e z ⟨he, hz⟩ ht hnf => by
      obtain ⟨s1, s2, -, -, s5, -, s7⟩ := scale_step cc p hw decOneEighth decOneEighth_pos e z he hz hnf
      rw [decOneEighth_toRat] at s5
      have hzp := hz.toRat_pos
      have hz'p := s2.toRat_pos
      refine ⟨⟨s1, s2⟩, ?_, ?_, inv_lt_one_of_one_lt₀ ((test_up z hz).1 ht)⟩
      · rw [← div_eq_mul_inv, div_le_iff₀ hzp, mul_comm, ← div_eq_mul_inv, le_div_iff₀ hz'p]
        linarith only [s5, mul_le_mul_of_nonneg_left (eps_le_20 p hp) hzp.le, hzp]
      · rw [show (-100001 : ℤ) = -(100001 : ℤ) by norm_num, zpow_neg]
        exact inv_anti₀ hz'p s7.le)
    400000 (by norm_num) e z ⟨he, hz⟩

theorem cbrtIter_total (c : Ctx) (prec : Int) (maxIter : Nat) (ax : Dec) (fuel : Nat) (e : ED) (z : Dec)
    (l : LoopSt) (h1 : l.i < maxIter) (h2 : maxIter ≤ fuel + l.i) :
    (cbrtIter c prec maxIter ax fuel e z l).isSome = true := by
  have R := cbrtIter_rule c prec maxIter ax (fun _ _ l => l.i < maxIter)
    (fun e z l l' h _ hd => by
      obtain ⟨i1, -, i2⟩ := loopDone_continue_spec _ _ _ _ _ _ hd
      omega) fuel e z l
  cases h : cbrtIter c prec maxIter ax fuel e z l with
  | some r => rfl
  | none =>
    obtain ⟨_, _, l', hl, hi⟩ := R _ h h1
    omega

end Apd.CbrtC

namespace Apd.Props
open Apd Apd.CbrtL Apd.CbrtC Apd.SqrtL Apd.C20L

theorem rootSpecials3_none_inv (c : Ctx) (x : Dec) (h : rootSpecials c x 3 = none) :
    x.form = .finite ∧ x.coeff ≠ 0 := by
  unfold rootSpecials at h
  cases hf : x.form <;> simp [hf, shouldSetAsNaN, Dec.isNaN, Dec.sign] at h ⊢
  by_cases h0 : x.coeff = 0
  · simp [h0] at h
  · exact h0

/-- **C04, Cbrt: no hang.**  With the error test inside the scaling loops `Context.Cbrt` returns for EVERY operand
(any form, any exponent, any number of digits) and every context whose working precision `2·Precision + 2` does not
exceed 100000: the model never runs out of fuel. -/
theorem C04_cbrt_total (c : Ctx) (hp : c.prec * 2 + 2 ≤ 100000) (x : Dec) : (cbrtOp c x).isSome = true := by
  rw [C11_cbrt_obs_factor, Option.isSome_map]
  cases h : rootSpecials c x 3 with
  | some o => simp [cbrtPrefix, h]
  | none =>
    obtain ⟨hx, h0⟩ := rootSpecials3_none_inv c x h
    have hw := nc_nctx c hp
    have hax := absD_pos x hx h0
    have E0 := EDg.init (nc c)
    rw [cbrtPrefix_eq c x h]
    have T1 := down_total (nc c) _ hw (by omega) _ _ E0 hax
    rcases h1 : scaleLoop (fun z => decide (z.cmp decOneEighth < 0)) decEight 400000 { c := nc c } x.absD 0 with
      _ | er | ⟨ed1, z1, down⟩
    · rw [h1] at T1; cases T1
    · rfl
    obtain ⟨⟨he1, hz1⟩, -⟩ := scaleLoop_good (nc c) _ hw _ decEight decEight_pos _ _ _ _ _ _ _ E0 hax h1
    have T2 := up_total (nc c) _ hw (by omega) ed1 z1 he1 hz1
    dsimp only
    rcases h2 : scaleLoop (fun z => decide (z.cmp decOne > 0)) decOneEighth 400000 ed1 z1 0 with
      _ | er | ⟨ed2, z2, up⟩
    · rw [h2] at T2; cases T2
    · rfl
    dsimp only
    have T3 := cbrtIter_total (nc c) ((c.prec : Int) + 1) (10 + (c.prec + 1)) x.absD (10 + (c.prec + 1) + 2)
      (est ed2 z2 down up).1 (est ed2 z2 down up).2 {} (by show 0 < _; omega) (by show _ ≤ _ + 0; omega)
    rcases h3 : cbrtIter (nc c) ((c.prec : Int) + 1) (10 + (c.prec + 1)) x.absD (10 + (c.prec + 1) + 2)
      (est ed2 z2 down up).1 (est ed2 z2 down up).2 {} with _ | er | zf
    · rw [h3] at T3; cases T3
    · rfl
    · rfl

#print axioms C04_cbrt_total

end Apd.Props
