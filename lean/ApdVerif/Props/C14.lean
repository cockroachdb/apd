import ApdVerif.Props.C13
/-!
# C14 — String is the GDA to-scientific-string; the parser accepts exactly the grammar

(a) String = to-scientific-string (`C14_string_toSci`, with the exception `C14_string_zero_plain`), (b) parser =
grammar (`C14_parse_accepts_iff`, `parse_classify`), (c) `SetString` succeeds iff grammar ∧ limits
(`C14_setString_limits`), (d) `Format` layout (`C14_format_plain`, `_width`, `_minus`, `_left`); also
`C13_roundtrip_format`, which needs (d).
-/
namespace Apd.Props
open Apd Apd.Text Apd.Spec Apd.TextL Apd.GramL

theorem coefString_eq (n : Nat) : coefString n = natDigits n := by
  simp [coefString, natDigits]

theorem fmtE_sci (fmt : Char) (d : Dec) (ds : List Char) (hds : 1 ≤ ds.length) :
    fmtE fmt d ds =
      (if ds.length > 1 then List.take 1 ds ++ ['.'] ++ List.drop 1 ds else ds) ++ [fmt] ++
        (if d.exp + ((ds.length : Int) - 1) < 0 then ['-'] else ['+']) ++
        coefString (d.exp + ((ds.length : Int) - 1)).natAbs := by
  unfold fmtE
  simp only []
  rw [coefString_eq]
  have e1 : d.exp + (ds.length : Int) - 1 = d.exp + ((ds.length : Int) - 1) := by omega
  rw [e1]
  generalize d.exp + ((ds.length : Int) - 1) = adj
  have ha1 : adj < 0 → (-adj).toNat = adj.natAbs := by omega
  have ha2 : ¬ adj < 0 → adj.toNat = adj.natAbs := by omega
  cases ds with
  | nil => simp at hds
  | cons c rest =>
    cases rest with
    | nil => by_cases ha : adj < 0 <;> simp [ha, ha1, ha2]
    | cons c2 r2 => by_cases ha : adj < 0 <;> simp [ha, ha1, ha2]

theorem fmtF_plain (d : Dec) (ds : List Char) (hds : 1 ≤ ds.length) (he : d.exp ≤ 0) :
    fmtF d ds =
      if d.exp = 0 then ds
      else
        let padded := List.replicate (d.exp.natAbs - ds.length) '0' ++ ds
        (if (padded.take (padded.length - d.exp.natAbs)).isEmpty then ['0']
         else padded.take (padded.length - d.exp.natAbs)) ++ ['.'] ++
          padded.drop (padded.length - d.exp.natAbs) := by
  simp only []
  unfold fmtF
  by_cases h0 : d.exp = 0
  · simp [h0, zeros]
  · have hneg : d.exp < 0 := by omega
    simp only [hneg, h0, if_true, if_false]
    by_cases hl : -d.exp - (ds.length : Int) ≥ 0
    · rw [if_pos hl]
      have e1 : (List.replicate (d.exp.natAbs - ds.length) '0' ++ ds).length - d.exp.natAbs = 0 := by
        simp; omega
      have e2 : (-d.exp - (ds.length : Int)).toNat = d.exp.natAbs - ds.length := by omega
      rw [e1, e2]; simp [zeros]
    · rw [if_neg hl]
      have e0 : d.exp.natAbs - ds.length = 0 := by omega
      have e2 : (-(-d.exp - (ds.length : Int))).toNat = ds.length - d.exp.natAbs := by omega
      have e3 : ¬ (ds.length - d.exp.natAbs = 0) := by omega
      have e4 : ds ≠ [] := by intro h; simp [h] at hds
      rw [e0, e2]; simp [e3, e4]

/-- the documented exception: zeros with exponent in [-2000,-1] are written in plain notation.
(For exponents -6 … -1 that *is* the scientific string, so the two differ only on [-2000,-7].) -/
def ZeroPlainException (d : Dec) : Prop :=
  d.form = .finite ∧ d.coeff = 0 ∧ -2000 ≤ d.exp ∧ d.exp ≤ -7

theorem appendL_G_toSciL (d : Dec) (h : ¬ ZeroPlainException d) : appendL d 'G' = toSciL d := by
  by_cases hf : d.form = .finite
  · have hex : ¬ (d.coeff = 0 ∧ -2000 ≤ d.exp ∧ d.exp ≤ -7) := fun hh => h ⟨hf, hh⟩
    have hds : 1 ≤ (natDigits d.coeff).length := by rw [natDigits_length]; exact ndigits_pos d.coeff
    rw [appendL_G d hf (Or.inr rfl)]
    unfold toSciL
    simp only [hf, coefString_eq, gLen_of_not_exception hex, ← natDigits_length]
    generalize (if d.neg = true then ['-'] else []) = sg
    split
    · rename_i hp
      rw [fmtF_plain d _ hds hp.1]
      split <;> simp only [List.append_assoc]
    · rw [show (if ('G' : Char) = 'g' then 'e' else 'E') = 'E' from rfl, fmtE_sci 'E' d _ hds]
      simp only [List.append_assoc, coefString_eq]
  · unfold appendL toSciL
    cases hf' : d.form
    · exact absurd hf' hf
    all_goals rfl

/-- **C14 (a)**: `String()` is the GDA to-scientific-string, for every decimal of every form,
except zeros with exponent in [-2000,-7] (see `C14_string_zero_plain`). -/
theorem C14_string_toSci (d : Dec) (h : ¬ ZeroPlainException d) : Text.string d = Spec.toSci d := by
  unfold Text.string Text.append Spec.toSci
  rw [appendL_G_toSciL d h]

theorem C14_string_toSci_special (d : Dec) (h : d.form ≠ .finite) : Text.string d = Spec.toSci d :=
  C14_string_toSci d (fun hh => h hh.1)

/-- the documented exception: a zero with exponent `-k`, `1 ≤ k ≤ 2000`, is written `0.` followed by
`k` zeros (with its sign) -/
theorem C14_string_zero_plain (d : Dec) (hf : d.form = .finite) (hc : d.coeff = 0)
    (h1 : -2000 ≤ d.exp) (h2 : d.exp < 0) :
    Text.string d = String.ofList ((if d.neg then ['-'] else []) ++ '0' :: '.' :: List.replicate d.exp.natAbs '0') := by
  unfold Text.string Text.append
  rw [appendL_G d hf (Or.inr rfl), gLen_zero hc h1 h2, if_pos (by omega)]
  congr 2
  unfold fmtF
  have hl : -d.exp - ((natDigits d.coeff).length : Int) ≥ 0 := by rw [hc, natDigits_zero]; simp; omega
  have e : (-d.exp - ((natDigits d.coeff).length : Int)).toNat + 1 = d.exp.natAbs := by
    rw [hc, natDigits_zero]; simp; omega
  rw [if_pos h2, if_pos hl, ← e, hc, natDigits_zero, zeros, List.replicate_succ']

#print axioms C14_string_toSci
#print axioms C14_string_zero_plain

/-- **C14 (b)**: `setString` gets past its parsing stage (everything before `setExponent`) exactly on
the strings of the GDA numeric-string grammar whose written exponent `strconv.ParseInt(_, 10, 32)`
can represent. -/
theorem C14_parse_accepts_iff (s : String) :
    (Text.parse s).isSome = true ↔ (GdaNumeric s ∧ ExpInt32 s) :=
  -- `GdaNumeric`, `ExpInt32` unfold to the list forms `numericString`, `ExpInt32L`
  parseL_isSome_iff s.toList

/-- on a string of the grammar, what the parser returns is the denotation the specification
assigns to the string -/
theorem parse_classify {l : List Char} (hg : numericString l = true) (hr : ExpInt32L l) :
    (isSpecial l = true ∧ ∃ d, parseL l = some (d, 0) ∧ d.form ≠ .finite ∧ d.exp = 0 ∧ d.coeff = 0) ∨
    (isSpecial l = false ∧ ∃ neg, parseL l =
      some ({ form := .finite, neg := neg, exp := 0, coeff := coeffOf l }, denotedExp l)) := by
  by_cases hs : isSpecial l = true
  · obtain ⟨sg, t, rfl, hsg, hb⟩ := (isSpecial_iff l).1 hs
    exact Or.inl ⟨hs, parseL_specialBody hsg hb⟩
  · right
    have hs' : isSpecial l = false := by simpa using hs
    refine ⟨hs', ?_⟩
    rw [numericString_iff] at hg
    obtain ⟨sg, t, rfl, hsg, hf | hb⟩ := hg
    · exact ⟨decide (sg = ['-']), by rw [parseL_finBody hsg hf, if_pos hr]⟩
    · exact absurd ((isSpecial_iff _).2 ⟨sg, t, rfl, hsg, hb⟩) hs

def Succeeds (o : Option Out) : Prop := ∃ r, o = some r ∧ r.err = .none

theorem ctxSetString_special {s : String} {d : Dec} (hp : Text.parse s = some (d, 0)) (hf : d.form ≠ .finite)
    (he : d.exp = 0) (hc : d.coeff = 0) : Succeeds (Text.ctxSetString baseCtx s) := by
  have hw : d.WF := by unfold Dec.WF; rw [he, hc]; decide
  unfold Succeeds Text.ctxSetString Text.setString
  rw [hp]
  simp only [hf, if_false, if_true]
  rw [ctxRound_base d hw]
  exact ⟨_, rfl, rfl⟩

theorem ctxSetString_finite {s : String} {neg : Bool} {co : Nat} {e : Int}
    (hp : Text.parse s = some ({ form := .finite, neg := neg, exp := 0, coeff := co }, e)) :
    Succeeds (Text.ctxSetString baseCtx s) ↔ Lim co e := by
  unfold Succeeds Text.ctxSetString Text.setString
  rw [hp]
  simp only [if_true]
  by_cases hl : Lim co e
  · rw [setExponent_base_ok ⟨.finite, neg, 0, co⟩ e hl]
    simp only [goError_noFlags, if_true]
    rw [ctxRound_base _ ((Lim_iff_WF ⟨.finite, neg, e, co⟩).1 hl)]
    simp only [hl, iff_true]
    exact ⟨_, rfl, rfl⟩
  · rw [setExponent_base_sys ⟨.finite, neg, 0, co⟩ e hl]
    simp only [hl, iff_false]
    rintro ⟨r, hr, he⟩
    simp at hr
    rw [← hr] at he
    simp at he

/-- **C14 (c)**: `BaseContext.SetString` (= `apd.NewFromString`, `Decimal.SetString`) succeeds exactly
on the strings of the grammar whose written exponent fits an int32 and whose denoted decimal has
exponent and adjusted exponent within ±100000 (special values have no limits). -/
theorem C14_setString_limits (s : String) :
    Succeeds (Text.ctxSetString baseCtx s) ↔ (GdaNumeric s ∧ ExpInt32 s ∧ WithinLimits s) := by
  by_cases hp : (Text.parse s).isSome = true
  · have hge := (C14_parse_accepts_iff s).mp hp
    rcases parse_classify hge.1 hge.2 with ⟨hs, d, hd, hf, he, hc⟩ | ⟨hs, neg, hd⟩
    · have : Succeeds (Text.ctxSetString baseCtx s) := ctxSetString_special hd hf he hc
      simp only [this, true_iff]
      exact ⟨hge.1, hge.2, Or.inl hs⟩
    · rw [ctxSetString_finite hd]
      unfold WithinLimits
      constructor
      · intro hl; exact ⟨hge.1, hge.2, Or.inr hl⟩
      · rintro ⟨_, _, h | h⟩
        · rw [hs] at h; simp at h
        · exact h
  · have hn : ¬ (GdaNumeric s ∧ ExpInt32 s) := fun h => hp ((C14_parse_accepts_iff s).mpr h)
    have : ¬ Succeeds (Text.ctxSetString baseCtx s) := by
      rintro ⟨r, hr, _⟩
      unfold Text.ctxSetString Text.setString at hr
      cases hq : Text.parse s with
      | none => simp [hq] at hr
      | some x => simp [hq] at hp
    simp only [this, false_iff]
    rintro ⟨h1, h2, _⟩
    exact hn ⟨h1, h2⟩

theorem fracDigits_le (l : List Char) : fracDigits l ≤ l.length := by
  unfold fracDigits
  have h1 : (beforeIndicator l).length ≤ l.length := by
    unfold beforeIndicator
    split
    · exact Nat.le_trans (List.takeWhile_sublist _).length_le (by simp)
    · exact Nat.le_trans (List.takeWhile_sublist _).length_le (by simp)
    · exact (List.takeWhile_sublist _).length_le
  have h2 := (List.dropWhile_sublist (· != '.') (l := beforeIndicator l)).length_le
  split
  · omega
  · rename_i heq
    rw [heq] at h2
    simp at h2
    omega

theorem isSpecial_writtenExp {l : List Char} (h : isSpecial l = true) : writtenExp l = 0 := by
  rw [isSpecial_iff] at h
  obtain ⟨sg, t, rfl, hsg, hb⟩ := h
  exact writtenExp_noE (hsg.noE.append (special_noE hb))

/-- for strings shorter than 2^31 - 100001 characters (every string a Go program can hold in practice) the int32
clause is implied by the limits: the theorem as the property states it. -/
theorem C14_setString_limits' (s : String) (hlen : s.toList.length < 2147383647) :
    Succeeds (Text.ctxSetString baseCtx s) ↔ (GdaNumeric s ∧ WithinLimits s) := by
  rw [C14_setString_limits]
  constructor
  · rintro ⟨a, _, c⟩; exact ⟨a, c⟩
  · rintro ⟨a, c⟩
    refine ⟨a, ?_, c⟩
    unfold ExpInt32
    rcases c with c | c
    · rw [isSpecial_writtenExp c]; decide
    · have := fracDigits_le s.toList
      unfold denotedExp at c
      omega

/-! ## (d) `Format`: the Text form, laid out the way fmt lays out numbers -/

/-- the `Text` verb a `Format` verb stands for -/
def textVerb (verb : Char) : Option Char :=
  if verb = 'e' ∨ verb = 'E' ∨ verb = 'f' ∨ verb = 'g' ∨ verb = 'G' then some verb
  else if verb = 'F' then some 'f'
  else if verb = 'v' ∨ verb = 's' then some 'G'
  else none

theorem appendL_ne_nil (d : Dec) (verb : Char) : appendL d verb ≠ [] := by
  have hD := Digs.natDigits d.coeff
  have hne := natDigits_ne_nil d.coeff
  have hF : ∀ s, s ++ fmtF d (natDigits d.coeff) ≠ [] := fun s =>
    List.append_ne_nil_of_right_ne_nil s (fmtF_view d hD hne).1.ne_nil
  have hE : ∀ s fmt, s ++ fmtE fmt d (natDigits d.coeff) ≠ [] := fun s fmt =>
    List.append_ne_nil_of_right_ne_nil s (List.append_ne_nil_of_right_ne_nil _ (List.cons_ne_nil fmt _))
  by_cases hf : d.form = .finite
  · by_cases h1 : verb = 'e' ∨ verb = 'E'
    · rw [appendL_E d hf h1]; exact hE _ _
    · by_cases h2 : verb = 'f'
      · rw [h2, appendL_f d hf]; exact hF _
      · by_cases h3 : verb = 'g' ∨ verb = 'G'
        · rcases appendL_G_cases d hf h3 with ⟨_, e⟩ | ⟨fmt, _, e⟩ <;> rw [e]
          · exact hF _
          · exact hE _ _
        · rw [appendL_other d hf h1 h2 h3]; exact List.cons_ne_nil _ _
  · unfold appendL
    cases hf' : d.form
    · exact absurd hf' hf
    all_goals exact List.append_ne_nil_of_right_ne_nil _ (List.cons_ne_nil _ _)

/-- `Format` separates a leading sign from the text; the `+` and space flags act on that column -/
def splitFlags (plus space : Bool) (buf : List Char) : List Char × List Char :=
  match buf with
  | '-' :: t => (['-'], t)
  | '+' :: t => ((if space then [' '] else ['+']), t)
  | _ => ((if plus then ['+'] else if space then [' '] else []), buf)

theorem splitFlags_join (buf : List Char) :
    (splitFlags false false buf).1 ++ (splitFlags false false buf).2 = buf := by
  unfold splitFlags
  split <;> rfl

/-- fmt's padding of `sign ++ body` to a field width -/
def pad (minus zeroPad : Bool) (width : Option Nat) (sign body : List Char) : List Char :=
  let padding : Nat :=
    match width with
    | some w => w - (sign.length + body.length)
    | none => 0
  if minus then sign ++ body ++ List.replicate padding ' '
  else if zeroPad then sign ++ List.replicate padding '0' ++ body
  else List.replicate padding ' ' ++ sign ++ body

/-- `Format` with a verb it knows: `Text(v)` (never empty, so the `?` fallback is dead), sign column split off,
then padded -/
theorem formatL_eq (d : Dec) (verb v : Char) (hv : textVerb verb = some v) (plus minus space zero : Bool)
    (width : Option Nat) :
    formatL d verb plus minus space zero width =
      pad minus (zero && d.form = .finite) width (splitFlags plus space (appendL d v)).1
        (splitFlags plus space (appendL d v)).2 := by
  have hb : (if (appendL d v).isEmpty then ['?'] else appendL d v) = appendL d v :=
    if_neg (by simpa using appendL_ne_nil d v)
  unfold formatL
  unfold textVerb at hv
  simp only [hv, hb]
  rfl

theorem pad_length (minus zeroPad : Bool) (w : Nat) (s b : List Char) :
    (pad minus zeroPad (some w) s b).length = max w (s ++ b).length := by
  unfold pad
  split_ifs <;> simp only [List.length_append, List.length_replicate] <;> omega

theorem pad_none (s b : List Char) : pad false false none s b = s ++ b := rfl

theorem pad_minus (zeroPad : Bool) (w : Nat) (s b : List Char) :
    pad true zeroPad (some w) s b = s ++ b ++ List.replicate (w - (s ++ b).length) ' ' := by
  rw [List.length_append]; rfl

theorem pad_left (w : Nat) (s b : List Char) :
    pad false false (some w) s b = List.replicate (w - (s ++ b).length) ' ' ++ (s ++ b) := by
  rw [List.length_append, ← List.append_assoc]; rfl

/-- without flags and width, `Format` writes exactly `Text(verb)` (`%v`, `%s` → `'G'`, `%F` → `'f'`) -/
theorem C14_format_plain (d : Dec) (verb v : Char) (hv : textVerb verb = some v) :
    Text.format d verb false false false false none = Text.append d v := by
  unfold Text.format Text.append
  rw [formatL_eq d verb v hv, Bool.false_and, pad_none, splitFlags_join]

theorem C13_roundtrip_format (d : Dec) (h : d.WF) (verb : Char)
    (hv : verb = 'v' ∨ verb = 's' ∨ verb = 'G' ∨ verb = 'g' ∨ verb = 'E' ∨ verb = 'e') :
    Text.parse (Text.format d verb false false false false none) = some (reparsed d) := by
  obtain ⟨v, hv', hG⟩ : ∃ v, textVerb verb = some v ∧ (v = 'G' ∨ v = 'g' ∨ v = 'E' ∨ v = 'e') := by
    rcases hv with rfl | rfl | rfl | rfl | rfl | rfl <;> exact ⟨_, rfl, by decide⟩
  rw [C14_format_plain d verb v hv']
  exact C13_roundtrip_G d h v hG

/-- the field width: the output is the unpadded output (which does not depend on `-`, `0`) extended to
`max width len` characters … -/
theorem C14_format_width (d : Dec) (verb v : Char) (hv : textVerb verb = some v) (plus minus space zero : Bool) (w : Nat) :
    (formatL d verb plus minus space zero (some w)).length =
      max w (formatL d verb plus false space false none).length := by
  rw [formatL_eq d verb v hv, formatL_eq d verb v hv, Bool.false_and, pad_none, pad_length]

/-- … with the padding on the right, in spaces, whenever `-` is given (`-` overrides `0`) … -/
theorem C14_format_minus (d : Dec) (verb v : Char) (hv : textVerb verb = some v) (plus space zero : Bool) (w : Nat) :
    formatL d verb plus true space zero (some w) =
      formatL d verb plus false space false none ++
        List.replicate (w - (formatL d verb plus false space false none).length) ' ' := by
  rw [formatL_eq d verb v hv, formatL_eq d verb v hv, Bool.false_and, pad_none, pad_minus]

/-- … and otherwise on the left, in spaces unless `0` is given and the value is finite. -/
theorem C14_format_left (d : Dec) (verb v : Char) (hv : textVerb verb = some v) (plus space zero : Bool) (w : Nat)
    (hz : zero = false ∨ d.form ≠ .finite) :
    formatL d verb plus false space zero (some w) =
      List.replicate (w - (formatL d verb plus false space false none).length) ' ' ++
        formatL d verb plus false space false none := by
  have hzp : (zero && decide (d.form = .finite)) = false := by
    rcases hz with rfl | hz
    · rfl
    · rw [decide_eq_false hz, Bool.and_false]
  rw [formatL_eq d verb v hv, formatL_eq d verb v hv, Bool.false_and, hzp, pad_none, pad_left]

#print axioms C14_parse_accepts_iff
#print axioms C14_setString_limits
#print axioms C14_setString_limits'
#print axioms C14_format_plain
#print axioms C13_roundtrip_format
#print axioms C14_format_width
#print axioms C14_format_minus
#print axioms C14_format_left

end Apd.Props
