import ApdVerif.Spec.Agrees
import ApdVerif.Lemmas.RoundCoreLemmas
import ApdVerif.Lemmas.RoundOut
/-!
# Round core: `Context.round` (= `Rounder.Round` + `setExponent`) agrees with the specification,
and so do the operations that compute an exact intermediate and end in it.
-/
namespace Apd.Props
open Apd Apd.Oracle Cond

theorem exactRound_eq (x : Dec) : exactRound x = { neg := x.neg, num := x.coeff, den := 1, e10 := x.exp } := rfl

theorem C01_roundCore (c : Ctx) (hc : c.WF) (x : Dec) (hx : x.form = .finite)
    (h : NoSys (ctxRound c x).2) :
    Agrees c (exactRound x) (ctxRound c x).1 (ctxRound c x).2 := by
  have hp1 := hc.1
  rw [ctxRound_finite c x hx] at h ⊢
  unfold ctxRoundFin at *
  by_cases hn : x.coeff = 0
  · rw [roundX_short c x true hx hp1 (by rw [hn]; exact hp1) (Or.inl hn)] at h ⊢
    obtain ⟨z1, z2, z3, z4, z5⟩ := setExponent_zero c x {} _ hx hn benign_empty h
    exact agrees_zero c _ hn _ _ z1 z2 z3 z4 hp1 (z5 hp1 (by have := hc.2.1; have := hc.2.2.2.2; omega))
  have hpos : 0 < x.coeff := Nat.pos_of_ne_zero hn
  have hnp := ndigits_pos x.coeff
  have het := c.etiny_eq
  rcases roundX_path c x hx hp1 with ⟨-, e⟩ | ⟨d, res, δ, P, e⟩
  · rw [e] at h
    cases h.1
  rw [e] at h ⊢
  have hns := (NoSys.or_iff.1 h).2
  rw [agrees_iff, specRound_of_pos c (exactRound x) hn]
  simp only [exactRound, adjRat_one x.coeff hpos]
  cases P with
  | sub _ hadj =>
    rw [max_eq_right (by omega), decide_eq_true (by omega)]
    exact (setExponent_agrees_sub c hc x hx cSubnormal _ hns hn ⟨rfl, rfl, rfl, rfl, rfl, rfl, rfl⟩ x.exp
      (by rw [sumInts_pair]; omega) hadj).2.2
  | short hnd hadj =>
    -- nothing to drop: the specification pads the coefficient to `prec` digits
    have hadj := hadj.resolve_left hn
    rw [max_eq_left (by omega), decide_eq_false (by omega), roundAt_scale _ _ _ _ _ (by omega)]
    exact setExponent_agrees_normal c hc x hx {} _ hns hn hnd _ _ (by rw [sumInts_pair]; omega) (by omega) false
      ⟨rfl, nofun, rfl, rfl, rfl, rfl, rfl, rfl, rfl⟩
  | long y δ inex hnd hadj hy hyd h1 h2 h3 hval =>
    -- the kept coefficient `y`, shifted by the excess of `δ` over the digits dropped, is the oracle's
    rw [max_eq_left (by omega), decide_eq_false (by omega),
      show (ndigits x.coeff : Int) - 1 + x.exp - (c.prec : Int) + 1 = x.exp + (ndigits x.coeff - c.prec : Nat) by omega, hval]
    exact setExponent_agrees_normal c hc { x with coeff := y } hx _ _ hns (Nat.pos_iff_ne_zero.1 hy) hyd.le _ _
      (by rw [sumInts_pair]; omega) (by simp only [hyd]; omega) inex (roundedOnly_round inex)

/-- **`setExponent` followed by `Context.round` is one rounding** of `N × 10^r`, `r` the sum of the exponent
summands: the shape of `Mul` and of the parser.  Below `emin` the first step already rounds at Etiny and
`round` finds a decimal that fits; above `emax` it produces the infinity; in between it only sets the exponent. -/
theorem setThenRound (c : Ctx) (hc : c.WF) (neg : Bool) (N : Nat) (xs : List Int) (r : Int) (hr : sumInts xs = r)
    (h : NoSys ((setExponent c { form := .finite, neg := neg, exp := 0, coeff := N } {} xs).2 |||
      (ctxRound c (setExponent c { form := .finite, neg := neg, exp := 0, coeff := N } {} xs).1).2)) :
    Agrees c { neg := neg, num := N, den := 1, e10 := r }
      (ctxRound c (setExponent c { form := .finite, neg := neg, exp := 0, coeff := N } {} xs).1).1
      ((setExponent c { form := .finite, neg := neg, exp := 0, coeff := N } {} xs).2 |||
        (ctxRound c (setExponent c { form := .finite, neg := neg, exp := 0, coeff := N } {} xs).1).2) := by
  obtain ⟨h1, h2⟩ := NoSys.or_iff.1 h
  have hp1 := hc.1
  have hee : c.emin ≤ c.emax := by have := hc.2.1; have := hc.2.2.2.2; omega
  by_cases hN : N = 0
  · subst hN
    obtain ⟨z1, z2, z3, z4, -⟩ := setExponent_zero c _ {} xs rfl rfl benign_empty h1
    generalize setExponent c { form := .finite, neg := neg, exp := 0, coeff := 0 } {} xs = r1 at *
    rw [ctxRound_finite c r1.1 z1] at h2 ⊢
    unfold ctxRoundFin at *
    rw [roundX_short c r1.1 true z1 hp1 (by rw [z2]; exact hp1) (Or.inl z2)] at h2 ⊢
    obtain ⟨w1, w2, w3, w4, w5⟩ := setExponent_zero c r1.1 {} _ z1 z2 benign_empty h2
    exact agrees_zero c _ rfl _ _ w1 w2 (w3.trans z3) (benign_or z4 w4) hp1 (w5 hp1 hee)
  obtain ⟨hx0, ha1, ha2⟩ := setExponent_noSys _ _ _ _ hr h1
  have hpos : 0 < N := Nat.pos_of_ne_zero hN
  have het := c.etiny_eq
  by_cases c1 : r + (ndigits N : Int) - 1 < c.emin
  · obtain ⟨f1, f2, A⟩ := setExponent_agrees_sub c hc _ rfl {} xs h1 hN ⟨rfl, rfl, rfl, rfl, rfl, rfl, rfl⟩ r hr c1
    rw [Cond.empty_or] at A
    generalize setExponent c { form := .finite, neg := neg, exp := 0, coeff := N } {} xs = r1 at *
    have hfit := A.2.2
    unfold fits at hfit
    simp only [f1, Bool.and_eq_true, Bool.or_eq_true, decide_eq_true_eq] at hfit
    have hp0 : ¬ (c.prec == 0) = true := by simp; omega
    rw [ctxRound_eq c hp1 hc.2.2.2.1 (by have := hc.2.2.2.2; omega) hee r1.1 f1 h2,
      roundOut_keep c r1.1 (by have := hfit.1.1.resolve_left hp0; omega) f2 hfit.1.2]
    rw [agrees_iff, specRound_of_pos c _ hN]
    simp only [adjRat_one N hpos]
    rw [max_eq_right (by omega), decide_eq_true (by omega)]
    exact A.or_subnormal (specPack_subnormal _ _ _ _ _) _
  · have hr1 : ∀ e : Int, ({ form := .finite, neg := neg, exp := e, coeff := N } : Dec).isZero = false := by
      intro e; simp [Dec.isZero, hN]
    by_cases c3 : c.emax < r + (ndigits N : Int) - 1
    · rw [setExponent_overflow c _ {} xs hr hx0 ha2 c3 hee hc.2.2.2.1 (hr1 0)]
      rw [ctxRound_nonfinite c _ (by simp [seFinish])]
      exact agrees_inf c _ _ (specRound_overflow c hc neg N r hpos c3) _ _ rfl rfl rfl rfl rfl rfl rfl rfl rfl
        ⟨rfl, rfl, rfl, rfl⟩
    · rw [setExponent_normal c _ {} xs hr hx0 ha2 (by dsimp only; omega) (by dsimp only; omega) hc.2.2.2.1,
        seFinish_plain _ _ _ rfl] at h2 ⊢
      rw [Cond.empty_or]
      exact C01_roundCore c hc { form := .finite, neg := neg, exp := r, coeff := N } rfl h2

theorem specExact_dec (c : Ctx) (neg : Bool) (n : Nat) (e : Int) :
    specExact c { neg := neg, num := n, den := 1, e10 := e } =
      if n = 0 then some { neg := neg, m := 0, q := e }
      else if (ndigits n : Int) - 1 + e < c.emin ∨ (ndigits n : Int) - 1 + e > c.emax then none
      else some { neg := neg, m := n, q := e } := by
  simp [specExact]

theorem C01_roundCore_prec0 (c : Ctx) (hc : c.WF0) (hp : c.prec = 0) (x : Dec) (hx : x.form = .finite)
    (h : NoSys (ctxRound c x).2) :
    AgreesExact c (exactRound x) (ctxRound c x).1 (ctxRound c x).2 := by
  obtain ⟨hpe, hemax0, hemax, hemin, hemin0⟩ := hc
  rw [ctxRound_prec0 c hp x hx] at h ⊢
  intro s hs
  rw [exactRound_eq, specExact_dec] at hs
  by_cases hn : x.coeff = 0
  · rw [if_pos hn] at hs
    cases hs
    obtain ⟨z1, z2, z3, ⟨b1, -, b3, b4, -⟩, -⟩ := setExponent_zero c x {} _ hx hn benign_empty h
    exact ⟨matches_zero _ _ _ z1 z2 z3, b1, b4, b3⟩
  · rw [if_neg hn] at hs
    split at hs
    · cases hs
    · rename_i hrange
      cases hs
      obtain ⟨hx0, ha1, ha2⟩ := setExponent_noSys _ _ _ _ (sumInts_single _) h
      rw [setExponent_normal c x {} _ (sumInts_single _) hx0 ha2 (by omega) (by omega) hemin, seFinish_plain _ _ _ rfl]
      exact ⟨by simp [SpecOut.matches, hx], rfl, rfl, rfl⟩

/-- `Context.add` on finite operands once `upscale` has aligned the coefficients: one rounding of a decimal that
denotes the exact sum -/
theorem add_core_some (c : Ctx) (x y : Dec) (sub : Bool) (hx : x.form = .finite) (hy : y.form = .finite)
    (a b : Nat) (s : Int) (hu : upscale x y = some (a, b, s)) :
    ∃ d : Dec, d.form = .finite ∧ addOp c x y sub = finish c (ctxRound c d) ∧
      exactAdd c x y sub = exactRound d := by
  obtain ⟨hs, ha, hb⟩ := upscale_some x y a b s hu
  unfold addOp
  rw [shouldSetAsNaN_finite x y hx hy]
  have hfi : (Form.finite == Form.infinite) = false := by decide
  simp only [hx, hy, hfi, Bool.or_self, Bool.false_eq_true, if_false, hu]
  refine ⟨_, ?_, rfl, ?_⟩
  · split_ifs <;> rfl
  · unfold exactAdd
    subst hs
    have hyn : (if sub = true then !y.neg else y.neg) = (y.neg != sub) := by cases sub <;> simp
    simp only [← ha, ← hb, hyn]
    generalize (y.neg != sub) = yn
    by_cases hn : x.neg = yn
    · rw [if_pos (by rw [hn, beq_self_eq_true]), if_pos (by rw [hn, beq_self_eq_true])]; rfl
    · have hyx : yn = !x.neg := by revert hn; cases x.neg <;> cases yn <;> simp
      have hne : ¬ (x.neg == yn) = true := by simpa using hn
      rw [if_neg hne, if_neg hne, hyx]
      -- the two case splits test `a > b`, `a < b` and `a < b`, `a = b` in different orders
      rcases Nat.lt_trichotomy a b with h | h | h
      · rw [if_neg (Nat.lt_asymm h), if_pos h, if_pos h]; rfl
      · subst h
        rw [if_neg (Nat.lt_irrefl a), if_neg (Nat.lt_irrefl a), if_neg (Nat.lt_irrefl a),
          if_pos (beq_self_eq_true a)]; rfl
      · rw [if_pos h, if_neg (Nat.lt_asymm h), if_neg (by simp; omega)]; rfl

theorem add_core (c : Ctx) (x y : Dec) (sub : Bool) (hx : x.form = .finite) (hy : y.form = .finite) :
    (∃ d : Dec, d.form = .finite ∧ addOp c x y sub = finish c (ctxRound c d) ∧
        exactAdd c x y sub = exactRound d) ∨ (addOp c x y sub).err = .sys := by
  cases hu : upscale x y with
  | none =>
    right
    unfold addOp
    rw [shouldSetAsNaN_finite x y hx hy]
    have hfi : (Form.finite == Form.infinite) = false := by decide
    simp only [hx, hy, hfi, Bool.or_self, Bool.false_eq_true, if_false, hu]
    rfl
  | some t => exact Or.inl (add_core_some c x y sub hx hy t.1 t.2.1 t.2.2 hu)

theorem C01_round (c : Ctx) (hc : c.WF) (x : Dec) (hx : x.form = .finite)
    (h : Delivered (roundOp c x).err) :
    Agrees c (exactRound x) (roundOp c x).d (roundOp c x).fl := by
  have e : roundOp c x = finish c (ctxRound c x) := by
    unfold roundOp; rw [notNaN_of_finite x hx]; simp
  rw [e] at h ⊢
  exact C01_roundCore c hc x hx (noSys_of_delivered _ _ h)

theorem C01_abs (c : Ctx) (hc : c.WF) (x : Dec) (hx : x.form = .finite)
    (h : Delivered (absOp c x).err) :
    Agrees c (exactAbs x) (absOp c x).d (absOp c x).fl := by
  have e : absOp c x = finish c (ctxRound c x.absD) := by
    unfold absOp; rw [notNaN_of_finite x hx]; simp
  rw [e] at h ⊢
  have e2 : exactAbs x = exactRound x.absD := rfl
  rw [e2]
  exact C01_roundCore c hc x.absD hx (noSys_of_delivered _ _ h)

theorem C01_neg (c : Ctx) (hc : c.WF) (x : Dec) (hx : x.form = .finite)
    (h : Delivered (negOp c x).err) :
    Agrees c (exactNeg x) (negOp c x).d (negOp c x).fl := by
  have e : negOp c x = finish c (ctxRound c x.negD) := by
    unfold negOp; rw [notNaN_of_finite x hx]; simp
  rw [e] at h ⊢
  have hf : x.negD.form = .finite := by
    unfold Dec.negD; split_ifs <;> exact hx
  have e2 : exactNeg x = exactRound x.negD := by
    unfold exactNeg exactRound Dec.negD Dec.isZero
    by_cases h0 : x.coeff = 0
    · simp [h0, hx]
    · simp [h0, hx]
  rw [e2]
  exact C01_roundCore c hc x.negD hf (noSys_of_delivered _ _ h)

theorem C01_add (c : Ctx) (hc : c.WF) (x y : Dec) (sub : Bool)
    (hx : x.form = .finite) (hy : y.form = .finite)
    (h : Delivered (addOp c x y sub).err) :
    Agrees c (exactAdd c x y sub) (addOp c x y sub).d (addOp c x y sub).fl := by
  rcases add_core c x y sub hx hy with ⟨d, hd, e1, e2⟩ | hsys
  · rw [e1] at h ⊢
    rw [e2]
    exact C01_roundCore c hc d hd (noSys_of_delivered _ _ h)
  · rw [hsys] at h
    rcases h with h | h <;> cases h

theorem C01_add_prec0 (c : Ctx) (hc : c.WF0) (hp : c.prec = 0) (x y : Dec) (sub : Bool)
    (hx : x.form = .finite) (hy : y.form = .finite)
    (h : Delivered (addOp c x y sub).err) :
    AgreesExact c (exactAdd c x y sub) (addOp c x y sub).d (addOp c x y sub).fl := by
  rcases add_core c x y sub hx hy with ⟨d, hd, e1, e2⟩ | hsys
  · rw [e1] at h ⊢
    rw [e2]
    exact C01_roundCore_prec0 c hc hp d hd (noSys_of_delivered _ _ h)
  · rw [hsys] at h
    rcases h with h | h <;> cases h

/-- non-vacuity: inside the package limits a Round is always delivered -/
theorem roundCore_noSys (c : Ctx) (hc : c.WF) (x : Dec) (hx : x.form = .finite) (hxw : x.WF)
    (h1 : ndigits x.coeff ≤ 100000) (h2 : x.exp + (ndigits x.coeff : Int) - 1 < 100000) :
    NoSys (ctxRound c x).2 := by
  have hp1 := hc.1
  exact ctxRound_noSys_of c hp1 x hx hxw.1 hxw.2.1 (by omega) (by omega) (fun _ => h2)

end Apd.Props

#print axioms Apd.Props.C01_roundCore
#print axioms Apd.Props.C01_roundCore_prec0
#print axioms Apd.Props.C01_round
#print axioms Apd.Props.C01_abs
#print axioms Apd.Props.C01_neg
#print axioms Apd.Props.C01_add
#print axioms Apd.Props.C01_add_prec0
#print axioms Apd.Props.roundCore_noSys
