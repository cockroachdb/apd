import ApdVerif.Lemmas.C05TransPowLemmas
/-!
# C05 for the composite functions — any argument may alias the destination or another argument

The programs are those of `Imp/TransOps.lean`.  The statements have the shape of `C05_<op>` in `Props/C05.lean` — for
every heap and EVERY choice of the cells (all aliasing patterns at once): the error class of the value-level model on
the operands' prior values; if delivered, its flags, aux value and destination; frame.

`Pow` satisfies exactly that statement (`C05_pow`, against `powT`, for EVERY aliasing, destination compared whenever
the outcome is delivered): on the error exit of the fractional part (`if err := ed.Err(); err != nil`) `Context.Pow`
does `d.Set(decimalNaN)` before `return ed.Flags, err` (DESIGN §7), so every outcome of `powT` has a definite
destination; the `example` after `C05_pow` shows NaN for both aliasings on such an input.

The other five carry the suffix `_partial` for one reason, which is a modelling convention and not a property of the
Go code: the value-level models describe a call on a FRESH destination, and a composite function that gives up
because its internal `ErrDecimal` holds an error (`return 0, err`) is modelled by `failOut err` (flags 0, zero
destination).  When that error is a trapped condition the outcome is "delivered" but the model's destination is a
placeholder (`Out.Aborted`: flags 0 and error class `trap`); the cell then holds what it held when the function gave
up (`Sqrt`: its previous contents, `C05_sqrt_abort_keeps`).  So the destination is compared only when the model's
outcome is not `Aborted`.  Counterexample to the unconditional statement for `Sqrt`
(`C05_sqrt_unconditional_false`): `c = {prec := 5, traps := {inexact}}`, `h 0 = 7`, `h 1 = 2`, `d = 0`, `x = 1`: Go
and the program return `(0, trap)` and leave `7` in `d`; `sqrtOp c 2 = failOut .trap` has `d = 0`.
-/
namespace Apd.Imp
open Apd.Cond

/-- the statement of C05 for one run of a composite function with a decision tape -/
def TTSpec (r : Option (Res × Tape) × Heap) (d : Cell) (h : Heap) (m : Option (Out × Tape)) : Prop :=
  (match m with
   | none => r.1 = none
   | some (m, t) => ∃ res, r.1 = some (res, t) ∧ res.2.1 = m.err ∧
       (Delivered res.2.1 → res.1 = m.fl ∧ (¬ m.Aborted → r.2 d = m.d) ∧ res.2.2 = m.aux)) ∧
  ∀ cell, cell ≠ d → r.2 cell = h cell

theorem TTRes.spec {r : Option (Res × Tape) × Heap} {d : Cell} {h : Heap} {m : Option (Out × Tape)}
    (hr : TTRes r d h m) : TTSpec r d h m := by
  cases m with
  | none =>
    obtain ⟨h1, v, h2⟩ := hr
    exact ⟨h1, fun cell hc => by rw [h2]; exact Heap.set_other _ _ hc⟩
  | some mt =>
    obtain ⟨m, t⟩ := mt
    obtain ⟨res, h1, ht⟩ := hr
    obtain ⟨e1, e2, e3⟩ := ht.spec
    exact ⟨⟨res, h1, e1, e2⟩, e3⟩

/-- the statement of C05 in the exact shape of `C05_<op>` (destination compared whenever the outcome is delivered),
for a function with a decision tape -/
def STSpec (r : Option (Res × Tape) × Heap) (d : Cell) (h : Heap) (m : Option (Out × Tape)) : Prop :=
  (match m with
   | none => r.1 = none
   | some (m, t) => ∃ res, r.1 = some (res, t) ∧ res.2.1 = m.err ∧
       (Delivered res.2.1 → res.1 = m.fl ∧ r.2 d = m.d ∧ res.2.2 = m.aux)) ∧
  ∀ cell, cell ≠ d → r.2 cell = h cell

theorem STRes.spec {r : Option (Res × Tape) × Heap} {d : Cell} {h : Heap} {m : Option (Out × Tape)}
    (hr : STRes r d h m) : STSpec r d h m := by
  cases m with
  | none =>
    obtain ⟨h1, v, h2⟩ := hr
    exact ⟨h1, fun cell hc => by rw [h2]; exact Heap.set_other _ _ hc⟩
  | some mt =>
    obtain ⟨m, t⟩ := mt
    obtain ⟨res, h1, fl, aux, v, hv, hd⟩ := hr
    have e1 : res = (fl, m.err, aux) := (Prod.mk.inj hv).1
    have e2 : r.2 = h.set d v := (Prod.mk.inj hv).2
    subst e1
    refine ⟨⟨_, h1, rfl, fun hdel => ?_⟩, fun cell hc => by rw [e2]; exact Heap.set_other _ _ hc⟩
    obtain ⟨a1, a2, a3⟩ := hd hdel
    exact ⟨a1, by rw [e2, a3]; simp, a2⟩

theorem STSpec.toT {r : Option (Res × Tape) × Heap} {d : Cell} {h : Heap} {m : Option (Out × Tape)}
    (hs : STSpec r d h m) : TTSpec r d h m := by
  cases m with
  | none => exact hs
  | some mt =>
    obtain ⟨m, t⟩ := mt
    obtain ⟨⟨res, h1, e1, e2⟩, e3⟩ := hs
    exact ⟨⟨res, h1, e1, fun hd => ⟨(e2 hd).1, fun _ => (e2 hd).2.1, (e2 hd).2.2⟩⟩, e3⟩

theorem TTSpec.of_not_aborted {r : Option (Res × Tape) × Heap} {d : Cell} {h : Heap} {m : Out} {t : Tape}
    (hs : TTSpec r d h (some (m, t))) (hna : ¬ m.Aborted) :
    ∃ res, r.1 = some (res, t) ∧ res.2.1 = m.err ∧
      (Delivered res.2.1 → res.1 = m.fl ∧ r.2 d = m.d ∧ res.2.2 = m.aux) ∧
      ∀ cell, cell ≠ d → r.2 cell = h cell := by
  obtain ⟨⟨res, h1, e1, e2⟩, e3⟩ := hs
  exact ⟨res, h1, e1, fun hd => ⟨(e2 hd).1, (e2 hd).2.1 hna, (e2 hd).2.2⟩, e3⟩

theorem failWith_ne_trap {e : ErrKind} (he : e ≠ .trap) : (failWith e).err ≠ .trap := he

end Apd.Imp

namespace Apd.Props
open Apd.Imp

theorem C05_sqrt_partial (c : Ctx) (d x : Cell) (h : Heap) :
    let r := run (sqrtP c d (.cell x)) h
    let m := sqrtOp c (h x)
    r.1.2.1 = m.err ∧
    (Delivered r.1.2.1 → r.1.1 = m.fl ∧ (¬ m.Aborted → r.2 d = m.d) ∧ r.1.2.2 = m.aux) ∧
    ∀ cell, cell ≠ d → r.2 cell = h cell :=
  (sqrtP_run c d (.cell x) h).spec

theorem C05_sqrt (c : Ctx) (d x : Cell) (h : Heap) (hna : ¬ (sqrtOp c (h x)).Aborted) :
    let r := run (sqrtP c d (.cell x)) h
    let m := sqrtOp c (h x)
    r.1.2.1 = m.err ∧ (Delivered r.1.2.1 → r.1.1 = m.fl ∧ r.2 d = m.d ∧ r.1.2.2 = m.aux) ∧
    ∀ cell, cell ≠ d → r.2 cell = h cell := by
  obtain ⟨h1, h2, h3⟩ := C05_sqrt_partial c d x h
  exact ⟨h1, fun hd => ⟨(h2 hd).1, (h2 hd).2.1 hna, (h2 hd).2.2⟩, h3⟩

theorem C05_sqrt_of_no_traps (c : Ctx) (ht : c.traps = {}) (d x : Cell) (h : Heap) :
    let r := run (sqrtP c d (.cell x)) h
    let m := sqrtOp c (h x)
    r.1.2.1 = m.err ∧ (Delivered r.1.2.1 → r.1.1 = m.fl ∧ r.2 d = m.d ∧ r.1.2.2 = m.aux) ∧
    ∀ cell, cell ≠ d → r.2 cell = h cell :=
  C05_sqrt c d x h (sqrtOp_not_aborted_of_no_traps c ht (h x))

/-- an aborted `Sqrt` (a trapped condition inside the iteration) leaves every cell, the destination included,
as it was -/
theorem C05_sqrt_abort_keeps (c : Ctx) (d x : Cell) (h : Heap) (ha : (sqrtOp c (h x)).Aborted) :
    (run (sqrtP c d (.cell x)) h).2 = h :=
  sqrtP_abort_keeps c d (.cell x) h ha

/-- `Context.Cbrt(d, x)`; the model takes fuel: when it runs out (`none`) so does the program, having written
nothing -/
theorem C05_cbrt_partial (c : Ctx) (d x : Cell) (h : Heap) :
    match cbrtOp c (h x) with
    | none => run (cbrtP c d (.cell x)) h = (none, h)
    | some m =>
      ∃ res, (run (cbrtP c d (.cell x)) h).1 = some res ∧
        let h' := (run (cbrtP c d (.cell x)) h).2
        res.2.1 = m.err ∧
        (Delivered res.2.1 → res.1 = m.fl ∧ (¬ m.Aborted → h' d = m.d) ∧ res.2.2 = m.aux) ∧
        ∀ cell, cell ≠ d → h' cell = h cell := by
  have := cbrtP_run c d (.cell x) h
  unfold TOptRun at this
  simp only [Src.val_cell] at this
  cases hm : cbrtOp c (h x) with
  | none => rw [hm] at this; exact this
  | some m =>
    rw [hm] at this
    obtain ⟨r, hr, ht⟩ := this
    exact ⟨r, hr, ht.spec⟩

/-! ## Exp, Ln, Log10 (the decision tape is an argument of program and model alike) -/

theorem C05_exp_partial (c : Ctx) (d x : Cell) (tape : Tape) (h : Heap) :
    TTSpec (run (expP c d (.cell x) tape) h) d h (expT c (h x) tape) :=
  (expP_run c d (.cell x) tape h).spec

theorem C05_ln_partial (c : Ctx) (d x : Cell) (tape : Tape) (h : Heap) :
    TTSpec (run (lnP c d (.cell x) tape) h) d h (lnT c (h x) tape) :=
  (lnP_run c d (.cell x) tape h).spec

theorem C05_log10_partial (c : Ctx) (d x : Cell) (tape : Tape) (h : Heap) :
    TTSpec (run (log10P c d (.cell x) tape) h) d h (log10T c (h x) tape) :=
  (log10P_run c d (.cell x) tape h).spec

theorem C05_pow (c : Ctx) (d x y : Cell) (tape : Tape) (h : Heap) :
    STSpec (run (powP c d (.cell x) (.cell y) tape) h) d h (powT c (h x) (h y) tape) :=
  (powP_run c d (.cell x) (.cell y) tape h).spec

/-! ### a failed fractional `Pow` leaves NaN for both aliasings

A trapped Overflow in the `Exp` of the fractional part (small numbers, and a tape chosen to make `Exp` report the
overflow, so that the kernel can evaluate it). -/

def cexPowTape : Tape :=
  [.est { neg := true, coeff := 2302585, exp := -6 }, .cp 13, .n 16, .cp 13, .n 16, .cp 1]
def cexPowX : Dec := { coeff := 1, exp := 40 }
def cexPowY : Dec := { coeff := 9, exp := -1 }
def cexPowHeap : Heap := fun c => if c = 1 then cexPowX else if c = 2 then cexPowY else {}

theorem pow_trap_run (c : Ctx) (d x y : Cell) (tape : Tape) (h : Heap) {D : Dec} {n : Nat}
    (hm : (powT c (h x) (h y) tape).map (fun r => (r.1.d, r.1.fl.toNat, r.1.err)) = some (D, n, .trap)) :
    (run (powP c d (.cell x) (.cell y) tape) h).1.map (fun r => (r.1.1.toNat, r.1.2.1)) = some (n, .trap) ∧
    (run (powP c d (.cell x) (.cell y) tape) h).2 d = D := by
  have hs := C05_pow c d x y tape h
  cases hp : powT c (h x) (h y) tape with
  | none => rw [hp] at hm; cases hm
  | some mt =>
    obtain ⟨m, t⟩ := mt
    rw [hp] at hm hs
    obtain ⟨⟨res, h1, h2, h3⟩, _⟩ := hs
    simp only [Option.map_some, Option.some.injEq, Prod.mk.injEq] at hm
    obtain ⟨hd, hf, he⟩ := hm
    obtain ⟨a1, a2, _⟩ := h3 (by rw [h2, he]; exact Or.inr rfl)
    rw [h1]
    exact ⟨by simp only [Option.map_some, a1, hf, h2, he], by rw [a2, hd]⟩

set_option maxRecDepth 1000000 in
set_option exponentiation.threshold 100000 in
/-- `Pow(d, x, y)` with `d ≠ x` (cell 0) and with `d = x` (cell 1): same flags, same trapped error, NaN in `d`; and so
says `powT` -/
example :
    ((run (powP { prec := 1 } 0 (.cell 1) (.cell 2) cexPowTape) cexPowHeap).1.map (fun r => (r.1.1.toNat, r.1.2.1)) =
        some (84, .trap) ∧
     (run (powP { prec := 1 } 0 (.cell 1) (.cell 2) cexPowTape) cexPowHeap).2 0 = decNaN) ∧
    ((run (powP { prec := 1 } 1 (.cell 1) (.cell 2) cexPowTape) cexPowHeap).1.map (fun r => (r.1.1.toNat, r.1.2.1)) =
        some (84, .trap) ∧
     (run (powP { prec := 1 } 1 (.cell 1) (.cell 2) cexPowTape) cexPowHeap).2 1 = decNaN) ∧
    (powT { prec := 1 } cexPowX cexPowY cexPowTape).map (fun r => (r.1.d, r.1.fl.toNat, r.1.err)) =
      some (decNaN, 84, .trap) := by
  -- the model is evaluated once; the two runs follow from it by `C05_pow`
  have hm : (powT { prec := 1 } cexPowX cexPowY cexPowTape).map (fun r => (r.1.d, r.1.fl.toNat, r.1.err)) =
      some (decNaN, 84, .trap) := by decide +kernel
  exact ⟨pow_trap_run _ 0 1 2 _ cexPowHeap hm, pow_trap_run _ 1 1 2 _ cexPowHeap hm, hm⟩

/-! ### the unconditional statement is false for an aborted call

`c = {Precision 5, Traps = Inexact}`, `d` holds `7`, `x` holds `2`: the first inexact division of the iteration traps,
`Sqrt` returns `(0, "inexact")` and `d` still holds `7` (checked against the Go code: `Sqrt(d, 2)` prints
`d=7 res=0 err=inexact`), whereas the model's outcome on a fresh destination is `failOut .trap` with `d = 0`. -/

def cexSqrtCtx : Ctx := { prec := 5, traps := { inexact := true } }
def cexSqrtHeap : Heap := fun c => if c = 0 then { coeff := 7 } else if c = 1 then { coeff := 2 } else {}

set_option maxRecDepth 100000 in
theorem C05_sqrt_unconditional_false :
    ¬ ∀ (c : Ctx) (d x : Cell) (h : Heap),
      let r := run (sqrtP c d (.cell x)) h
      let m := sqrtOp c (h x)
      r.1.2.1 = m.err ∧ (Delivered r.1.2.1 → r.1.1 = m.fl ∧ r.2 d = m.d ∧ r.1.2.2 = m.aux) ∧
      ∀ cell, cell ≠ d → r.2 cell = h cell := by
  intro hall
  obtain ⟨_, h2, _⟩ := hall cexSqrtCtx 0 1 cexSqrtHeap
  have e1 : (run (sqrtP cexSqrtCtx 0 (.cell 1)) cexSqrtHeap).1 = ({}, .trap, 0) := by decide +kernel
  have e2 : (run (sqrtP cexSqrtCtx 0 (.cell 1)) cexSqrtHeap).2 0 = { coeff := 7 } := by decide +kernel
  have e3 : sqrtOp cexSqrtCtx (cexSqrtHeap 1) = failOut .trap := by decide +kernel
  have := (h2 (by rw [e1]; exact Or.inr rfl)).2.1
  rw [e2, e3] at this
  exact absurd this (by decide)

/-- the value-level model by op name (the tables of `runCtxOp` / `runCtxOpT` in `Model/Dispatch.lean`) -/
def modelTransOp (op : String) (c : Ctx) (x y : Dec) (tape : Tape) : Option (Option (Out × Tape)) :=
  if op = "sqrt" then some (some (sqrtOp c x, tape))
  else if op = "cbrt" then some ((cbrtOp c x).map (fun o => (o, tape)))
  else if op = "exp" then some (expT c x tape)
  else if op = "ln" then some (lnT c x tape)
  else if op = "log10" then some (log10T c x tape)
  else if op = "pow" then some (powT c x y tape)
  else none

theorem transOp_row {op s : String} {d : Cell} {h : Heap} {p P : Prog (Option (Res × Tape))}
    {M : Option (Out × Tape)} {R : Option (Prog (Option (Res × Tape)))} {R' : Option (Option (Out × Tape))}
    (hrun : TTSpec (run P h) d h M) (hp : (if op = s then some P else R) = some p)
    (hrest : R = some p → ∃ m, R' = some m ∧ TTSpec (run p h) d h m) :
    ∃ m, (if op = s then some M else R') = some m ∧ TTSpec (run p h) d h m := by
  by_cases h0 : op = s
  · rw [if_pos h0] at hp ⊢; cases hp; exact ⟨_, rfl, hrun⟩
  · rw [if_neg h0] at hp ⊢; exact hrest hp

theorem sqrt_row (c : Ctx) (d x : Cell) (tape : Tape) (h : Heap) :
    TTSpec (run (do let r ← sqrtP c d (.cell x); pure (some (r, tape))) h) d h (some (sqrtOp c (h x), tape)) := by
  simp only [run_bind, run_pure]
  exact (TTRes.mk (sqrtP_run c d (.cell x) h)).spec

theorem cbrt_row (c : Ctx) (d x : Cell) (tape : Tape) (h : Heap) :
    TTSpec (run (do let r ← cbrtP c d (.cell x); pure (r.map (fun r => (r, tape)))) h) d h
      ((cbrtOp c (h x)).map (fun o => (o, tape))) := by
  have := cbrtP_run c d (.cell x) h
  unfold TOptRun at this
  simp only [Src.val_cell] at this
  simp only [run_bind, run_pure]
  cases hm : cbrtOp c (h x) with
  | none =>
    rw [hm] at this
    rw [this]
    exact (TTRes.reject d h).spec
  | some m =>
    rw [hm] at this
    obtain ⟨r, hr, ht⟩ := this
    rw [hr]
    exact (TTRes.mk ht).spec

/-- C05 for the whole table: every program of `Imp.runTransOp` meets the contract against the model of the same
name -/
theorem C05_transOp {op : String} {c : Ctx} {d x y : Cell} {tape : Tape} {p : Prog (Option (Res × Tape))}
    (hp : runTransOp op c d x y tape = some p) (h : Heap) :
    ∃ m, modelTransOp op c (h x) (h y) tape = some m ∧ TTSpec (run p h) d h m := by
  unfold runTransOp at hp
  unfold modelTransOp
  refine transOp_row (sqrt_row c d x tape h) hp fun hp => ?_
  refine transOp_row (cbrt_row c d x tape h) hp fun hp => ?_
  refine transOp_row (C05_exp_partial c d x tape h) hp fun hp => ?_
  refine transOp_row (C05_ln_partial c d x tape h) hp fun hp => ?_
  refine transOp_row (C05_log10_partial c d x tape h) hp fun hp => ?_
  refine transOp_row (C05_pow c d x y tape h).toT hp fun hp => ?_
  cases hp

end Apd.Props

#print axioms Apd.Props.C05_sqrt_partial
#print axioms Apd.Props.C05_sqrt
#print axioms Apd.Props.C05_sqrt_of_no_traps
#print axioms Apd.Props.C05_sqrt_abort_keeps
#print axioms Apd.Props.C05_sqrt_unconditional_false
#print axioms Apd.Props.C05_cbrt_partial
#print axioms Apd.Props.C05_exp_partial
#print axioms Apd.Props.C05_ln_partial
#print axioms Apd.Props.C05_log10_partial
#print axioms Apd.Props.C05_pow
#print axioms Apd.Props.C05_transOp
