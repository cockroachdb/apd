import ApdVerif.Lemmas.Log10Acc
import ApdVerif.Props.TransLog
/-!
# C12 for `Context.Log10`, proved on the tape model

`Log10` runs `Ln` at `Precision + 2` digits in a half-even copy of `BaseContext` (so that `Ln` itself works with
`Precision + 4` digits), multiplies by the pre-rounded `1/ln 10` table entry in a `Precision`-digit half-even
context, and rounds the product once more in the caller's context and mode.  With `P = Precision`,
`u₂ = 10^(-P-1)/2`, `ulp = 10^(Oracle.ulpOf c result).e`, `ρ = 1/2` (half modes) or `1` (directed modes),
`N` = number of series terms of the inner `Ln` (`lnTermsN (log10Nc c) x`, 0 on the Halley path):

    |result - log10 x| ≤ (ρ + 3/5 + (N+5)/1500)·ulp + u₂/25            `C12_log10_accurate`

under the decidable `Log10TapeOK c x tape` (Oracle/Log10TapeOK.lean: `LnTapeOK` for the inner call, `P + 4 ≤ 90`
for the two certified tables; `true` on all 6302 recorded real calls).  The `ρ` is the SECOND rounding (the product
is already rounded half-even to `P` digits, so in the normal exponent range the second rounding is the identity and
the caller's rounding mode has no effect: the result is the half-even one, about 0.6 ulp from the truth).  The inner
`Ln`'s weakness for `x ∈ (1.1, e^0.1)` costs nothing here: the two extra digits absorb it.
-/
namespace Apd.Props
open Apd Apd.Oracle Apd.ExpAcc Apd.LnAcc Apd.C12IL Cond

/-- the `1/ln 10` digit string of const.go against the real number, to 94 digits -/
theorem C12_log10_inv_cert :
    |(invLn10Coeff : ℝ) * (10 : ℝ) ^ invLn10Exp - 1 / Real.log 10| ≤ (10 : ℝ) ^ (-(94 : ℤ)) := invLn10_cert

/-- the table entry used at `3 ≤ p ≤ 90` -/
theorem C12_log10_inv_table_near (p : Nat) (hp1 : 3 ≤ p) (hp : p ≤ 90) :
    (invLn10At p).form = .finite ∧ |rv (invLn10At p) - 1 / Real.log 10| ≤ 1001 / 10000 * uR p ∧
    43 / 100 ≤ rv (invLn10At p) ∧ rv (invLn10At p) ≤ 44 / 100 := invLn10At_near p hp1 hp

/-- the inner `Ln` of `Log10` (wide half-even caller context): `|l - ln x| ≤ e₁·|l| + 0.09·u₂`,
`e₁ = u₂(1.031 + 0.012564(N+5)) ≤ 0.007` -/
theorem C12_log10_inner_ln (c : Ctx) (hc1 : 1 ≤ c.prec) (hp : c.prec + 4 ≤ 90) (x : Dec) (tape tp : Tape) (l : Out)
    (hok : LnTapeOK (log10Nc c) x tape = true) (hsp : logSpecials (log10Nc c) x = none)
    (hl : lnT (log10Nc c) x tape = some (l, tp)) (he : l.err = .none) :
    l.d.form = .finite ∧
      |rv l.d - Real.log (rv x)| ≤ lnRelE (uR (c.prec + 2)) (lnTermsN (log10Nc c) x) * |rv l.d| +
        9 / 100 * uR (c.prec + 2) :=
  ln_wide_result c hc1 hp x tape tp l hok hsp hl he

/-- `Context.Log10` on the tape model: every delivered finite result is within
`(ρ + 3/5 + (N+5)/1500)·ulp + u₂/25` of `log10 x` -/
theorem C12_log10_accurate (c : Ctx) (hc : c.WF) (x : Dec) (tape r' : Tape) (o : Out)
    (hok : Log10TapeOK c x tape = true)
    (h : log10T c x tape = some (o, r')) (he : o.err = .none) (hf : o.d.form = .finite) :
    |((o.d.toRat : ℚ) : ℝ) - Real.log ((x.toRat : ℚ) : ℝ) / Real.log 10| ≤
      (((rhoMode c.mode : ℚ) : ℝ) + 3 / 5 + ((lnTermsN (log10Nc c) x : ℕ) + 5 : ℝ) / 1500) *
        (10 : ℝ) ^ (ulpOf c o.d).e + 1 / 25 * ((10 : ℝ) ^ (-(c.prec : ℤ) - 1) / 2) := by
  rw [← uR_prec]
  exact log10_main c hc x tape r' o hok h (Or.inl he) hf

/-- the same for an outcome delivered with a trap error -/
theorem C12_log10_accurate_delivered (c : Ctx) (hc : c.WF) (x : Dec) (tape r' : Tape) (o : Out)
    (hok : Log10TapeOK c x tape = true)
    (h : log10T c x tape = some (o, r')) (hd : DeliveredT c o) (hf : o.d.form = .finite) :
    |rv o.d - Real.log (rv x) / Real.log 10| ≤
      (((rhoMode c.mode : ℚ) : ℝ) + 3 / 5 + ((lnTermsN (log10Nc c) x : ℕ) + 5 : ℝ) / 1500) *
        (10 : ℝ) ^ (ulpOf c o.d).e + 1 / 25 * uR (c.prec + 2) :=
  log10_main c hc x tape r' o hok h hd hf

/-- when the result is at least `0.01` in magnitude the additive term is at most `ulp/50` -/
theorem C12_log10_ulps (c : Ctx) (hc : c.WF) (x : Dec) (tape r' : Tape) (o : Out)
    (hok : Log10TapeOK c x tape = true)
    (h : log10T c x tape = some (o, r')) (hd : DeliveredT c o) (hf : o.d.form = .finite)
    (hadj : -2 ≤ (ndigits o.d.coeff : Int) - 1 + o.d.exp) :
    |rv o.d - Real.log (rv x) / Real.log 10| ≤
      (((rhoMode c.mode : ℚ) : ℝ) + 31 / 50 + ((lnTermsN (log10Nc c) x : ℕ) + 5 : ℝ) / 1500) *
        (10 : ℝ) ^ (ulpOf c o.d).e := by
  have := log10_main c hc x tape r' o hok h hd hf
  have hu : uR (c.prec + 2) ≤ _ * (10 : ℝ) ^ (ulpOf c o.d).e := u_le_ulp c o.d (-2) hadj
  norm_num at hu
  have hU : ulpExp c o.d = (ulpOf c o.d).e := rfl
  rw [hU] at this
  linarith

/-! ## `Log10TapeOK` on real tapes

Kernel-checked instances with tapes the Go code produced: -/

def l10Ctx (p : Nat) : Ctx := { prec := p, emax := 100000, emin := -100000, mode := .halfEven }

example : Log10TapeOK (l10Ctx 5) { coeff := 2 }
    [.est { neg := true, coeff := 16094379124341003, exp := -16 }, .cp 9, .n 9, .cp 9, .n 9] = true := by decide +kernel
example : (log10T (l10Ctx 5) { coeff := 2 }
    [.est { neg := true, coeff := 16094379124341003, exp := -16 }, .cp 9, .n 9, .cp 9, .n 9]).map
    (fun p => (p.1.d, p.1.err, p.2.length)) = some ({ coeff := 30103, exp := -5 }, .none, 0) := by decide +kernel
/-- `log10 1.103146` at 4 digits is `0.04263` (true value `0.0426330…`): fine, although the inner `Ln` is in its bad zone -/
example : (log10T (l10Ctx 4) { coeff := 1103146, exp := -6 }
    [.est { neg := true, coeff := 22044189952085236, exp := -16 }, .cp 8, .n 9, .cp 8, .n 9]).map
    (fun p => (p.1.d, p.1.err, p.2.length)) = some ({ coeff := 4263, exp := -5 }, .none, 0) := by decide +kernel

end Apd.Props

#print axioms Apd.Props.C12_log10_inv_cert
#print axioms Apd.Props.C12_log10_inv_table_near
#print axioms Apd.Props.C12_log10_inner_ln
#print axioms Apd.Props.C12_log10_accurate
#print axioms Apd.Props.C12_log10_accurate_delivered
#print axioms Apd.Props.C12_log10_ulps
