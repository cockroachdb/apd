import ApdVerif.Lemmas.SqrtIter
import ApdVerif.Lemmas.C11SqrtLemmas
/-!
# C11 — `Context.Sqrt` returns the correctly rounded square root

Three ingredients (the theorems of Props/C11Settle.lean do not enter; `sqrtChoice`, `sqrtChoice_rat`, `settleT`,
`sqrtSettle_eq` and `settleT_eq'` of Lemmas/C11SettleLemmas.lean do):
* `SqrtI.iter_close` (Lemmas/SqrtIter.lean, on top of the real-number analysis of Lemmas/SqrtNewton.lean):
  the Newton iterate `A` is within `δ = 10^(-workp-3)` of `√f`, stated on squares;
* the settling step compares the square of a midpoint with the operand exactly (Lemmas/C11SettleLemmas.lean); read over
  `ℚ` its choice is `C11Q.choice` (Lemmas/NearRoot.lean), as is the specification's coefficient;
* the shape of `Context.round` before and after it (Lemmas/RoundShape.lean, `ctxRound` on a decimal inside the package
  limits; `C01_roundCore` for the digit counts).

`δ` is more than a thousand times smaller than the rounding quantum `u` of the result, so the truncated iterate
`t` satisfies `t - u/2 < √x < t + 3u/2` and the comparison with the midpoint `t + u/2` picks the multiple
of the iterate's quantum nearest to `√x` (`C11Q.Near_choice_of`, `C11Q.caseS`).  Where iterate and root lie on
different sides of a power of ten their quanta differ by a factor 10; the root is then so close to that power of ten
that the number selected on the iterate's grid is the nearest one on the specification's grid as well
(`C11Q.near_transfer`).  `C11Q.Near_unique` identifies the selected coefficient with the specification's
(`C11Q.sM_facts`): `C11Q.tail_core`.

## Why `Dom` alone does not suffice

`Dom` bounds the working precision
(`workp + 6 ≤ 100000`) but not its sum with the half exponent of the operand: after the loop the iterate
(`workp + 5` digits, value in `[0.09, 1.1]`, exponent about `-(workp + 6)`) is shifted by `e/2`, and the first
`Context.round` of the tail passes that exponent to `setExponent`, which returns SystemUnderflow for an exponent
below `-100000` — `Sqrt` returns a system error.  Counterexample (by `#eval`; the kernel cannot evaluate a
50006-digit iteration): `c = {prec := 50000, emax := 100000, emin := -100000}`,
`x = 1E-100000`: `Dom c x` holds, `workp = 50001`, `e/2 = -49999`, the iterate is `1000…0E-50006`
(50006 digits), the shifted exponent is `-100005`, and `sqrtOp c x` has `err = .sys` with
SystemUnderflow | Underflow.  `C11_sqrt_sys` below proves that this happens whenever the shifted exponent is
below `-100000`; `C11_sqrt_correct_partial` is the theorem under the extra hypothesis
`workp + 6 ≤ 100000 + e/2` (sufficient for the shifted exponent to be in range), and `C11_sqrt_correct_core` the one
under the exact condition `-100000 ≤ exponent of the iterate + e/2`.

Exact root ⇒ no Inexact: `C11_sqrt_exact` (Props/C11SqrtExact.lean).
-/
namespace Apd.Props
open Apd Apd.Oracle Apd.SqrtD Apd.C11Q Apd.C20L Apd.RatSpec

theorem rootSpecials_none (c : Ctx) (x : Dec) (hx : x.form = .finite) (hn : x.neg = false) (h0 : x.coeff ≠ 0) :
    rootSpecials c x 2 = none := by
  rw [rootSpecials_other c 2 (notNaN_of_finite x hx) (by rw [hx]; rfl) (by simp [Dec.isZero, hx, h0]), hn]
  rfl

/-- the exponent taken out of the operand is even; its half is one more than the adjusted exponent of the root -/
theorem e_half (x : Dec) :
    ∃ hh : Int, e x = 2 * hh ∧ Int.tdiv (e x) 2 = hh ∧
      fdiv2 ((ndigits x.coeff : Int) - 1 + x.exp) = hh - 1 := by
  obtain ⟨hh, h1, h2, h3⟩ := scale_norm x
  refine ⟨hh, h1, by rw [h1]; exact Int.mul_tdiv_cancel_left _ (by decide), ?_⟩
  unfold fdiv2
  rw [Int.fdiv_eq_ediv_of_nonneg _ (by decide)]
  omega

theorem magQ_x_eq (x : Dec) : magQ x = magQ (f x) * (10 : ℚ) ^ (e x) := by
  obtain ⟨hh, h1, h2, -⟩ := scale_norm x
  unfold magQ
  rw [show (f x).coeff = x.coeff from rfl, mul_assoc, ← zpow_add₀ ten_ne, h1, h2]
  congr 2; omega

/-- the conclusion of `SqrtI.iter_close`; hypothesis of `C11_sqrt_correct_partial_of` -/
def IterClose (c : Ctx) (x : Dec) : Prop :=
  let it := iter c x
  let A : ℚ := it.2.toRat
  let F : ℚ := (f x).toRat
  let δ : ℚ := (10 : ℚ) ^ (-(workp c x : ℤ) - 3)
  it.1.failed = false ∧ it.2.form = .finite ∧ it.2.neg = false ∧
  ndigits it.2.coeff ≤ workp c x + 5 ∧
  9 / 100 ≤ A ∧ A ≤ 11 / 10 ∧ 1 / 100 ≤ F ∧ F < 1 ∧
  (A - δ) ^ 2 < F ∧ F < (A + δ) ^ 2

theorem iterClose_of_dom (c : Ctx) (x : Dec) (h : Dom c x) : IterClose c x := SqrtI.iter_close c x h

theorem dhyp_of_iter (c : Ctx) (x : Dec) (h : Dom c x) (hic : IterClose c x) (hh : Int) (he2 : e x = 2 * hh)
    (hf2 : fdiv2 ((ndigits x.coeff : Int) - 1 + x.exp) = hh - 1)
    (hr : -100000 ≤ (iter c x).2.exp + hh) :
    DHyp c x { (iter c x).2 with exp := (iter c x).2.exp + hh } hh
      ((10 : ℚ) ^ (-(workp c x : ℤ) - 3) * (10 : ℚ) ^ hh) := by
  have ic := hic
  unfold IterClose at ic
  dsimp only at ic
  obtain ⟨-, i2, i3, i4, i5, i6, i7, i8, i9, i10⟩ := ic
  obtain ⟨hc, ht, hx, hxn, hx0, hw, hd⟩ := h
  obtain ⟨w1, w2, w3, w4⟩ := hw
  obtain ⟨wp3, wp2, wp1⟩ := SqrtL.workp_facts c x
  obtain ⟨ap, hap⟩ : ∃ ap : Dec, ap = (iter c x).2 := ⟨_, rfl⟩
  rw [← hap] at i2 i3 i4 i5 i6 i9 i10 hr ⊢
  have hA : ap.toRat = magQ ap := toRat_pos ap i3
  have hF : (f x).toRat = magQ (f x) := toRat_pos (f x) hxn
  rw [hA] at i5 i6 i9 i10
  rw [hF] at i7 i8 i9 i10
  have hw := tp hh
  have hw2 : (0 : ℚ) < ((10 : ℚ) ^ hh) ^ 2 := pow_pos hw 2
  have hD := magQ_shift ap hh
  have hX : magQ x = magQ (f x) * ((10 : ℚ) ^ hh) ^ 2 := by
    rw [magQ_x_eq, he2, sq_zpow]
  have hδ1 : (10 : ℚ) ^ (-(workp c x : ℤ) - 3) ≤ 1 / 1000 := by
    have : (10 : ℚ) ^ (-(workp c x : ℤ) - 3) ≤ (10 : ℚ) ^ (-3 : ℤ) := zpow_le_zpow_right₀ ten_ge (by omega)
    have e3 : (10 : ℚ) ^ (-3 : ℤ) = 1 / 1000 := by norm_num
    exact le_trans this (le_of_eq e3)
  have hδp := tp (-(workp c x : ℤ) - 3)
  have hfl := hf2
  rw [fdiv2, Int.fdiv_eq_ediv_of_nonneg _ (by decide)] at hfl
  refine ⟨i2, i3, ?_, by show ndigits ap.coeff ≤ 99999; omega, hr, by omega, ?_, ?_, ?_, ?_, ?_, ?_, ?_, ?_, ?_, ?_⟩
  · show ap.coeff ≠ 0
    intro h0
    linarith only [magQ_zero h0, i5]
  · unfold sQ; rw [hf2]; omega
  · rw [hX, zpow_sub_one₀ ten_ne]
    have : ((10 : ℚ) ^ hh * 10⁻¹) ^ 2 = (1 / 100) * ((10 : ℚ) ^ hh) ^ 2 := by ring
    rw [this]
    exact mul_le_mul_of_nonneg_right i7 hw2.le
  · rw [hX]
    have := mul_lt_mul_of_pos_right i8 hw2
    linarith only [this]
  · positivity
  · have e1 : (10 : ℚ) ^ (-(workp c x : ℤ) - 3) * (10 : ℚ) ^ hh = (10 : ℚ) ^ (-(workp c x : ℤ) - 3 + hh) := by
      rw [zpow_add₀ ten_ne]
    rw [e1]
    exact zpow_le_zpow_right₀ ten_ge (by omega)
  · rw [hD]
    exact mul_le_mul_of_nonneg_right (by linarith only [hδ1, i5]) hw.le
  · rw [hD, hX, ← sub_mul, mul_pow]
    exact mul_lt_mul_of_pos_right i9 hw2
  · rw [hD, hX, ← add_mul, mul_pow]
    exact mul_lt_mul_of_pos_right i10 hw2
  · rw [hD, zpow_sub₀ ten_ne]
    have : (10 : ℚ) ^ hh / (10 : ℚ) ^ (2 : ℤ) = (1 / 100) * (10 : ℚ) ^ hh := by norm_num; ring
    rw [this]
    exact mul_le_mul_of_nonneg_right (by linarith only [i5]) hw.le
  · rw [hD, zpow_add_one₀ ten_ne]
    have : magQ ap * (10 : ℚ) ^ hh < 10 * (10 : ℚ) ^ hh := mul_lt_mul_of_pos_right (by linarith only [i6]) hw
    linarith only [this]

theorem iter_exp_ge (c : Ctx) (x : Dec) (hic : IterClose c x) : -(workp c x : ℤ) - 6 ≤ (iter c x).2.exp := by
  have ic := hic
  unfold IterClose at ic
  dsimp only at ic
  obtain ⟨-, -, -, i4, i5, -⟩ := ic
  have lo : (10 : ℚ) ^ (-2 : ℤ) ≤ |(iter c x).2.toRat| := by
    rw [SqrtL.tm2]; exact le_trans (by linarith only [i5]) (le_abs_self _)
  have := (abs_toRat_isAdj _ (coeff_pos_of_pow_le lo)).le_of_le lo
  omega

/-- the core, from the closeness of the iterate as a hypothesis -/
theorem C11_sqrt_correct_of (c : Ctx) (x : Dec) (h : Dom c x) (hic : IterClose c x)
    (hr : -100000 ≤ (iter c x).2.exp + Int.tdiv (e x) 2) :
    (sqrtOp c x).err = .none ∧
    (specSqrt c x).matches (sqrtOp c x).d = true ∧
    fits c (sqrtOp c x).d = true ∧
    ((specSqrt c x).inexact = true → (sqrtOp c x).fl.inexact = true) ∧
    ((specSqrt c x).overflow = true → (sqrtOp c x).fl.overflow = true) := by
  obtain ⟨hh, he2, ht2, hf2⟩ := e_half x
  rw [ht2] at hr
  have DH := dhyp_of_iter c x h hic hh he2 hf2 hr
  rw [sqrtOp_ok (rootSpecials_none c x h.hx h.hn h.h0) hic.1]
  obtain ⟨G, hns, hval⟩ := tail_core c x _ hh _ h.hc h.hx h.hn DH
  rw [sqrt_tail_eq, ht2]
  obtain ⟨t1, t2, t3, t4, t5⟩ := tail_final c x h.hc h.hx h.hn _ _ G hns hval
  exact ⟨t1 h.ht, t2, t3, fun hs => by rw [t4, hs, Bool.or_true], t5⟩

/-- **C11, Sqrt, under the exact side condition**: well-formed context without traps, positive finite
well-formed operand, and the iterate shifted by half the operand's exponent keeps its exponent at or above the
package limit `-100000` (always the case unless `Precision + |exponent|/2` approaches 100000).  Then: no error,
the returned decimal is `specSqrt` — the multiple of the context's quantum nearest to the exact root, ties to
even (`C11_specSqrt_nearest`), an infinity if that exceeds MaxExponent — it fits the context, Inexact is raised
whenever the root is not exactly representable, Overflow whenever the specification overflows. -/
theorem C11_sqrt_correct_core (c : Ctx) (x : Dec) (h : Dom c x)
    (hr : -100000 ≤ (iter c x).2.exp + Int.tdiv (e x) 2) :
    (sqrtOp c x).err = .none ∧
    (specSqrt c x).matches (sqrtOp c x).d = true ∧
    fits c (sqrtOp c x).d = true ∧
    ((specSqrt c x).inexact = true → (sqrtOp c x).fl.inexact = true) ∧
    ((specSqrt c x).overflow = true → (sqrtOp c x).fl.overflow = true) :=
  C11_sqrt_correct_of c x h (iterClose_of_dom c x h) hr

/-- **C11, Sqrt**, with a side condition on `c` and `x` only: the working precision plus six stays below the
package's exponent limit shifted by half the (even) exponent taken out of the operand —
`workp + 6 ≤ 100000 + e/2`. -/
theorem C11_sqrt_correct_partial (c : Ctx) (x : Dec) (h : Dom c x)
    (hr : (workp c x : Int) + 6 ≤ 100000 + Int.tdiv (e x) 2) :
    (sqrtOp c x).err = .none ∧
    (specSqrt c x).matches (sqrtOp c x).d = true ∧
    fits c (sqrtOp c x).d = true ∧
    ((specSqrt c x).inexact = true → (sqrtOp c x).fl.inexact = true) ∧
    ((specSqrt c x).overflow = true → (sqrtOp c x).fl.overflow = true) := by
  apply C11_sqrt_correct_core c x h
  have := iter_exp_ge c x (iterClose_of_dom c x h)
  omega

/-- the same from the closeness of the iterate as a hypothesis -/
theorem C11_sqrt_correct_partial_of (c : Ctx) (x : Dec) (h : Dom c x) (hic : IterClose c x)
    (hr : (workp c x : Int) + 6 ≤ 100000 + Int.tdiv (e x) 2) :
    (sqrtOp c x).err = .none ∧
    (specSqrt c x).matches (sqrtOp c x).d = true ∧
    fits c (sqrtOp c x).d = true ∧
    ((specSqrt c x).inexact = true → (sqrtOp c x).fl.inexact = true) ∧
    ((specSqrt c x).overflow = true → (sqrtOp c x).fl.overflow = true) := by
  apply C11_sqrt_correct_of c x h hic
  have := iter_exp_ge c x hic
  omega

theorem tail_sys (c : Ctx) (x approx : Dec)
    (hs : ((ctxRound (ncw c) { approx with exp := approx.exp + Int.tdiv (e x) 2 }).2.sysOverflow ||
           (ctxRound (ncw c) { approx with exp := approx.exp + Int.tdiv (e x) 2 }).2.sysUnderflow) = true) :
    (tail c x approx).err = .sys := by
  unfold tail
  simp only [finish]
  rw [goError_sys_iff]
  unfold NoSys
  unfold ncw nc2 at hs
  rw [Bool.or_eq_true] at hs
  split_ifs <;> rcases hs with hs | hs <;> simp [hs]

/-- the complement of `C11_sqrt_correct_core`: when the shifted iterate's exponent is below `-100000`, `Sqrt`
returns a system error (the first `Context.round` of the tail raises SystemUnderflow) -/
theorem C11_sqrt_sys_of (c : Ctx) (x : Dec) (h : Dom c x) (hic : IterClose c x)
    (hr : (iter c x).2.exp + Int.tdiv (e x) 2 < -100000) : (sqrtOp c x).err = .sys := by
  have ic := hic
  unfold IterClose at ic
  dsimp only at ic
  obtain ⟨hfail, i2, -⟩ := ic
  rw [sqrtOp_ok (rootSpecials_none c x h.hx h.hn h.h0) hfail]
  apply tail_sys
  by_contra hno
  have hns : NoSys (ctxRound (ncw c) { (iter c x).2 with exp := (iter c x).2.exp + Int.tdiv (e x) 2 }).2 := by
    unfold NoSys
    rw [Bool.or_eq_true, not_or] at hno
    exact ⟨by simpa using hno.1, by simpa using hno.2⟩
  rw [ctxRound_finite (ncw c) { (iter c x).2 with exp := (iter c x).2.exp + Int.tdiv (e x) 2 } i2] at hns
  have hp : (ncw c).prec ≠ 0 := by
    have := h.hc.1
    show c.prec ≠ 0
    omega
  have := (Apd.roundX_noSys_exp (ncw c) _ (by exact i2) hp hns).1
  have e' : ({ (iter c x).2 with exp := (iter c x).2.exp + Int.tdiv (e x) 2 } : Dec).exp =
      (iter c x).2.exp + Int.tdiv (e x) 2 := rfl
  omega

theorem C11_sqrt_sys (c : Ctx) (x : Dec) (h : Dom c x)
    (hr : (iter c x).2.exp + Int.tdiv (e x) 2 < -100000) : (sqrtOp c x).err = .sys :=
  C11_sqrt_sys_of c x h (iterClose_of_dom c x h) hr

/-- non-vacuity: the domain is inhabited and the side condition holds on a concrete case -/
example : Dom { prec := 5, emax := 10, emin := -10 } { coeff := 2 } :=
  ⟨by decide, rfl, rfl, rfl, by decide, by decide, by decide⟩

example : (workp { prec := 5, emax := 10, emin := -10 } { coeff := 2 } : Int) + 6 ≤
    100000 + Int.tdiv (e { coeff := 2 }) 2 := by decide

#print axioms C11_sqrt_correct_of
#print axioms C11_sqrt_sys_of
#print axioms C11_sqrt_correct_partial_of
#print axioms C11_sqrt_correct_core
#print axioms C11_sqrt_correct_partial
#print axioms C11_sqrt_sys

end Apd.Props
