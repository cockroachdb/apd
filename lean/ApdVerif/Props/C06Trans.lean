import ApdVerif.Props.C05Trans
import ApdVerif.Props.C18
import ApdVerif.Lemmas.TransFootLemmas
/-!
# C06 and C18 for the composite functions (Sqrt, Cbrt, Exp, Ln, Log10, Pow)

* `C06_foot_<op>`   : the footprint: reads within `{x, y} ∪ {d}`, writes within `{d}`; the Go locals of these
  functions (virtualised by `localize`) are not part of it;
* `C06_writes_<op>` : every write of the program goes to the destination cell; the `Context` is a Lean value and the
  package constants (`decimalHalf`, `decimalLn10`, …) are Lean values, which no program can write;
* `C06_<op>`        : when `d ∉ {x, y}` the run does not depend on the previous contents of `d` (`Agree`: same error
  class and remaining tape; if delivered, same flags and aux value, and the same final destination unless the call
  was aborted by a trapped condition of its internal `ErrDecimal` — flags 0 with a trap error — in which case the
  destination is left as it was found at that point); `C06_pow` and `C06_pow_operands_only` state `AgreeS`, the same
  without that exclusion;
* `C06_transOp_operands_only` : two runs on heaps that agree on the operand cells agree (no assumption on aliasing);
  `C06_frame_transOp`: every cell other than the destination is left as it was;
* `C18_transops`    : any family of these calls whose destinations are pairwise distinct and distinct from every
  other thread's operands behaves, under every schedule, like the solo runs, and so (`C18_transops_model`) delivers
  what the value-level model computes from the operands' initial values.
-/
namespace Apd.Props
open Apd.Imp

def Agree (d : Cell) (r1 r2 : Option (Res × Tape) × Heap) : Prop :=
  match r1.1, r2.1 with
  | none, none => True
  | some (a, t), some (b, u) =>
    t = u ∧ a.2.1 = b.2.1 ∧
    (Delivered a.2.1 → a.1 = b.1 ∧ a.2.2 = b.2.2 ∧ (¬ (a.1 = {} ∧ a.2.1 = .trap) → r1.2 d = r2.2 d))
  | _, _ => False

/-- `Agree` without the exclusion of aborted calls: what `Pow` meets -/
def AgreeS (d : Cell) (r1 r2 : Option (Res × Tape) × Heap) : Prop :=
  match r1.1, r2.1 with
  | none, none => True
  | some (a, t), some (b, u) =>
    t = u ∧ a.2.1 = b.2.1 ∧ (Delivered a.2.1 → a.1 = b.1 ∧ a.2.2 = b.2.2 ∧ r1.2 d = r2.2 d)
  | _, _ => False

theorem res_agree {a b : Res} {va vb : Dec} {m : Out} (ea : a.2.1 = m.err) (eb : b.2.1 = m.err)
    (da : Delivered a.2.1 → a.1 = m.fl ∧ (¬ m.Aborted → va = m.d) ∧ a.2.2 = m.aux)
    (db : Delivered b.2.1 → b.1 = m.fl ∧ (¬ m.Aborted → vb = m.d) ∧ b.2.2 = m.aux) :
    a.2.1 = b.2.1 ∧ (Delivered a.2.1 → a.1 = b.1 ∧ a.2.2 = b.2.2 ∧ (¬ (a.1 = {} ∧ a.2.1 = .trap) → va = vb)) := by
  refine ⟨ea.trans eb.symm, fun hd => ?_⟩
  obtain ⟨a1, a2, a3⟩ := da hd
  obtain ⟨b1, b2, b3⟩ := db (by rw [eb, ← ea]; exact hd)
  refine ⟨a1.trans b1.symm, a3.trans b3.symm, fun hna => ?_⟩
  have hna' : ¬ m.Aborted := fun hab => hna ⟨a1.trans hab.1, ea.trans hab.2⟩
  rw [a2 hna', b2 hna']

theorem ttSpec_agree {r1 r2 : Option (Res × Tape) × Heap} {d : Cell} {h1 h2 : Heap} {m : Option (Out × Tape)}
    (s1 : TTSpec r1 d h1 m) (s2 : TTSpec r2 d h2 m) : Agree d r1 r2 := by
  unfold Agree
  cases m with
  | none => rw [show r1.1 = none from s1.1, show r2.1 = none from s2.1]; trivial
  | some mt =>
    obtain ⟨⟨a, ha, ea, da⟩, _⟩ := s1
    obtain ⟨⟨b, hb, eb, db⟩, _⟩ := s2
    rw [ha, hb]
    exact ⟨rfl, res_agree ea eb da db⟩

theorem ttSpec_indep {p : Prog (Option (Res × Tape))} {d : Cell} {m : Heap → Option (Out × Tape)}
    (hs : ∀ h, TTSpec (run p h) d h (m h)) {h1 h2 : Heap} (hm : m h2 = m h1) : Agree d (run p h1) (run p h2) :=
  ttSpec_agree (hs h1) (hm ▸ hs h2)

theorem stSpec_agree {r1 r2 : Option (Res × Tape) × Heap} {d : Cell} {h1 h2 : Heap} {m : Option (Out × Tape)}
    (s1 : STSpec r1 d h1 m) (s2 : STSpec r2 d h2 m) : AgreeS d r1 r2 := by
  unfold AgreeS
  cases m with
  | none => rw [show r1.1 = none from s1.1, show r2.1 = none from s2.1]; trivial
  | some mt =>
    obtain ⟨⟨a, ha, ea, da⟩, _⟩ := s1
    obtain ⟨⟨b, hb, eb, db⟩, _⟩ := s2
    rw [ha, hb]
    refine ⟨rfl, ea.trans eb.symm, fun hd => ?_⟩
    obtain ⟨a1, a2, a3⟩ := da hd
    obtain ⟨b1, b2, b3⟩ := db (by rw [eb, ← ea]; exact hd)
    exact ⟨a1.trans b1.symm, a3.trans b3.symm, a2.trans b2.symm⟩

theorem C06_transOp_operands_only {op : String} {c : Ctx} {d x y : Cell} {tape : Tape}
    {p : Prog (Option (Res × Tape))} (hp : runTransOp op c d x y tape = some p) (h1 h2 : Heap)
    (hx : h1 x = h2 x) (hy : h1 y = h2 y) : Agree d (run p h1) (run p h2) := by
  obtain ⟨m1, hm1, s1⟩ := C05_transOp hp h1
  obtain ⟨m2, hm2, s2⟩ := C05_transOp hp h2
  rw [hx, hy] at hm1
  have : m1 = m2 := Option.some.inj (hm1.symm.trans hm2)
  subst this
  exact ttSpec_agree s1 s2

theorem C06_writes_transOp {op : String} {c : Ctx} {d x y : Cell} {tape : Tape} {p : Prog (Option (Res × Tape))}
    (hp : runTransOp op c d x y tape = some p) : WritesOnly (· = d) p :=
  (Foot_runTransOp _ hp).writesOnly

theorem C06_frame_transOp {op : String} {c : Ctx} {d x y : Cell} {tape : Tape} {p : Prog (Option (Res × Tape))}
    (hp : runTransOp op c d x y tape = some p) (h : Heap) : ∀ cell, cell ≠ d → (run p h).2 cell = h cell :=
  (C06_writes_transOp hp).frame h

theorem C06_transOp {op : String} {c : Ctx} {d x y : Cell} {tape : Tape} {p : Prog (Option (Res × Tape))}
    (hp : runTransOp op c d x y tape = some p) (hdx : d ≠ x) (hdy : d ≠ y) (h : Heap) (v : Dec) :
    Agree d (run p h) (run p (h.set d v)) :=
  C06_transOp_operands_only hp h (h.set d v) (Heap.set_other _ _ (Ne.symm hdx)).symm
    (Heap.set_other _ _ (Ne.symm hdy)).symm

theorem C06_foot_sqrt (c : Ctx) (d x : Cell) : Foot (footR x x) (footW d) (sqrtP c d (.cell x)) :=
  Foot_sqrtP footW_self footR_fst c
theorem C06_writes_sqrt (c : Ctx) (d x : Cell) : WritesOnly (· = d) (sqrtP c d (.cell x)) :=
  (C06_foot_sqrt c d x).writesOnly
theorem C06_sqrt (c : Ctx) (d x : Cell) (hdx : d ≠ x) (h : Heap) (v : Dec) :
    let r1 := run (sqrtP c d (.cell x)) h
    let r2 := run (sqrtP c d (.cell x)) (h.set d v)
    r1.1.2.1 = r2.1.2.1 ∧
    (Delivered r1.1.2.1 → r1.1.1 = r2.1.1 ∧ r1.1.2.2 = r2.1.2.2 ∧
      (¬ (r1.1.1 = {} ∧ r1.1.2.1 = .trap) → r1.2 d = r2.2 d)) := by
  obtain ⟨e1, d1, _⟩ := C05_sqrt_partial c d x h
  obtain ⟨e2, d2, _⟩ := C05_sqrt_partial c d x (h.set d v)
  rw [Heap.set_other _ _ hdx.symm] at e2 d2
  exact res_agree e1 e2 d1 d2

theorem C06_foot_cbrt (c : Ctx) (d x : Cell) : Foot (footR x x) (footW d) (cbrtP c d (.cell x)) :=
  Foot_cbrtP footW_self footR_fst c
theorem C06_writes_cbrt (c : Ctx) (d x : Cell) : WritesOnly (· = d) (cbrtP c d (.cell x)) :=
  (C06_foot_cbrt c d x).writesOnly

theorem C06_cbrt (c : Ctx) (d x : Cell) (hdx : d ≠ x) (h : Heap) (v : Dec) :
    let r1 := run (cbrtP c d (.cell x)) h
    let r2 := run (cbrtP c d (.cell x)) (h.set d v)
    match r1.1, r2.1 with
    | none, none => True
    | some a, some b =>
      a.2.1 = b.2.1 ∧
      (Delivered a.2.1 → a.1 = b.1 ∧ a.2.2 = b.2.2 ∧ (¬ (a.1 = {} ∧ a.2.1 = .trap) → r1.2 d = r2.2 d))
    | _, _ => False := by
  have s1 := C05_cbrt_partial c d x h
  have s2 := C05_cbrt_partial c d x (h.set d v)
  rw [Heap.set_other _ _ hdx.symm] at s2
  cases hm : cbrtOp c (h x) with
  | none =>
    rw [hm] at s1 s2
    simp only [s1, s2]
  | some m =>
    rw [hm] at s1 s2
    obtain ⟨a, ha, ea, da, _⟩ := s1
    obtain ⟨b, hb, eb, db, _⟩ := s2
    simp only [ha, hb]
    exact res_agree ea eb da db

theorem C06_foot_exp (c : Ctx) (d x : Cell) (tape : Tape) : Foot (footR x x) (footW d) (expP c d (.cell x) tape) :=
  Foot_expP footW_self footR_fst c tape
theorem C06_writes_exp (c : Ctx) (d x : Cell) (tape : Tape) : WritesOnly (· = d) (expP c d (.cell x) tape) :=
  (C06_foot_exp c d x tape).writesOnly
theorem C06_exp (c : Ctx) (d x : Cell) (tape : Tape) (hdx : d ≠ x) (h : Heap) (v : Dec) :
    Agree d (run (expP c d (.cell x) tape) h) (run (expP c d (.cell x) tape) (h.set d v)) :=
  ttSpec_indep (C05_exp_partial c d x tape) (by rw [Heap.set_other _ _ hdx.symm])

theorem C06_foot_ln (c : Ctx) (d x : Cell) (tape : Tape) : Foot (footR x x) (footW d) (lnP c d (.cell x) tape) :=
  Foot_lnP footW_self footR_fst c tape
theorem C06_writes_ln (c : Ctx) (d x : Cell) (tape : Tape) : WritesOnly (· = d) (lnP c d (.cell x) tape) :=
  (C06_foot_ln c d x tape).writesOnly
theorem C06_ln (c : Ctx) (d x : Cell) (tape : Tape) (hdx : d ≠ x) (h : Heap) (v : Dec) :
    Agree d (run (lnP c d (.cell x) tape) h) (run (lnP c d (.cell x) tape) (h.set d v)) :=
  ttSpec_indep (C05_ln_partial c d x tape) (by rw [Heap.set_other _ _ hdx.symm])

theorem C06_foot_log10 (c : Ctx) (d x : Cell) (tape : Tape) :
    Foot (footR x x) (footW d) (log10P c d (.cell x) tape) :=
  Foot_log10P footW_self footR_fst c tape
theorem C06_writes_log10 (c : Ctx) (d x : Cell) (tape : Tape) : WritesOnly (· = d) (log10P c d (.cell x) tape) :=
  (C06_foot_log10 c d x tape).writesOnly
theorem C06_log10 (c : Ctx) (d x : Cell) (tape : Tape) (hdx : d ≠ x) (h : Heap) (v : Dec) :
    Agree d (run (log10P c d (.cell x) tape) h) (run (log10P c d (.cell x) tape) (h.set d v)) :=
  ttSpec_indep (C05_log10_partial c d x tape) (by rw [Heap.set_other _ _ hdx.symm])

theorem C06_foot_pow (c : Ctx) (d x y : Cell) (tape : Tape) :
    Foot (footR x y) (footW d) (powP c d (.cell x) (.cell y) tape) :=
  Foot_powP footW_self footR_fst footR_snd c tape
theorem C06_writes_pow (c : Ctx) (d x y : Cell) (tape : Tape) :
    WritesOnly (· = d) (powP c d (.cell x) (.cell y) tape) :=
  (C06_foot_pow c d x y tape).writesOnly
theorem C06_pow_operands_only (c : Ctx) (d x y : Cell) (tape : Tape) (h1 h2 : Heap) (hx : h1 x = h2 x)
    (hy : h1 y = h2 y) :
    AgreeS d (run (powP c d (.cell x) (.cell y) tape) h1) (run (powP c d (.cell x) (.cell y) tape) h2) := by
  have s1 := C05_pow c d x y tape h1
  rw [hx, hy] at s1
  exact stSpec_agree s1 (C05_pow c d x y tape h2)

theorem C06_pow (c : Ctx) (d x y : Cell) (tape : Tape) (hdx : d ≠ x) (hdy : d ≠ y) (h : Heap) (v : Dec) :
    AgreeS d (run (powP c d (.cell x) (.cell y) tape) h) (run (powP c d (.cell x) (.cell y) tape) (h.set d v)) :=
  C06_pow_operands_only c d x y tape h (h.set d v) (Heap.set_other _ _ hdx.symm).symm (Heap.set_other _ _ hdy.symm).symm

structure TransCall where
  op : String
  c : Ctx
  d : Cell
  x : Cell
  y : Cell
  tape : Tape

/-- read set of a thread (`none` = idle thread) -/
def tcallR : Option TransCall → Cell → Prop
  | some k => footR k.x k.y
  | none => fun _ => False
def tcallW : Option TransCall → Cell → Prop
  | some k => footW k.d
  | none => fun _ => False

def TLaunches (calls : Nat → Option TransCall) (ps0 : Nat → Prog (Option (Res × Tape))) : Prop :=
  ∀ i, match calls i with
    | some k => runTransOp k.op k.c k.d k.x k.y k.tape = some (ps0 i)
    | none => ps0 i = .ret none

def TSeparated (calls : Nat → Option TransCall) : Prop :=
  ∀ i j ki kj, i ≠ j → calls i = some ki → calls j = some kj → kj.d ≠ ki.d ∧ kj.d ≠ ki.x ∧ kj.d ≠ ki.y

theorem tlaunches_foot {calls : Nat → Option TransCall} {ps0 : Nat → Prog (Option (Res × Tape))}
    (hl : TLaunches calls ps0) (i : Nat) : Foot (tcallR (calls i)) (tcallW (calls i)) (ps0 i) := by
  have := hl i
  cases hc : calls i with
  | none => rw [hc] at this; rw [show ps0 i = _ from this]; exact Foot.ret _
  | some k => rw [hc] at this; exact Foot_runTransOp _ this

theorem tseparated_disj {calls : Nat → Option TransCall} (hs : TSeparated calls) :
    ∀ i j, i ≠ j → ∀ c, tcallW (calls j) c → ¬ (tcallR (calls i) c ∨ tcallW (calls i) c) :=
  opt_disj (fun _ => id) (fun _ => id) fun i j ki kj hij hi hj _ => footW_disj (hs i j ki kj hij hi hj)

/-- C18 for the composite functions: under every schedule, every thread is at a prefix of its solo run; a thread
that has finished returned exactly the result of its solo run and its destination cell holds the solo result. -/
theorem C18_transops (calls : Nat → Option TransCall) (ps0 : Nat → Prog (Option (Res × Tape)))
    (hl : TLaunches calls ps0) (hsep : TSeparated calls) (h0 : Heap) (s : List Nat) :
    Inv (fun i => tcallR (calls i)) (fun i => tcallW (calls i)) ps0 h0 (runSched s ps0 h0).1 (runSched s ps0 h0).2 ∧
    ∀ i k a, calls i = some k → (runSched s ps0 h0).1 i = .ret a →
      a = (run (ps0 i) h0).1 ∧ (runSched s ps0 h0).2 k.d = (run (ps0 i) h0).2 k.d := by
  have hinv := C18_interleave (fun i => tcallR (calls i)) (fun i => tcallW (calls i)) ps0 h0
    (tlaunches_foot hl) (tseparated_disj hsep) s
  refine ⟨hinv, fun i k a hk hret => ?_⟩
  obtain ⟨h1, h2⟩ := inv_finished hinv hret
  exact ⟨h1, h2 k.d (Or.inr (hk ▸ footW_self))⟩

/-- … and therefore what the value-level model computes from the operands' INITIAL values (C05 on the solo run) -/
theorem C18_transops_model (calls : Nat → Option TransCall) (ps0 : Nat → Prog (Option (Res × Tape)))
    (hl : TLaunches calls ps0) (hsep : TSeparated calls) (h0 : Heap) (s : List Nat) (i : Nat) (k : TransCall)
    (a : Option (Res × Tape)) (hk : calls i = some k) (hret : (runSched s ps0 h0).1 i = .ret a) :
    ∃ m, modelTransOp k.op k.c (h0 k.x) (h0 k.y) k.tape = some m ∧
      match m with
      | none => a = none
      | some (m, t) => ∃ res, a = some (res, t) ∧ res.2.1 = m.err ∧
          (Delivered res.2.1 → res.1 = m.fl ∧ (¬ m.Aborted → (runSched s ps0 h0).2 k.d = m.d) ∧ res.2.2 = m.aux) := by
  obtain ⟨h1, h2⟩ := (C18_transops calls ps0 hl hsep h0 s).2 i k a hk hret
  have hp := hl i
  rw [hk] at hp
  obtain ⟨m, hm, e1, _⟩ := C05_transOp hp h0
  refine ⟨m, hm, ?_⟩
  cases m with
  | none => rw [h1]; exact e1
  | some mt =>
    obtain ⟨m, t⟩ := mt
    obtain ⟨res, hr, er, dr⟩ := e1
    refine ⟨res, by rw [h1]; exact hr, er, fun hd => ?_⟩
    obtain ⟨f1, f2, f3⟩ := dr hd
    exact ⟨f1, fun hna => by rw [h2]; exact f2 hna, f3⟩

end Apd.Props

#print axioms Apd.Props.C06_writes_sqrt
#print axioms Apd.Props.C06_foot_sqrt
#print axioms Apd.Props.C06_sqrt
#print axioms Apd.Props.C06_writes_cbrt
#print axioms Apd.Props.C06_cbrt
#print axioms Apd.Props.C06_writes_exp
#print axioms Apd.Props.C06_exp
#print axioms Apd.Props.C06_writes_ln
#print axioms Apd.Props.C06_ln
#print axioms Apd.Props.C06_writes_log10
#print axioms Apd.Props.C06_log10
#print axioms Apd.Props.C06_writes_pow
#print axioms Apd.Props.C06_foot_pow
#print axioms Apd.Props.C06_pow
#print axioms Apd.Props.C06_pow_operands_only
#print axioms Apd.Props.C06_transOp_operands_only
#print axioms Apd.Props.C06_writes_transOp
#print axioms Apd.Props.C06_frame_transOp
#print axioms Apd.Props.C06_transOp
#print axioms Apd.Props.C18_transops
#print axioms Apd.Props.C18_transops_model
