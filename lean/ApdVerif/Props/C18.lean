import ApdVerif.Props.C06
/-!
# C18 — concurrent use

`C18_interleave` is the generic interleaving theorem of `Imp/Prog.lean`: threads whose write sets are disjoint from
the other threads' read and write sets see, under EVERY schedule of their primitive field accesses, a prefix of
their solo run.  `C18_ctxops` instantiates it with the footprints `R = {x, y}`, `W = {d}` of the `Context`
methods (`Foot_runCtxOp`): any family of operations whose destinations are pairwise distinct and
distinct from every OTHER thread's operands (a thread's own operands may alias its destination) computes, per
thread, exactly what the solo runs compute — hence (`C18_ctxops_model`) what the value-level model says about the
operands' initial values.
-/
namespace Apd.Props
open Apd.Imp

theorem C18_interleave {α : Type} (R W : Nat → Cell → Prop) (ps0 : Nat → Prog α) (h0 : Heap)
    (hfoot : ∀ i, Foot (R i) (W i) (ps0 i))
    (hdisj : ∀ i j, i ≠ j → ∀ c, W j c → ¬ (R i c ∨ W i c)) (s : List Nat) :
    Inv R W ps0 h0 (runSched s ps0 h0).1 (runSched s ps0 h0).2 :=
  interleave_inv R W ps0 h0 hdisj s ps0 h0 (Inv.init R W ps0 h0 hfoot)

theorem inv_finished {α : Type} {R W : Nat → Cell → Prop} {ps0 ps : Nat → Prog α} {h0 h : Heap}
    (hinv : Inv R W ps0 h0 ps h) {i : Nat} {a : α} (hret : ps i = .ret a) :
    a = (run (ps0 i) h0).1 ∧ ∀ c, R i c ∨ W i c → h c = (run (ps0 i) h0).2 c := by
  obtain ⟨k, hk1, hk2, _⟩ := hinv i
  have := solo_ret (hk1.symm.trans hret)
  rw [this]
  exact ⟨rfl, hk2⟩

structure CtxCall where
  op : String
  c : Ctx
  d : Cell
  x : Cell
  y : Cell
  iarg : Int

/-- read set of a thread (`none` = idle thread) -/
def callR : Option CtxCall → Cell → Prop
  | some k => footR k.x k.y
  | none => fun _ => False
def callW : Option CtxCall → Cell → Prop
  | some k => footW k.d
  | none => fun _ => False

def Launches (calls : Nat → Option CtxCall) (ps0 : Nat → Prog Res) : Prop :=
  ∀ i, match calls i with
    | some k => runCtxOp k.op k.c k.d k.x k.y k.iarg = some (ps0 i)
    | none => ps0 i = .ret ({}, .none, 0)

def Separated (calls : Nat → Option CtxCall) : Prop :=
  ∀ i j ki kj, i ≠ j → calls i = some ki → calls j = some kj → kj.d ≠ ki.d ∧ kj.d ≠ ki.x ∧ kj.d ≠ ki.y

theorem launches_foot {calls : Nat → Option CtxCall} {ps0 : Nat → Prog Res} (hl : Launches calls ps0) (i : Nat) :
    Foot (callR (calls i)) (callW (calls i)) (ps0 i) := by
  have := hl i
  cases hc : calls i with
  | none => rw [hc] at this; rw [show ps0 i = _ from this]; exact Foot.ret _
  | some k => rw [hc] at this; exact Foot_runCtxOp _ this

theorem opt_disj {K : Type} {calls : Nat → Option K} {Rd Wr : Option K → Cell → Prop}
    (hR : ∀ c, ¬ Rd none c) (hW : ∀ c, ¬ Wr none c)
    (hs : ∀ i j ki kj, i ≠ j → calls i = some ki → calls j = some kj →
      ∀ c, Wr (some kj) c → ¬ (Rd (some ki) c ∨ Wr (some ki) c)) :
    ∀ i j, i ≠ j → ∀ c, Wr (calls j) c → ¬ (Rd (calls i) c ∨ Wr (calls i) c) := by
  intro i j hij c hw hrw
  cases hj : calls j with
  | none => rw [hj] at hw; exact hW c hw
  | some kj =>
    cases hi : calls i with
    | none => rw [hi] at hrw; exact hrw.elim (hR c) (hW c)
    | some ki => rw [hj] at hw; rw [hi] at hrw; exact hs i j ki kj hij hi hj c hw hrw

theorem footW_disj {d d' x y c : Cell} (h : d ≠ d' ∧ d ≠ x ∧ d ≠ y) (hw : footW d c) :
    ¬ (footR x y c ∨ footW d' c) := by
  cases (hw : c = d)
  rintro ((hx | hy) | hd)
  · exact h.2.1 hx
  · exact h.2.2 hy
  · exact h.1 hd

theorem separated_disj {calls : Nat → Option CtxCall} (hs : Separated calls) :
    ∀ i j, i ≠ j → ∀ c, callW (calls j) c → ¬ (callR (calls i) c ∨ callW (calls i) c) :=
  opt_disj (fun _ => id) (fun _ => id) fun i j ki kj hij hi hj _ => footW_disj (hs i j ki kj hij hi hj)

/-- C18 for `Context` methods: under every schedule, every thread is at a prefix of its solo run; a thread that
has finished returned exactly the result triple of its solo run and its destination cell holds the solo result. -/
theorem C18_ctxops (calls : Nat → Option CtxCall) (ps0 : Nat → Prog Res) (hl : Launches calls ps0)
    (hsep : Separated calls) (h0 : Heap) (s : List Nat) :
    Inv (fun i => callR (calls i)) (fun i => callW (calls i)) ps0 h0 (runSched s ps0 h0).1 (runSched s ps0 h0).2 ∧
    ∀ i k a, calls i = some k → (runSched s ps0 h0).1 i = .ret a →
      a = (run (ps0 i) h0).1 ∧ (runSched s ps0 h0).2 k.d = (run (ps0 i) h0).2 k.d := by
  have hinv := C18_interleave (fun i => callR (calls i)) (fun i => callW (calls i)) ps0 h0
    (launches_foot hl) (separated_disj hsep) s
  refine ⟨hinv, fun i k a hk hret => ?_⟩
  obtain ⟨h1, h2⟩ := inv_finished hinv hret
  exact ⟨h1, h2 k.d (Or.inr (hk ▸ footW_self))⟩

/-- … and therefore what the value-level model computes from the operands' INITIAL values (C05 on the solo run) -/
theorem C18_ctxops_model (calls : Nat → Option CtxCall) (ps0 : Nat → Prog Res) (hl : Launches calls ps0)
    (hsep : Separated calls) (h0 : Heap) (s : List Nat) (i : Nat) (k : CtxCall) (a : Res)
    (hk : calls i = some k) (hret : (runSched s ps0 h0).1 i = .ret a) :
    ∃ m, modelCtxOp k.op k.c (h0 k.x) (h0 k.y) k.iarg = some m ∧ a.2.1 = m.err ∧
      (Delivered a.2.1 → a.1 = m.fl ∧ (runSched s ps0 h0).2 k.d = m.d ∧ a.2.2 = m.aux) := by
  obtain ⟨h1, h2⟩ := (C18_ctxops calls ps0 hl hsep h0 s).2 i k a hk hret
  have hp := hl i
  rw [hk] at hp
  obtain ⟨m, hm, e1, e2, _⟩ := C05_ctxOp hp h0
  refine ⟨m, hm, ?_, ?_⟩
  · rw [h1]; exact e1
  · intro hd
    rw [h1] at hd ⊢
    obtain ⟨f1, f2, f3⟩ := e2 hd
    exact ⟨f1, by rw [h2]; exact f2, f3⟩

end Apd.Props

#print axioms Apd.Props.C18_interleave
#print axioms Apd.Props.C18_ctxops
#print axioms Apd.Props.C18_ctxops_model
