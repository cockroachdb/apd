import ApdVerif.Model.TransLog
import ApdVerif.Gen.Consts
/-!
# Regenerated tie: the digit strings of ln(10) and 1/ln(10)

`Gen.strLn10Coeff` etc. are re-extracted from const.go on every run; the model's `ln10Coeff` etc.
(`Model/TransLog.lean`, from which the pre-rounded tables are derived) are the same numbers. The
tables themselves, as the package holds them at run time, are compared with the model's derivation by
the `consts` lines of the translog stream.  (The package's integer constants: `GenTie_consts`, `Props/GenTieMisc`.)
-/
namespace Apd.Props

theorem GenTie_ln10 :
    Gen.strLn10Coeff = Apd.ln10Coeff ∧ Gen.strLn10Exp = Apd.ln10Exp ∧ Gen.strLn10Len = Apd.ln10StrLen ∧
    Gen.strInvLn10Coeff = Apd.invLn10Coeff ∧ Gen.strInvLn10Exp = Apd.invLn10Exp ∧ Gen.strInvLn10Len = Apd.invLn10StrLen := by
  refine ⟨by decide, by decide, by decide, by decide, by decide, by decide⟩

/-- the table has 12 entries (1, 2, 4, …, 2048 digits) for both constants: a fact about the model's `constVals` alone,
no generated definition enters -/
theorem GenTie_constVals : constVals ln10StrLen = 12 ∧ constVals invLn10StrLen = 12 := by
  refine ⟨by decide, by decide⟩

#print axioms Apd.Props.GenTie_ln10
#print axioms Apd.Props.GenTie_constVals
end Apd.Props
