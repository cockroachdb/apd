import ApdVerif.Lemmas.C07RootsLemmas
/-!
# C07 for Cbrt and the integer path of Pow; C03 for Cbrt

`Cbrt` and `Pow` (integer exponent) compute at a working precision under a context of their own and hand the
result to `Context.round` under the caller's context.  Whatever the iteration produced:
* a delivered finite result fits the caller's context (C07);
* (Cbrt) the caller's trap set influences nothing but the error: same value, same flags (C03).
-/
namespace Apd.Props
open Apd Apd.Oracle

/-- C07 for Cbrt: every finite result returned without a system error fits the context -/
theorem C07_cbrt_fits (c : Ctx) (hc : c.WF) (x : Dec) (o : Out) (ho : cbrtOp c x = some o)
    (he : o.err = .none ∨ o.err = .trap) (hf : o.d.form = .finite) (hx : x.form = .finite) (h0 : x.coeff ≠ 0)
    (hw : x.WF) :
    fits c o.d = true :=
  C07R.cbrt_fits c hc x o ho he hf hx h0

/-- C03 for Cbrt: the trap set of the caller changes nothing but the error class of the outcome -/
theorem C03_cbrt_traps (c : Ctx) (t : Cond) (x : Dec) :
    match cbrtOp c x, cbrtOp { c with traps := t } x with
    | some o, some o' => (o.err = .none → o'.err = .none → o'.d = o.d ∧ o'.fl = o.fl) ∧
                         (o.err = .none → o'.err ≠ .none → (o.fl &&& t).any = true ∨ o'.err = .sys ∨ o'.err = .other)
    | none, none => True
    | _, _ => False :=
  C07R.cbrt_traps c t x

/-- C07 for the integer path of Pow: a delivered finite result fits the context -/
theorem C07_powInt_fits (c : Ctx) (hc : c.WF) (x y : Dec) (o : Out) (ho : powIntOp c x y = some o)
    (hs : powSpecials c x y = none)
    (he : o.err = .none ∨ (o.err = .trap ∧ (o.fl &&& c.traps).any = true)) (hf : o.d.form = .finite) :
    fits c o.d = true :=
  C07R.powInt_fits c hc x y o ho hs he hf

#print axioms C07_cbrt_fits
#print axioms C03_cbrt_traps
#print axioms C07_powInt_fits

end Apd.Props
