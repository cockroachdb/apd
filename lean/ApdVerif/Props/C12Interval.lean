import ApdVerif.Lemmas.C12IntervalLn
import Mathlib.Analysis.SpecialFunctions.Exp
import Mathlib.Analysis.SpecialFunctions.Log.Basic
/-!
# Soundness of the interval enclosures used by the C12 oracles

`bfVal x = m · 10^e` as a real number; `bfVal` and `Encl` repeat `C12IL.bv` and `C12IL.Enc` (`bfVal_eq`, `Encl_iff`),
so that the statements can be read without the lemma files.  Every directed operation bounds the exact result from
the proper side; hence the interval operations enclose the exact result for all points of their operands,
`expPoint` encloses `Real.exp`, and `lnPoint` encloses `Real.log`.

The fuel `bitlen/100000 + 4` of `fastDigits` matters: with a constant fuel 4 the digit count is under-estimated for
numbers of more than ~196 000 digits (`10^300000` would get 299999), and `C12I_fastDigits`, `C12I_cmp`,
`C12I_addDir`, `C12I_add`, `C12I_mul`, `C12I_expPoint`, `C12I_lnPoint` and `C12I_certainlyOff` would be false for such
mantissas.  With the fuel as it is `C12I_fastDigits` holds for ALL `n`.
-/
set_option linter.unusedVariables false
namespace Apd.Props
open Apd Apd.Oracle.Iv Apd.C12IL

noncomputable def bfVal (x : BF) : ℝ := (x.m : ℝ) * (10 : ℝ) ^ x.e

def Encl (a : I) (r : ℝ) : Prop := bfVal a.lo ≤ r ∧ r ≤ bfVal a.hi

theorem bfVal_eq (x : BF) : bfVal x = bv x := rfl
theorem Encl_iff (a : I) (r : ℝ) : Encl a r ↔ Enc a r := Iff.rfl

theorem C12I_fastDigits (n : Nat) : fastDigits n = ndigits n := fastDigits_eq n

theorem C12I_rnd_down (W : Nat) (x : BF) : bfVal (rnd W true x) ≤ bfVal x := rnd_down W x

theorem C12I_rnd_up (W : Nat) (x : BF) : bfVal x ≤ bfVal (rnd W false x) := rnd_up W x

theorem C12I_cmp (a b : BF) : (a.cmp b < 0 ↔ bfVal a < bfVal b) ∧ (a.cmp b = 0 ↔ bfVal a = bfVal b) := by
  rw [bfVal_eq, bfVal_eq]
  rcases cmp_spec a b with ⟨h, k⟩ | ⟨h, k⟩ | ⟨h, k⟩ <;> rw [h]
  · exact ⟨⟨fun _ => k, fun _ => by decide⟩, ⟨fun h' => absurd h' (by decide), fun h' => absurd h' k.ne⟩⟩
  · exact ⟨⟨fun h' => absurd h' (by decide), fun h' => absurd k h'.ne⟩, ⟨fun _ => k, fun _ => rfl⟩⟩
  · exact ⟨⟨fun h' => absurd h' (by decide), fun h' => absurd h' (not_lt.2 k.le)⟩,
      ⟨fun h' => absurd h' (by decide), fun h' => absurd h' k.ne'⟩⟩

theorem C12I_addDir (W : Nat) (hW : 1 ≤ W) (a b : BF) :
    bfVal (addDir W true a b) ≤ bfVal a + bfVal b ∧ bfVal a + bfVal b ≤ bfVal (addDir W false a b) :=
  addDir_sound W a b

theorem C12I_mulDir (W : Nat) (a b : BF) :
    bfVal (mulDir W true a b) ≤ bfVal a * bfVal b ∧ bfVal a * bfVal b ≤ bfVal (mulDir W false a b) :=
  ⟨mulDir_down W a b, mulDir_up W a b⟩

theorem C12I_divDir (W : Nat) (a b : BF) (hb : b.m ≠ 0) :
    bfVal (divDir W true a b) ≤ bfVal a / bfVal b ∧ bfVal a / bfVal b ≤ bfVal (divDir W false a b) :=
  ⟨divDir_down W a b hb, divDir_up W a b hb⟩

theorem C12I_add (W : Nat) (hW : 1 ≤ W) (a b : I) (r s : ℝ) (hr : Encl a r) (hs : Encl b s) :
    Encl (I.add W a b) (r + s) :=
  add_sound W a b r s hr hs

theorem C12I_mul (W : Nat) (a b : I) (r s : ℝ) (hr : Encl a r) (hs : Encl b s) :
    Encl (I.mul W a b) (r * s) :=
  mul_sound W a b r s hr hs

theorem C12I_divPos (W : Nat) (a b : I) (r s : ℝ) (hr : Encl a r) (hs : Encl b s) (hpos : 0 < bfVal b.lo) :
    Encl (I.divPos W a b) (r / s) :=
  divPos_sound W a b r s hr hs hpos

theorem C12I_expTaylor (W : Nat) (hW : 1 ≤ W) (r : BF) (k : Nat) (hk : 1 ≤ k) (hr : |bfVal r| ≤ 1 / 2) :
    Encl (expTaylor W r k) (Real.exp (bfVal r)) :=
  expTaylor_sound W r k hk (by rw [bfVal_eq] at hr; linarith)

theorem C12I_expPoint (W : Nat) (hW : 1 ≤ W) (x : BF) : Encl (expPoint W x) (Real.exp (bfVal x)) :=
  expPoint_sound W x

theorem C12I_lnPoint (W : Nat) (hW : 1 ≤ W) (x : BF) (hx : 0 < x.m) : Encl (lnPoint W x) (Real.log (bfVal x)) :=
  lnPoint_sound W hW x hx

theorem C12I_ln2 (W : Nat) : Encl (ln2C W) (Real.log 2) := by rw [ln2C_eq]; exact ln2I_sound W
theorem C12I_ln10 (W : Nat) : Encl (ln10C W) (Real.log 10) := by rw [ln10C_eq]; exact ln10I_sound W

/-- the only verdict the oracle turns into a failure is sound: if `certainlyOff` holds, the value is
more than `tol` away from every point of the enclosure -/
theorem C12I_certainlyOff (W : Nat) (hW : 1 ≤ W) (v : BF) (enc : I) (tol : BF) (r : ℝ) (hr : Encl enc r)
    (h : certainlyOff W v enc tol = true) : bfVal tol < |bfVal v - r| :=
  certainlyOff_sound W v enc tol r hr h

#print axioms C12I_fastDigits
#print axioms C12I_rnd_down
#print axioms C12I_rnd_up
#print axioms C12I_cmp
#print axioms C12I_addDir
#print axioms C12I_mulDir
#print axioms C12I_divDir
#print axioms C12I_add
#print axioms C12I_mul
#print axioms C12I_divPos
#print axioms C12I_expTaylor
#print axioms C12I_expPoint
#print axioms C12I_lnPoint
#print axioms C12I_ln2
#print axioms C12I_ln10
#print axioms C12I_certainlyOff

end Apd.Props
