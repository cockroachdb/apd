import ApdVerif.Lemmas.LnAccPre
import ApdVerif.Props.TransLog
/-!
# C12 for `Context.Ln`, proved on the tape model

`lnT` (Model/TransLog.lean) sums a power series when the operand (possibly after rescaling by a power of ten)
is within 0.1 of 1, and otherwise runs Halley's iteration from the tape's `float64` estimate, calling `Exp`
(two tape entries per call).  `P = Precision`, `p = P + 2` the working precision, `u = 10^(1-p)/2 = 10^(-P-1)/2`,
`ulp = 10^(Oracle.ulpOf c result).e`, `ρ = 1/2` for the three half modes and `1` for the directed modes
(`Ln` does round its result in the caller's mode, unlike `Exp`).

Under the decidable condition `LnTapeOK c x tape` (Oracle/LnTapeOK.lean, core Lean, executable; `true` on all
6324 recorded real calls) every delivered finite result satisfies

    |result - ln x| ≤ (ρ + (N+5)/16)·ulp + 9u                                  `C12_ln_accurate`

where `N = lnTermsN c x` is the number of series terms added (0 on the Halley path; `N ≤ 0.4p + 1` on all recorded
calls).  Path by path:

* series paths (`x` or `x·10^-k` within 0.1 of 1):  `(ρ + (N+5)/16)·ulp`                   `C12_ln_accurate_series`
* Halley path:  `(ρ + 1/8)·ulp + 9u`  (`7.1u` for `P ≥ 2`)                                  `C12_ln_accurate_halley`
  - i.e. `(ρ + 23/40)·ulp` when `|result| ≥ 0.1`                                           `C12_ln_halley_ulps`
  - but `(ρ + 37/8)·ulp` when `0.01 ≤ |result| < 0.1`, which on this path means `x ∈ (1.1, e^0.1)`:
    `ln x = ln(x/10) + ln 10` cancels one digit and `P + 2` working digits are one too few.

The real code does exceed one ulp in that zone: finding F10, and the example at the end of this file.

The bound needs no assumption on the `float64` estimate: the stopping rule of `loop.done` alone forces the last
iterate to be close (`C12_ln_halley_stop`, `C12_ln_halley_loop`).
-/
namespace Apd.Props
open Apd Apd.Oracle Apd.ExpAcc Apd.LnAcc Apd.C12IL Cond

/-- the rescaling `x = z·10^e`, `z ∈ [0.1, 1)`, `ln x = ln z + e·ln 10` -/
theorem C12_ln_rescale (x : Dec) (hx : PosFin x) :
    1 / 10 ≤ rv (lnZ x) ∧ rv (lnZ x) < 1 ∧
    Real.log (rv x) = Real.log (rv (lnZ x)) + (lnExpDelta x : ℝ) * Real.log 10 :=
  ⟨(lnZ_range x hx).1, (lnZ_range x hx).2, log_scale x hx⟩

/-- the digit string of const.go is `ln 10` to 95 digits (kernel evaluation of the two atanh sums of `ln10Floor`) -/
theorem C12_ln10_cert : |(ln10Coeff : ℝ) * (10 : ℝ) ^ ln10Exp - Real.log 10| ≤ (10 : ℝ) ^ (-(95 : ℤ)) := ln10_cert

/-- the pre-rounded table entry used at working precision `3 ≤ p ≤ 90` -/
theorem C12_ln10_table_near (p : Nat) (hp1 : 3 ≤ p) (hp : p ≤ 90) :
    (ln10At p).form = .finite ∧ |rv (ln10At p) - Real.log 10| ≤ 1001 / 1000 * uR p := ln10At_near p hp1 hp

/-- series: the argument `ŷ = w/(w+2)` computed with three rounded operations -/
theorem C12_ln_series_arg (zr w t3 yh δw δa δq u : ℝ) (hu : 0 ≤ u) (hu1 : u ≤ 1 / 200)
    (hδw : |δw| ≤ u) (hδa : |δa| ≤ u) (hδq : |δq| ≤ u)
    (hw : w = (zr - 1) * (1 + δw)) (ht3 : t3 = (w + 2) * (1 + δa)) (hyh : yh = w / t3 * (1 + δq))
    (hw10 : |w| ≤ 1 / 10) :
    |yh| ≤ 1 / 18 ∧ |L2 yh - Real.log zr| ≤ 338 / 100 * u * |Real.log zr| ∧ |L2 yh| ≤ 1017 / 1000 * |Real.log zr| :=
  series_arg zr w t3 yh δw δa δq u hu hu1 hδw hδa hδq hw ht3 hyh hw10

/-- series: one round of `tmp3 *= y²; tmp4 = tmp3/(2n+1); tmp1 += tmp4` with perturbed operations keeps
`|ŝ - S_{m+2}| ≤ u·|2 atanh y|·(1+u)^(m+1)·(m + 2 + c_{m+1})`, `c_k = Σ_{j≤k} 100^-j` -/
theorem C12_ln_series_round (y u Th sh α β γ ε : ℝ) (m : ℕ) (hy : |y| ≤ 1 / 18) (hu : 0 ≤ u) (hu1 : u ≤ 1 / 200)
    (hα : |α| ≤ u) (hβ : |β| ≤ u) (hγ : |γ| ≤ u) (hε : |ε| ≤ u)
    (hT : RelW (((2 * m + 1 : ℕ) : ℝ) * (u / (1 - u))) (2 * y ^ (2 * m + 1)) Th)
    (hs : |sh - lsum y (m + 1)| ≤ u * |L2 y| * (1 + u) ^ m * ((m : ℝ) + 1 + cc m)) :
    RelW (((2 * m + 3 : ℕ) : ℝ) * (u / (1 - u))) (2 * y ^ (2 * m + 3)) (Th * y * (1 + α) * y * (1 + β)) ∧
    RelW (((2 * m + 4 : ℕ) : ℝ) * (u / (1 - u))) (lterm y (m + 1))
      (Th * y * (1 + α) * y * (1 + β) / ((2 * (m + 1) + 1 : ℕ) : ℝ) * (1 + γ)) ∧
    |(sh + Th * y * (1 + α) * y * (1 + β) / ((2 * (m + 1) + 1 : ℕ) : ℝ) * (1 + γ)) * (1 + ε) - lsum y (m + 2)| ≤
      u * |L2 y| * (1 + u) ^ (m + 1) * ((m : ℝ) + 2 + cc (m + 1)) :=
  series_step y u Th sh α β γ ε m hy hu hu1 hα hβ hγ hε hT hs

/-- series: the stopping rule `|tmp4| ≤ 10^-p = u/5` -/
theorem C12_ln_series_stop (y u sh qh : ℝ) (m : ℕ) (hy : |y| ≤ 1 / 18) (hu : 0 ≤ u) (hu1 : u ≤ 1 / 200)
    (hk : ((2 * m + 4 : ℕ) : ℝ) * (u / (1 - u)) ≤ 1 / 5)
    (hq : RelW (((2 * m + 4 : ℕ) : ℝ) * (u / (1 - u))) (lterm y (m + 1)) qh)
    (hstop : |qh| ≤ u / 5)
    (hs : |sh - lsum y (m + 2)| ≤ u * |L2 y| * (1 + u) ^ (m + 1) * ((m : ℝ) + 2 + cc (m + 1))) :
    |sh - L2 y| ≤ u * |L2 y| * ((1 + u) ^ (m + 1) * ((m : ℝ) + 2 + 1 / 99) + 7 / 1000) :=
  series_final y u sh qh m hy hu hk hq hstop hs

/-- Halley: the last round under the stopping rule, as a statement about real numbers.  `E` is the
inner `Exp` result (`e^{-ω} ≤ E/exp a ≤ e^{ω}`), the five operations of the round are perturbed by `(1+δᵢ)`,
the test `|rnd(a - a')| ≤ 10^-P |a'| = 20u|a'|` passed and `|a'| ≤ 3`: then `a'` is within
`ω + u(1.00503|a'| + 266u + 23300u²)` of `ln z` — no assumption on `a` -/
theorem C12_ln_halley_stop (z a E ω δ1 δ2 δ3 δ4 δ5 δ6 u : ℝ) (hz : 0 < z) (hu : 0 ≤ u) (hu1 : u ≤ 1 / 200)
    (hE : LogNear ω (Real.exp a) E)
    (h1 : |δ1| ≤ u) (h2 : |δ2| ≤ u) (h3 : |δ3| ≤ u) (h4 : |δ4| ≤ u) (h5 : |δ5| ≤ u) (h6 : |δ6| ≤ u)
    (a' : ℝ)
    (ha' : a' = (a - ((E - z) * (1 + δ1) + (E - z) * (1 + δ1)) * (1 + δ2) / ((E + z) * (1 + δ3)) * (1 + δ4)) * (1 + δ5))
    (hstop : |(a - a') * (1 + δ6)| ≤ 20 * u * |a'|) (hbound : |a'| ≤ 3) :
    |a' - Real.log z| ≤ ω + u * (100503 / 100000 * |a'| + 266 * u + 23300 * u ^ 2) :=
  halley_stop z a E ω δ1 δ2 δ3 δ4 δ5 δ6 u hz hu hu1 hE h1 h2 h3 h4 h5 h6 a' ha' hstop hbound

/-- an adequate run of `lnHalley` that ends with `loop.done` returns an iterate `t`, `|t| ≤ 3`,
within `halB p t = omegaE p + u(1.00503|t| + 266u + 23300u²)` of `ln z`, whatever the starting estimate -/
theorem C12_ln_halley_loop (nc : Ctx) (hw : Wide nc) (hm : nc.mode = .halfEven) (hp : 3 ≤ nc.prec)
    (prec : Int) (hprec : prec = (nc.prec : Int) - 1) (maxIter : Nat) (z : Dec) (hzf : z.form = .finite)
    (hz0 : 0 < rv z) (fuel : Nat) (e : ED) (tmp1 : Dec) (l : LoopSt) (tape : Tape) (hc : e.c = nc)
    (hl : 1 ≤ l.i → l.prevZ = tmp1) (hok : lnHalleyOK nc prec maxIter z fuel e tmp1 l tape = true)
    (e' : ED) (t : Dec) (tape' : Tape)
    (h : lnHalley nc prec maxIter z fuel e tmp1 l tape = some (e', .inr t, tape')) (hnf : e'.failed = false) :
    e'.c = nc ∧ t.form = .finite ∧ |rv t| ≤ 3 ∧ |rv t - Real.log (rv z)| ≤ halB nc.prec (rv t) :=
  halley_loop nc hw hm hp prec hprec maxIter z hzf hz0 fuel e tmp1 l tape hc hl hok e' t tape' h hnf

theorem C12_ln_accurate_series (c : Ctx) (hc : c.WF) (x : Dec) (tape r' : Tape) (o : Out)
    (hok : LnTapeOK c x tape = true) (hsp : logSpecials c x = none)
    (hser : (lnA1 c x).2.absD.cmp lnTenth ≤ 0 ∨ (lnA3 c x).2.absD.cmp lnTenth ≤ 0)
    (h : lnT c x tape = some (o, r')) (hd : DeliveredT c o) (hf : o.d.form = .finite) :
    |rv o.d - Real.log (rv x)| ≤
      (((rhoMode c.mode : ℚ) : ℝ) + ((lnTermsN c x : ℕ) + 5 : ℝ) / 16) * (10 : ℝ) ^ (ulpOf c o.d).e := by
  obtain ⟨F, Ff, hod, hns, hFR⟩ := ln_sum_series c x tape r' o hok hsp hser h hd
  rw [hod] at hf ⊢
  refine (round_final c hc F Ff _ 0 (((lnTermsN c x : ℕ) + 5 : ℝ) / 16 * (20 * uR (c.prec + 2))) _
    (mul_nonneg (by positivity) (mul_nonneg (by norm_num) (uR_pos _).le)) ?_ (by rw [zero_add]; exact hFR)
    hns hf).trans_eq (add_zero _)
  rw [mul_assoc, mul_assoc, uR_pow]; norm_num

/-- the Halley path with the constant `C` of the additive term left open -/
theorem ln_path_H (c : Ctx) (hc : c.WF) (x : Dec) (tape r' : Tape) (o : Out)
    (hok : LnTapeOK c x tape = true) (hsp : logSpecials c x = none)
    (h0 : ¬ (lnA1 c x).2.absD.cmp lnTenth ≤ 0) (h1 : ¬ (lnA3 c x).2.absD.cmp lnTenth ≤ 0)
    (h : lnT c x tape = some (o, r')) (hd : DeliveredT c o) (hf : o.d.form = .finite)
    (ξb C : ℝ) (hξ : 266 * uR (c.prec + 2) + 23300 * uR (c.prec + 2) ^ 2 ≤ ξb) (hξb : ξb ≤ 2)
    (hC : 10124 / 10000 * (68582 / 10000 + 1005 / 1000 * ξb) ≤ C) :
    |rv o.d - Real.log (rv x)| ≤
      (((rhoMode c.mode : ℚ) : ℝ) + 1 / 8) * (10 : ℝ) ^ (ulpOf c o.d).e + C * uR (c.prec + 2) := by
  obtain ⟨F, Ff, hod, hns, hFR⟩ := ln_sum_halley c x tape r' o hok hsp h0 h1 h hd ξb C hξ hξb hC
  rw [hod] at hf ⊢
  refine round_final c hc F Ff _ _ _ _ (mul_nonneg (by norm_num) (uR_pos _).le) ?_ hFR hns hf
  rw [mul_assoc, uR_pow]; norm_num

theorem C12_ln_accurate_halley (c : Ctx) (hc : c.WF) (x : Dec) (tape r' : Tape) (o : Out)
    (hok : LnTapeOK c x tape = true) (hsp : logSpecials c x = none)
    (h0 : ¬ (lnA1 c x).2.absD.cmp lnTenth ≤ 0) (h1 : ¬ (lnA3 c x).2.absD.cmp lnTenth ≤ 0)
    (h : lnT c x tape = some (o, r')) (hd : DeliveredT c o) (hf : o.d.form = .finite) :
    |rv o.d - Real.log (rv x)| ≤
      (((rhoMode c.mode : ℚ) : ℝ) + 1 / 8) * (10 : ℝ) ^ (ulpOf c o.d).e + 9 * uR (c.prec + 2) ∧
    (2 ≤ c.prec → |rv o.d - Real.log (rv x)| ≤
      (((rhoMode c.mode : ℚ) : ℝ) + 1 / 8) * (10 : ℝ) ^ (ulpOf c o.d).e + 71 / 10 * uR (c.prec + 2)) := by
  have hc1 := hc.1
  have hu0 := (uR_pos (c.prec + 2)).le
  constructor
  · have hu1 : uR (c.prec + 2) ≤ 1 / 200 := uR_small _ (by omega)
    exact ln_path_H c hc x tape r' o hok hsp h0 h1 h hd hf (19125 / 10000) 9
      ((xi_le _ _ hu0 hu1).trans (by norm_num)) (by norm_num) (by norm_num)
  · intro hP2
    have hu2 : uR (c.prec + 2) ≤ 1 / 2000 := by
      rw [uR_eq, div_le_div_iff₀ (by positivity) (by norm_num)]
      have : (10 : ℝ) ^ 4 ≤ (10 : ℝ) ^ (c.prec + 2) := pow_le_pow_right₀ (by norm_num) (by omega)
      linarith only [this]
    exact ln_path_H c hc x tape r' o hok hsp h0 h1 h hd hf (139 / 1000) (71 / 10)
      ((xi_le _ _ hu0 hu2).trans (by norm_num)) (by norm_num) (by norm_num)

/-- Halley path, result of magnitude at least `10^m`: `u ≤ 10^(-m-2)/2` ulp, so the additive `9u` is
`(9/2)·10^(-m-2)` ulp -/
theorem ln_halley_ulps_adj (c : Ctx) (hc : c.WF) (x : Dec) (tape r' : Tape) (o : Out)
    (hok : LnTapeOK c x tape = true) (hsp : logSpecials c x = none)
    (h0 : ¬ (lnA1 c x).2.absD.cmp lnTenth ≤ 0) (h1 : ¬ (lnA3 c x).2.absD.cmp lnTenth ≤ 0)
    (h : lnT c x tape = some (o, r')) (hd : DeliveredT c o) (hf : o.d.form = .finite)
    (m : ℤ) (hadj : m ≤ (ndigits o.d.coeff : Int) - 1 + o.d.exp) :
    |rv o.d - Real.log (rv x)| ≤
      (((rhoMode c.mode : ℚ) : ℝ) + 1 / 8 + 9 * ((10 : ℝ) ^ (-m - 2) / 2)) * (10 : ℝ) ^ (ulpOf c o.d).e := by
  have hu : uR (c.prec + 2) ≤ _ * (10 : ℝ) ^ (ulpOf c o.d).e := u_le_ulp c o.d m hadj
  linarith only [(C12_ln_accurate_halley c hc x tape r' o hok hsp h0 h1 h hd hf).1, hu]

theorem C12_ln_halley_ulps (c : Ctx) (hc : c.WF) (x : Dec) (tape r' : Tape) (o : Out)
    (hok : LnTapeOK c x tape = true) (hsp : logSpecials c x = none)
    (h0 : ¬ (lnA1 c x).2.absD.cmp lnTenth ≤ 0) (h1 : ¬ (lnA3 c x).2.absD.cmp lnTenth ≤ 0)
    (h : lnT c x tape = some (o, r')) (hd : DeliveredT c o) (hf : o.d.form = .finite)
    (hadj : -1 ≤ (ndigits o.d.coeff : Int) - 1 + o.d.exp) :
    |rv o.d - Real.log (rv x)| ≤ (((rhoMode c.mode : ℚ) : ℝ) + 23 / 40) * (10 : ℝ) ^ (ulpOf c o.d).e :=
  (ln_halley_ulps_adj c hc x tape r' o hok hsp h0 h1 h hd hf (-1) hadj).trans_eq (by congr 1; norm_num; ring)

theorem C12_ln_halley_ulps_small (c : Ctx) (hc : c.WF) (x : Dec) (tape r' : Tape) (o : Out)
    (hok : LnTapeOK c x tape = true) (hsp : logSpecials c x = none)
    (h0 : ¬ (lnA1 c x).2.absD.cmp lnTenth ≤ 0) (h1 : ¬ (lnA3 c x).2.absD.cmp lnTenth ≤ 0)
    (h : lnT c x tape = some (o, r')) (hd : DeliveredT c o) (hf : o.d.form = .finite)
    (hadj : -2 ≤ (ndigits o.d.coeff : Int) - 1 + o.d.exp) :
    |rv o.d - Real.log (rv x)| ≤ (((rhoMode c.mode : ℚ) : ℝ) + 37 / 8) * (10 : ℝ) ^ (ulpOf c o.d).e :=
  (ln_halley_ulps_adj c hc x tape r' o hok hsp h0 h1 h hd hf (-2) hadj).trans_eq (by congr 1; norm_num; ring)

/-- the bound for every delivered outcome (nil error, or the trap of its flags), all paths and the special case `x = 1` -/
theorem C12_ln_accurate_delivered (c : Ctx) (hc : c.WF) (x : Dec) (tape r' : Tape) (o : Out)
    (hok : LnTapeOK c x tape = true)
    (h : lnT c x tape = some (o, r')) (hd : DeliveredT c o) (hf : o.d.form = .finite) :
    |rv o.d - Real.log (rv x)| ≤
      (((rhoMode c.mode : ℚ) : ℝ) + ((lnTermsN c x : ℕ) + 5 : ℝ) / 16) * (10 : ℝ) ^ (ulpOf c o.d).e +
        9 * uR (c.prec + 2) := by
  have hρ := rhoMode_nonneg c.mode
  have hU : (0 : ℝ) < (10 : ℝ) ^ (ulpOf c o.d).e := zpow_pos (by norm_num) _
  have hu0 := (uR_pos (c.prec + 2)).le
  cases hsp : logSpecials c x with
  | some o' =>
    obtain rfl := (lnT_shape h).of_some hsp
    obtain ⟨e1, e0⟩ := logSpecials_some c x (lnTapeOK_parts c x tape hok).1 o hsp hf
    rw [e1, e0, Real.log_one, sub_zero, abs_zero]
    generalize lnTermsN c x = N
    positivity
  | none =>
    by_cases hser : (lnA1 c x).2.absD.cmp lnTenth ≤ 0 ∨ (lnA3 c x).2.absD.cmp lnTenth ≤ 0
    · linarith only [C12_ln_accurate_series c hc x tape r' o hok hsp hser h hd hf, hu0]
    · rw [not_or] at hser
      have hN : (0 : ℝ) ≤ ((lnTermsN c x : ℕ) : ℝ) := by positivity
      have : (((rhoMode c.mode : ℚ) : ℝ) + 1 / 8) * (10 : ℝ) ^ (ulpOf c o.d).e ≤
          (((rhoMode c.mode : ℚ) : ℝ) + ((lnTermsN c x : ℕ) + 5 : ℝ) / 16) * (10 : ℝ) ^ (ulpOf c o.d).e :=
        mul_le_mul_of_nonneg_right (by linarith only [hN]) hU.le
      linarith only [(C12_ln_accurate_halley c hc x tape r' o hok hsp hser.1 hser.2 h hd hf).1, this]

/-- `Context.Ln` on the tape model, every operand, context and rounding mode, every tape with `LnTapeOK`:
a delivered finite result is within `(ρ + (N+5)/16)·ulp + 9u` of `ln x` -/
theorem C12_ln_accurate (c : Ctx) (hc : c.WF) (x : Dec) (tape r' : Tape) (o : Out)
    (hok : LnTapeOK c x tape = true)
    (h : lnT c x tape = some (o, r')) (he : o.err = .none) (hf : o.d.form = .finite) :
    |((o.d.toRat : ℚ) : ℝ) - Real.log ((x.toRat : ℚ) : ℝ)| ≤
      (((rhoMode c.mode : ℚ) : ℝ) + ((lnTermsN c x : ℕ) + 5 : ℝ) / 16) * (10 : ℝ) ^ (ulpOf c o.d).e +
        9 * ((10 : ℝ) ^ (-(c.prec : ℤ) - 1) / 2) := by
  rw [← uR_prec]
  exact C12_ln_accurate_delivered c hc x tape r' o hok h (Or.inl he) hf

/-! ## `LnTapeOK` on real tapes, and the finding

Kernel-checked instances with tapes the Go code produced (hook `VerifTape`): -/

def lnCtx (p : Nat) : Ctx := { prec := p, emax := 100000, emin := -100000, mode := .halfEven }

/-- `ln 2` at 5 digits -/
example : LnTapeOK (lnCtx 5) { coeff := 2 }
    [.est { neg := true, coeff := 16094379124341003, exp := -16 }, .cp 7, .n 8, .cp 7, .n 8] = true := by decide +kernel
example : (lnT (lnCtx 5) { coeff := 2 }
    [.est { neg := true, coeff := 16094379124341003, exp := -16 }, .cp 7, .n 8, .cp 7, .n 8]).map
    (fun p => (p.1.d, p.1.err, p.2.length)) = some ({ coeff := 69315, exp := -5 }, .none, 0) := by decide +kernel
/-- a series call: `ln 1.05` at 7 digits adds 3 terms -/
example : LnTapeOK (lnCtx 7) { coeff := 105, exp := -2 } [] = true ∧ lnTermsN (lnCtx 7) { coeff := 105, exp := -2 } = 3 := by
  decide +kernel
/-- THE FINDING, on the model with the real tape: `Ln(1.103146)` at `Precision 4`, half-even, is `0.09818`;
`ln 1.103146 = 0.09816609778…`, one ulp is `0.00001`: 1.39 ulp off.  The tape is adequate (`LnTapeOK`), the result
`0.09818` is below `0.1`, and `C12_ln_halley_ulps_small` allows up to `(1/2 + 37/8)` ulp there. -/
example : LnTapeOK (lnCtx 4) { coeff := 1103146, exp := -6 }
    [.est { neg := true, coeff := 22044189952085236, exp := -16 }, .cp 6, .n 8, .cp 6, .n 8] = true := by decide +kernel
example : (lnT (lnCtx 4) { coeff := 1103146, exp := -6 }
    [.est { neg := true, coeff := 22044189952085236, exp := -16 }, .cp 6, .n 8, .cp 6, .n 8]).map
    (fun p => (p.1.d, p.1.err, p.2.length)) = some ({ coeff := 9818, exp := -5 }, .none, 0) := by decide +kernel

end Apd.Props

#print axioms Apd.Props.C12_ln_rescale
#print axioms Apd.Props.C12_ln10_cert
#print axioms Apd.Props.C12_ln10_table_near
#print axioms Apd.Props.C12_ln_series_arg
#print axioms Apd.Props.C12_ln_series_round
#print axioms Apd.Props.C12_ln_series_stop
#print axioms Apd.Props.C12_ln_halley_stop
#print axioms Apd.Props.C12_ln_halley_loop
#print axioms Apd.Props.C12_ln_accurate_series
#print axioms Apd.Props.C12_ln_accurate_halley
#print axioms Apd.Props.C12_ln_halley_ulps
#print axioms Apd.Props.C12_ln_halley_ulps_small
#print axioms Apd.Props.C12_ln_accurate_delivered
#print axioms Apd.Props.C12_ln_accurate
