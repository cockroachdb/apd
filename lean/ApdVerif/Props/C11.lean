import ApdVerif.Oracle.Roots
import ApdVerif.Lemmas.C11Lemmas
import ApdVerif.Lemmas.SqrtDefs
/-!
# C11 — the integer-root oracles, the specification `specSqrt`, the precision schedule, the negative operand

What is proved for all inputs: the integer-root oracles are right (so the verdict of the check on
each generated case is sound; likewise the checks on Cbrt's answers, `C11_cbrtWithinUlp_sound` and
`C11_perfectCube`), the specification `specSqrt` is the half-even rounding of the real
square root stated with integer squares, the special cases, and termination of Sqrt's
precision-doubling loop.  That the Newton iterates of Sqrt are accurate enough is NOT proved in this file: the
final decision is an exact comparison of squares (Props/C11Settle.lean), and Props/C11Sqrt.lean shows that the
iterate is close enough to the root for that comparison to select the nearest multiple of the quantum.
-/
namespace Apd.Props
open Apd Apd.Oracle Apd.C11L

theorem C11_isqrt (n : Nat) : isqrt n * isqrt n ≤ n ∧ n < (isqrt n + 1) * (isqrt n + 1) := by
  have h := isqrt_eq n (Nat.sqrt n) (Nat.sqrt_le n) (Nat.lt_succ_sqrt n)
  rw [h]
  exact ⟨Nat.sqrt_le n, Nat.lt_succ_sqrt n⟩

theorem C11_icbrt (n : Nat) :
    icbrt n * icbrt n * icbrt n ≤ n ∧ n < (icbrt n + 1) * (icbrt n + 1) * (icbrt n + 1) := by
  obtain ⟨s, h1, h2⟩ := exists_cbrt n
  rw [icbrt_eq n s h1 h2]
  exact ⟨h1, h2⟩

set_option linter.unusedVariables false in
/-- `specSqrt` (finite, non-overflowing case) returns the multiple `m·10^q` of the quantum nearest to
`√x`, ties to even, stated on squares: with `X = x / 10^(2q)` (as `num/den`),
`(2m-1)² ≤ 4X ≤ (2m+1)²`, strictly unless the tie goes to the even side; and Inexact iff `m² ≠ X`. -/
theorem C11_specSqrt_nearest (c : Ctx) (x : Dec) (hx : x.coeff ≠ 0) :
    let s := specSqrt c x
    let sh := x.exp - 2 * s.q
    let num := if sh ≥ 0 then x.coeff * 10 ^ sh.toNat else x.coeff
    let den := if sh ≥ 0 then 1 else 10 ^ (-sh).toNat
    s.inf = false →
    ((2 * s.m - 1) * (2 * s.m - 1) * den ≤ 4 * num ∨ s.m = 0) ∧ 4 * num ≤ (2 * s.m + 1) * (2 * s.m + 1) * den ∧
    (4 * num = (2 * s.m + 1) * (2 * s.m + 1) * den → s.m % 2 = 0) ∧
    (s.m ≠ 0 → (2 * s.m - 1) * (2 * s.m - 1) * den = 4 * num → s.m % 2 = 0) ∧
    (s.inexact = false ↔ s.m * s.m * den = num) := by
  dsimp only
  intro hinf
  obtain ⟨hm, hq, hi⟩ := specSqrt_fields c x hinf
  rw [hm, hq, hi]
  apply nearest_core
  · split
    · exact Nat.one_pos
    · exact Nat.pow_pos (by decide)
  · apply (Nat.le_div_iff_mul_le _).mp
    · exact (C11_isqrt _).1
    · split
      · exact Nat.one_pos
      · exact Nat.pow_pos (by decide)
  · apply (Nat.div_lt_iff_lt_mul _).mp
    · exact (C11_isqrt _).2
    · split
      · exact Nat.one_pos
      · exact Nat.pow_pos (by decide)

/-- `cbrtWithinUlp` says what it should: with `u` the exponent of one unit in the last place of a
`prec`-digit result and `M·10^u` the result, `((M-1)·10^u)³ ≤ |x| ≤ ((M+1)·10^u)³`. -/
theorem C11_cbrtWithinUlp_sound (c : Ctx) (x d : Dec) (h : cbrtWithinUlp c x d = true) :
    let adjd : Int := (ndigits d.coeff : Int) - 1 + d.exp
    let u : Int := max (adjd - (c.prec : Int) + 1) (c.emin - (c.prec : Int) + 1)
    u ≤ d.exp ∧
    (let M := d.coeff * 10 ^ (d.exp - u).toNat
     let sh := x.exp - 3 * u
     if sh ≥ 0 then (M - 1) ^ 3 ≤ x.coeff * 10 ^ sh.toNat ∧ x.coeff * 10 ^ sh.toNat ≤ (M + 1) ^ 3
     else (M - 1) ^ 3 * 10 ^ (-sh).toNat ≤ x.coeff ∧ x.coeff ≤ (M + 1) ^ 3 * 10 ^ (-sh).toNat) := by
  dsimp only
  unfold cbrtWithinUlp at h
  simp only [] at h
  split at h
  · exact absurd h (by simp)
  · rename_i hu
    refine ⟨by omega, ?_⟩
    have p3 : ∀ a : Nat, a ^ 3 = a * a * a := fun a => by
      rw [Nat.pow_succ, Nat.pow_succ, Nat.pow_one]
    simp only [p3]
    split at h
    · rename_i hs
      rw [if_pos hs]
      simpa using h
    · rename_i hs
      rw [if_neg hs]
      simpa using h

/-- an answer `(r, k)` of `perfectCube` is a cube root: `r³ = coeff·10^(exp mod 3)`, `exp = 3k + exp mod 3` -/
theorem C11_perfectCube (x : Dec) (r : Nat) (k : Int) (h : perfectCube x = some (r, k)) :
    x.exp = 3 * k + Int.emod x.exp 3 ∧ r * r * r = x.coeff * 10 ^ (Int.emod x.exp 3).toNat := by
  unfold perfectCube at h
  simp only [] at h
  split at h
  · rename_i hc
    simp only [Option.some.injEq, Prod.mk.injEq] at h
    obtain ⟨hr, hk⟩ := h
    have hc' := hc
    rw [beq_iff_eq] at hc'
    rw [hr] at hc'
    refine ⟨?_, hc'⟩
    rw [← hk, Int.fdiv_eq_ediv_of_nonneg _ (by decide)]
    have : Int.emod x.exp 3 = x.exp % 3 := rfl
    rw [this]
    omega
  · exact absurd h (by simp)

def precStep (maxp : Nat) : Nat → Nat → Nat
  | 0, p => p
  | k+1, p => precStep maxp k (min maxp (2 * p - 2))

/-- a step of `precStep` is the model's `nextP` -/
theorem min_eq_nextP (p maxp : Nat) : min maxp (2 * p - 2) = SqrtD.nextP p maxp := by
  unfold SqrtD.nextP; split <;> omega

theorem precStep_reach (maxp : Nat) (hm : 3 ≤ maxp) :
    ∀ k p, 3 ≤ p → p ≤ maxp → maxp ≤ 2 ^ k * (p - 2) + 2 → precStep maxp k p = maxp := by
  intro k
  induction k with
  | zero => intro p h3 hp hk; simp only [precStep]; omega
  | succ k ih =>
    intro p h3 hp hk
    rw [precStep, min_eq_nextP]
    have := SqrtD.nextP_budget (maxp := maxp) (k := k) h3 (by omega)
    exact ih _ (SqrtD.nextP_mem h3 hp).1 (SqrtD.nextP_mem h3 hp).2 (by omega)

/-- the precision-doubling loop of Sqrt reaches `maxp` within the fuel the model gives it:
from p = 3, after k steps p ≥ min(maxp, 2^k + 2) -/
theorem C11_sqrtLoop_terminates (maxp : Nat) (hm : 3 ≤ maxp) (hb : maxp < 2 ^ 62) :
    ∃ k, k ≤ 64 ∧ precStep maxp k 3 = maxp := by
  refine ⟨62, by decide, ?_⟩
  apply precStep_reach maxp hm 62 3 (by omega) hm
  omega

/-- also part of C08 -/
theorem C11_sqrt_negative (c : Ctx) (x : Dec) (hx : x.form = .finite) (hn : x.neg = true) (hc : x.coeff ≠ 0) :
    (sqrtOp c x).d.form = .nan ∧ (sqrtOp c x).fl = Cond.cInvalidOp := by
  have hnan : x.isNaN = false := by simp [Dec.isNaN, hx]
  have hsign : x.sign = -1 := by simp [Dec.sign, hx, hc, hn]
  have : rootSpecials c x 2 = some (invalidNaN c) := by
    simp [rootSpecials, shouldSetAsNaN, hnan, hx, hsign]
  rw [SqrtD.sqrtOp_special this]
  exact ⟨rfl, rfl⟩

example : isqrt 99 = 9 := by decide
example : icbrt 1000 = 10 := by decide

#print axioms C11_isqrt
#print axioms C11_icbrt
#print axioms C11_specSqrt_nearest
#print axioms C11_cbrtWithinUlp_sound
#print axioms C11_perfectCube
#print axioms C11_sqrtLoop_terminates
#print axioms C11_sqrt_negative

end Apd.Props
