import ApdVerif.Props.RoundCore
import ApdVerif.Props.Mul
import ApdVerif.Props.Quo
/-!
# C01 — Add/Sub/Mul/Quo/Abs/Neg/Round return the exactly rounded result

For finite operands and a delivered outcome (no system exponent-limit error), the returned
decimal is numerically equal, sign of zero included, to the exact mathematical result rounded
once to the context (`specRound`: Precision digits in the selected mode, or to Etiny below the
normal range, or to an infinity of the right sign above MaxExponent).  With Precision 0 the exact
result is returned whenever it lies in the exponent range.

These are the value clauses of the `Agrees` theorems proved in `RoundCore`, `Mul`, `Quo`
(special operands are C08's business).  `Oracle/Round.lean` is related to ℚ by `Props/Rational.lean`.
-/
namespace Apd.Props
open Apd Apd.Oracle

theorem C01_value_round (c : Ctx) (hc : c.WF) (x : Dec) (hx : x.form = .finite)
    (h : Delivered (roundOp c x).err) :
    (specRound c (exactRound x)).matches (roundOp c x).d = true := (C01_round c hc x hx h).1

theorem C01_value_abs (c : Ctx) (hc : c.WF) (x : Dec) (hx : x.form = .finite)
    (h : Delivered (absOp c x).err) :
    (specRound c (exactAbs x)).matches (absOp c x).d = true := (C01_abs c hc x hx h).1

theorem C01_value_neg (c : Ctx) (hc : c.WF) (x : Dec) (hx : x.form = .finite)
    (h : Delivered (negOp c x).err) :
    (specRound c (exactNeg x)).matches (negOp c x).d = true := (C01_neg c hc x hx h).1

theorem C01_value_add (c : Ctx) (hc : c.WF) (x y : Dec) (sub : Bool)
    (hx : x.form = .finite) (hy : y.form = .finite) (h : Delivered (addOp c x y sub).err) :
    (specRound c (exactAdd c x y sub)).matches (addOp c x y sub).d = true := (C01_add c hc x y sub hx hy h).1

theorem C01_value_mul (c : Ctx) (hc : c.WF) (x y : Dec) (hx : x.form = .finite) (hy : y.form = .finite)
    (h : Delivered (mulOp c x y).err) :
    (specRound c (exactMul x y)).matches (mulOp c x y).d = true := (C01_mul c hc x y hx hy h).1

theorem C01_value_quo (c : Ctx) (hc : c.WF) (x y : Dec) (hx : x.form = .finite) (hy : y.form = .finite)
    (hy0 : y.coeff ≠ 0) (h : Delivered (quoOp c x y).err) :
    (specRound c (exactQuo x y)).matches (quoOp c x y).d = true := (C01_quo c hc x y hx hy hy0 h).1

/-- Precision 0: Add/Sub and Mul return the exact result with no digit limit -/
theorem C01_value_add_prec0 (c : Ctx) (hc : c.WF0) (hp : c.prec = 0) (x y : Dec) (sub : Bool)
    (hx : x.form = .finite) (hy : y.form = .finite) (h : Delivered (addOp c x y sub).err)
    (s : SpecOut) (hs : specExact c (exactAdd c x y sub) = some s) :
    s.matches (addOp c x y sub).d = true := (C01_add_prec0 c hc hp x y sub hx hy h s hs).1

theorem C01_value_mul_prec0 (c : Ctx) (hc : c.WF0) (hp : c.prec = 0) (x y : Dec)
    (hx : x.form = .finite) (hy : y.form = .finite) (h : Delivered (mulOp c x y).err)
    (s : SpecOut) (hs : specExact c (exactMul x y) = some s) :
    s.matches (mulOp c x y).d = true := (C01_mul_prec0 c hc hp x y hx hy h s hs).1

/-- non-vacuity: a subnormal negative tie under RoundFloor is delivered and rounds away from zero -/
example : (addOp { prec := 5, emax := 10, emin := -10, mode := .floor }
    { neg := true, coeff := 123, exp := -15 } { coeff := 0, exp := 0 } false).d
    = { neg := true, coeff := 13, exp := -14 } := by decide

end Apd.Props
