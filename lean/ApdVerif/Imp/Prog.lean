import ApdVerif.Model.Basic
/-!
# Store-level layer: a free monad of field reads / writes on `Decimal` cells (core Lean only)

`Cell`s are the addresses of `apd.Decimal` objects, a `Heap` maps every cell to its current value
(`Dec` of `Model/Basic.lean`).  A `Prog α` is a tree of primitive field accesses; `run` executes it
sequentially, `step1` executes one primitive access (used for interleavings, `runSched`).

* `WritesOnly S p` : every write of `p` goes to a cell in `S`;
* `Foot R W p`     : every read of `p` is in `R ∪ W`, every write in `W`;
* `interleave_inv` : threads whose write sets are disjoint from the other threads' footprints see,
  under every schedule, a prefix of their solo run.
-/
namespace Apd.Imp

abbrev Cell := Nat
abbrev Heap := Cell → Dec

inductive Prog (α : Type) where
  | ret : α → Prog α
  | getForm : Cell → (Form → Prog α) → Prog α
  | getNeg : Cell → (Bool → Prog α) → Prog α
  | getExp : Cell → (Int → Prog α) → Prog α
  | getCoeff : Cell → (Nat → Prog α) → Prog α
  | setForm : Cell → Form → Prog α → Prog α
  | setNeg : Cell → Bool → Prog α → Prog α
  | setExp : Cell → Int → Prog α → Prog α
  | setCoeff : Cell → Nat → Prog α → Prog α

namespace Prog
def bind : Prog α → (α → Prog β) → Prog β
  | ret a, f => f a
  | getForm c k, f => getForm c (fun v => bind (k v) f)
  | getNeg c k, f => getNeg c (fun v => bind (k v) f)
  | getExp c k, f => getExp c (fun v => bind (k v) f)
  | getCoeff c k, f => getCoeff c (fun v => bind (k v) f)
  | setForm c v p, f => setForm c v (bind p f)
  | setNeg c v p, f => setNeg c v (bind p f)
  | setExp c v p, f => setExp c v (bind p f)
  | setCoeff c v p, f => setCoeff c v (bind p f)

instance : Monad Prog where
  pure := ret
  bind := bind
end Prog

open Prog

def upd (h : Heap) (c : Cell) (f : Dec → Dec) : Heap := fun c' => if c' = c then f (h c') else h c'

def Heap.set (h : Heap) (c : Cell) (v : Dec) : Heap := fun c' => if c' = c then v else h c'

def run : Prog α → Heap → α × Heap
  | ret a, h => (a, h)
  | getForm c k, h => run (k (h c).form) h
  | getNeg c k, h => run (k (h c).neg) h
  | getExp c k, h => run (k (h c).exp) h
  | getCoeff c k, h => run (k (h c).coeff) h
  | setForm c v p, h => run p (upd h c (fun d => { d with form := v }))
  | setNeg c v p, h => run p (upd h c (fun d => { d with neg := v }))
  | setExp c v p, h => run p (upd h c (fun d => { d with exp := v }))
  | setCoeff c v p, h => run p (upd h c (fun d => { d with coeff := v }))

inductive WritesOnly (S : Cell → Prop) : Prog α → Prop
  | ret a : WritesOnly S (ret a)
  | getForm c k : (∀ v, WritesOnly S (k v)) → WritesOnly S (getForm c k)
  | getNeg c k : (∀ v, WritesOnly S (k v)) → WritesOnly S (getNeg c k)
  | getExp c k : (∀ v, WritesOnly S (k v)) → WritesOnly S (getExp c k)
  | getCoeff c k : (∀ v, WritesOnly S (k v)) → WritesOnly S (getCoeff c k)
  | setForm c v p : S c → WritesOnly S p → WritesOnly S (setForm c v p)
  | setNeg c v p : S c → WritesOnly S p → WritesOnly S (setNeg c v p)
  | setExp c v p : S c → WritesOnly S p → WritesOnly S (setExp c v p)
  | setCoeff c v p : S c → WritesOnly S p → WritesOnly S (setCoeff c v p)

inductive Foot (R W : Cell → Prop) : Prog α → Prop
  | ret a : Foot R W (.ret a)
  | getForm c k : (R c ∨ W c) → (∀ v, Foot R W (k v)) → Foot R W (.getForm c k)
  | getNeg c k : (R c ∨ W c) → (∀ v, Foot R W (k v)) → Foot R W (.getNeg c k)
  | getExp c k : (R c ∨ W c) → (∀ v, Foot R W (k v)) → Foot R W (.getExp c k)
  | getCoeff c k : (R c ∨ W c) → (∀ v, Foot R W (k v)) → Foot R W (.getCoeff c k)
  | setForm c v p : W c → Foot R W p → Foot R W (.setForm c v p)
  | setNeg c v p : W c → Foot R W p → Foot R W (.setNeg c v p)
  | setExp c v p : W c → Foot R W p → Foot R W (.setExp c v p)
  | setCoeff c v p : W c → Foot R W p → Foot R W (.setCoeff c v p)

@[simp] theorem run_bind (p : Prog α) (f : α → Prog β) (h : Heap) :
    run (p >>= f) h = run (f (run p h).1) (run p h).2 := by
  show run (Prog.bind p f) h = _
  induction p generalizing h <;> simp only [Prog.bind, run, *]

@[simp] theorem run_pure (a : α) (h : Heap) : run (pure a : Prog α) h = (a, h) := rfl
@[simp] theorem run_ret (a : α) (h : Heap) : run (Prog.ret a) h = (a, h) := rfl

@[simp] theorem run_ite (c : Prop) [Decidable c] (p q : Prog α) (h : Heap) :
    run (if c then p else q) h = if c then run p h else run q h := by
  split <;> rfl

@[simp] theorem run_dite (c : Prop) [Decidable c] (p : c → Prog α) (q : ¬ c → Prog α) (h : Heap) :
    run (if hc : c then p hc else q hc) h = if hc : c then run (p hc) h else run (q hc) h := by
  split <;> rfl

theorem upd_eq_set (h : Heap) (c : Cell) (f : Dec → Dec) : upd h c f = h.set c (f (h c)) := by
  funext c'; unfold upd Heap.set; split
  · next e => rw [e]
  · rfl

theorem upd_other (h : Heap) {c L : Cell} (hne : c ≠ L) (g : Dec → Dec) : (upd h c g) L = h L :=
  if_neg (Ne.symm hne)

@[simp] theorem Heap.set_same (h : Heap) (c : Cell) (v : Dec) : (h.set c v) c = v := by
  simp [Heap.set]

theorem Heap.set_other (h : Heap) {c c' : Cell} (v : Dec) (hne : c' ≠ c) : (h.set c v) c' = h c' := by
  simp [Heap.set, hne]

@[simp] theorem Heap.set_set (h : Heap) (c : Cell) (v w : Dec) : (h.set c v).set c w = h.set c w := by
  funext c'; unfold Heap.set; split <;> rfl

@[simp] theorem Heap.set_self (h : Heap) (c : Cell) : h.set c (h c) = h := by
  funext c'; unfold Heap.set; split
  · next e => rw [e]
  · rfl

theorem Heap.set_apply (h : Heap) (c c' : Cell) (v : Dec) :
    (h.set c v) c' = if c' = c then v else h c' := rfl

theorem upd_set_comm (h : Heap) {c L : Cell} (hne : c ≠ L) (g : Dec → Dec) (v : Dec) :
    (upd h c g).set L v = upd (h.set L v) c g := by
  funext c'
  unfold upd Heap.set
  by_cases h1 : c' = L
  · subst h1; simp [Ne.symm hne]
  · by_cases h2 : c' = c
    · subst h2; simp [h1]
    · simp [h1, h2]

theorem upd_self_set (h : Heap) (L : Cell) (g : Dec → Dec) (v : Dec) :
    upd (h.set L v) L g = h.set L (g v) := by
  rw [upd_eq_set]; simp

theorem WritesOnly.bind {S : Cell → Prop} {p : Prog α} {f : α → Prog β}
    (hp : WritesOnly S p) (hf : ∀ a, WritesOnly S (f a)) : WritesOnly S (p >>= f) := by
  show WritesOnly S (Prog.bind p f)
  induction hp <;> first | exact hf _ | (constructor <;> assumption)

theorem Foot.bind {R W : Cell → Prop} {p : Prog α} {f : α → Prog β}
    (hp : Foot R W p) (hf : ∀ a, Foot R W (f a)) : Foot R W (p >>= f) := by
  show Foot R W (Prog.bind p f)
  induction hp <;> first | exact hf _ | (constructor <;> assumption)

theorem Foot.pure {R W : Cell → Prop} (a : α) : Foot R W (pure a : Prog α) := Foot.ret a

theorem Foot.ite {R W : Cell → Prop} {c : Prop} [Decidable c] {p q : Prog α}
    (hp : Foot R W p) (hq : Foot R W q) : Foot R W (if c then p else q) := by
  split <;> assumption

theorem Foot.writesOnly {R W : Cell → Prop} {p : Prog α} (hp : Foot R W p) : WritesOnly W p := by
  induction hp <;> constructor <;> assumption

theorem Foot.mono {R W R' W' : Cell → Prop} {p : Prog α} (hp : Foot R W p)
    (hR : ∀ c, R c → R' c ∨ W' c) (hW : ∀ c, W c → W' c) : Foot R' W' p := by
  have hRW : ∀ c, R c ∨ W c → R' c ∨ W' c := fun c hc => hc.elim (hR c) (fun w => Or.inr (hW c w))
  induction hp <;> constructor <;> first | assumption | exact hRW _ ‹_› | exact hW _ ‹_›

theorem WritesOnly.frame {S : Cell → Prop} {p : Prog α} (hp : WritesOnly S p) (h : Heap) :
    ∀ c, ¬ S c → (run p h).2 c = h c := by
  induction hp generalizing h with
  | ret a => intro c _; rfl
  | getForm c k _ ih | getNeg c k _ ih | getExp c k _ ih | getCoeff c k _ ih => exact ih _ h
  | setForm c v p hc _ ih | setNeg c v p hc _ ih | setExp c v p hc _ ih | setCoeff c v p hc _ ih =>
    intro c' hc'
    exact (ih _ c' hc').trans (upd_other h (c := c) (L := c') (fun e => hc' (e ▸ hc)) _)

/-! ## small-step semantics and interleaving -/

def step1 : Prog α → Heap → Option (Prog α × Heap)
  | .ret _, _ => none
  | .getForm c k, h => some (k (h c).form, h)
  | .getNeg c k, h => some (k (h c).neg, h)
  | .getExp c k, h => some (k (h c).exp, h)
  | .getCoeff c k, h => some (k (h c).coeff, h)
  | .setForm c v p, h => some (p, upd h c (fun d => { d with form := v }))
  | .setNeg c v p, h => some (p, upd h c (fun d => { d with neg := v }))
  | .setExp c v p, h => some (p, upd h c (fun d => { d with exp := v }))
  | .setCoeff c v p, h => some (p, upd h c (fun d => { d with coeff := v }))

def agree (F : Cell → Prop) (h h' : Heap) : Prop := ∀ c, F c → h c = h' c

theorem step1_agree {R W : Cell → Prop} {p : Prog α} (hf : Foot R W p) {h h' : Heap}
    (ha : agree (fun c => R c ∨ W c) h h') :
    match step1 p h, step1 p h' with
    | none, none => True
    | some (q, g), some (q', g') => q = q' ∧ agree (fun c => R c ∨ W c) g g' ∧ Foot R W q ∧
        (∀ c, ¬ W c → g c = h c) ∧ (∀ c, ¬ W c → g' c = h' c)
    | _, _ => False := by
  cases hf with
  | ret a => simp [step1]
  | getForm c k hc hk | getNeg c k hc hk | getExp c k hc hk | getCoeff c k hc hk =>
    simp [step1, ha c hc]; exact ⟨ha, hk _⟩
  | setForm c v p hc hp | setNeg c v p hc hp | setExp c v p hc hp | setCoeff c v p hc hp =>
    simp only [step1, true_and]
    have hout : ∀ (f : Dec → Dec) (g : Heap) c', ¬ W c' → upd g c f c' = g c' := fun f g c' hc' =>
      upd_other g (c := c) (L := c') (fun e => hc' (e ▸ hc)) f
    refine ⟨fun c' hc' => ?_, hp, hout _ h, hout _ h'⟩
    unfold upd
    rw [ha c' hc']

/-- solo execution for `k` steps (stuttering at `ret`) -/
def solo : Nat → Prog α → Heap → Prog α × Heap
  | 0, p, h => (p, h)
  | k+1, p, h => match step1 p h with
    | none => (p, h)
    | some (q, g) => solo k q g

/-- threads: a function from thread id to its current program; a schedule is a list of thread ids -/
def stepThread (ps : Nat → Prog α) (h : Heap) (i : Nat) : (Nat → Prog α) × Heap :=
  match step1 (ps i) h with
  | none => (ps, h)
  | some (q, g) => (fun j => if j = i then q else ps j, g)

def runSched : List Nat → (Nat → Prog α) → Heap → (Nat → Prog α) × Heap
  | [], ps, h => (ps, h)
  | i :: s, ps, h => let r := stepThread ps h i; runSched s r.1 r.2

/-- Invariant: every thread's current program and its view of the heap equal some prefix of its
solo run. -/
def Inv (R W : Nat → Cell → Prop) (ps0 : Nat → Prog α) (h0 : Heap) (ps : Nat → Prog α) (h : Heap) : Prop :=
  ∀ i, ∃ k, ps i = (solo k (ps0 i) h0).1 ∧
    agree (fun c => R i c ∨ W i c) h (solo k (ps0 i) h0).2 ∧ Foot (R i) (W i) (ps i)

theorem solo_succ (k : Nat) (p0 : Prog α) (h0 : Heap) :
    solo (k+1) p0 h0 = match step1 (solo k p0 h0).1 (solo k p0 h0).2 with
      | none => solo k p0 h0
      | some (q, g) => (q, g) := by
  induction k generalizing p0 h0 with
  | zero => cases hs : step1 p0 h0 <;> simp only [solo, hs]
  | succ k ih =>
    rw [solo]
    conv => rhs; rw [solo]
    cases hs : step1 p0 h0 with
    | none => simp only [hs]
    | some qg => exact ih qg.1 qg.2

theorem interleave_inv (R W : Nat → Cell → Prop) (ps0 : Nat → Prog α) (h0 : Heap)
    (hdisj : ∀ i j, i ≠ j → ∀ c, W j c → ¬ (R i c ∨ W i c))
    (s : List Nat) (ps : Nat → Prog α) (h : Heap) (hinv : Inv R W ps0 h0 ps h) :
    Inv R W ps0 h0 (runSched s ps h).1 (runSched s ps h).2 := by
  induction s generalizing ps h with
  | nil => simpa [runSched]
  | cons t s ih =>
    simp only [runSched]
    apply ih
    intro i
    obtain ⟨k, hk1, hk2, hk3⟩ := hinv i
    obtain ⟨kt, ht1, ht2, ht3⟩ := hinv t
    unfold stepThread
    cases hst : step1 (ps t) h with
    | none => exact ⟨k, hk1, hk2, hk3⟩
    | some qg =>
      obtain ⟨q, g⟩ := qg
      -- facts about thread t's step, compared with its solo copy
      have key := step1_agree ht3 ht2
      rw [hst] at key
      cases hst' : step1 (ps t) (solo kt (ps0 t) h0).2 with
      | none => simp [hst'] at key
      | some qg' =>
        obtain ⟨q', g'⟩ := qg'
        simp only [hst'] at key
        obtain ⟨hq, hag, hfq, hout, _⟩ := key
        by_cases e : i = t
        · subst e
          have := solo_succ kt (ps0 i) h0
          refine ⟨kt + 1, ?_, ?_, ?_⟩
          · rw [this, ← ht1, hst']; simp [hq]
          · rw [this, ← ht1, hst']; simpa using hag
          · simpa using hfq
        · refine ⟨k, ?_, ?_, ?_⟩
          · simp [e, hk1]
          · intro c hc
            have hnw : ¬ W t c := fun hw => hdisj i t e c hw hc
            show g c = _
            rw [hout c hnw]; exact hk2 c hc
          · simpa [e] using hk3

theorem Inv.init (R W : Nat → Cell → Prop) (ps0 : Nat → Prog α) (h0 : Heap)
    (hf : ∀ i, Foot (R i) (W i) (ps0 i)) : Inv R W ps0 h0 ps0 h0 :=
  fun i => ⟨0, rfl, fun _ _ => rfl, hf i⟩

theorem run_step1 {p q : Prog α} {h g : Heap} (hs : step1 p h = some (q, g)) : run p h = run q g := by
  cases p <;> simp [step1] at hs <;> obtain ⟨rfl, rfl⟩ := hs <;> rfl

theorem run_solo (k : Nat) (p : Prog α) (h : Heap) :
    run (solo k p h).1 (solo k p h).2 = run p h := by
  induction k generalizing p h with
  | zero => rfl
  | succ k ih =>
    simp only [solo]
    cases hs : step1 p h with
    | none => rfl
    | some qg => obtain ⟨q, g⟩ := qg; simp only []; rw [ih, run_step1 hs]

theorem solo_ret {k : Nat} {p : Prog α} {h : Heap} {a : α} (hk : (solo k p h).1 = .ret a) :
    run p h = (a, (solo k p h).2) := by
  rw [← run_solo k p h, hk]; rfl

end Apd.Imp
