import ApdVerif.Imp.Ops
import ApdVerif.Model.TransLog
/-!
# Store-level programs of the composite functions: Sqrt, Cbrt, Exp, Ln, Log10, Pow (core Lean only, executable)

Transcribed from `/repo/context.go` (`rootSpecials`, `Sqrt`, `sqrtSettle`, `Cbrt`, `Exp`, `integerPower`, `logSpecials`,
`Ln`, `Log10`, `Pow`) with the conventions of `Imp/Ops.lean`:

* the pointer parameters `d`, `x`, `y` are cells / `Src`s; every read of a field of `x`, `y` and every write of a
  field of `d` appears at the point and in the order where Go performs it; whatever reads an operand after `d` has
  been written reads the cell again (`approx.Set(d)`, `t.Cmp(d)`, `sq.Coeff.Mul(&d.Coeff, &d.Coeff)` in Sqrt,
  `ed.Mul(&z, d, d)` in Cbrt, `ed.Abs(&tmp, x)` / `ed.Mul(&tmp, z, &tmp)` in Pow, …);
* Go locals (`var f, approx, z Decimal`, the `ErrDecimal`, loop counters, `nc`) are Lean values.  Computation that
  touches locals only (the Newton loops, the series, the `ErrDecimal` bookkeeping, `ed.Ln(&tmp, &tmp)` in Pow) is
  pure and is computed by the helpers of `Model/Trans.lean` / `Model/TransLog.lean`; the blocks "between the copy-in
  and the write-out" are the pure functions `sqrtNewton`, `sqrtSettleT`, `cbrtNewton`, `lnPre`, `lnBody`, `powMid`
  below, which repeat the text of the corresponding part of the value-level model on the values that were read
  (proved equal to the model's parts: `sqrtNewton_eq` of `Lemmas/C05TransLemmas.lean` with `SqrtD.sqrtOp_eq` of
  `Lemmas/SqrtDefs.lean` for Sqrt, `lnT_eq` of `Lemmas/TransLogRuns.lean` for Ln, `cbrtOp_eq`, `expT_cp`,
  `log10T_eq`, `powT_eq` of `Lemmas/C05Trans*.lean`);
* a call of a `Context` method whose DESTINATION is a Go local but whose operands are heap cells
  (`ed.Mul(&z, d, d)` in Cbrt, `nc.Quo(&r, x, &k)` in Exp, `nc.Ln(&z, x)` in Log10, `nc.integerPower(z, x, …)` with the
  fresh `z` of Pow, `ed.Abs(&tmp, x)`, `ed.Mul(&tmp, z, &tmp)`) is the store-level program of that method run with the
  local *virtualised*: `localize L p v` serves every access of `p` to the cell `L` from the local value `v` (and
  returns its final value); all other accesses stay heap accesses in the same order.  `L` is an address different
  from every cell the call touches (`freshCell`);
* the float64-steered decisions of Exp / Ln come from the same decision tape as in `Model/TransLog.lean`; the
  programs return `none` exactly when the value-level model does (fuel, tape mismatch).

`runTransOp` / `execTransOp` at the end are the executable entry points (op names "sqrt", "cbrt", "exp", "ln", "log10",
"pow").
-/
namespace Apd.Imp
open Apd Apd.Cond Prog

/-! ## Go locals as virtual cells -/

/-- run `p` with cell `L` turned into a local variable holding `v`: reads of `L` are served from the local, writes
to `L` update it, every other access is unchanged; returns the result and the final value of the local -/
def localize (L : Cell) : Prog α → Dec → Prog (α × Dec)
  | .ret a, v => .ret (a, v)
  | .getForm c k, v => if c = L then localize L (k v.form) v else .getForm c (fun f => localize L (k f) v)
  | .getNeg c k, v => if c = L then localize L (k v.neg) v else .getNeg c (fun f => localize L (k f) v)
  | .getExp c k, v => if c = L then localize L (k v.exp) v else .getExp c (fun f => localize L (k f) v)
  | .getCoeff c k, v => if c = L then localize L (k v.coeff) v else .getCoeff c (fun f => localize L (k f) v)
  | .setForm c f p, v => if c = L then localize L p { v with form := f } else .setForm c f (localize L p v)
  | .setNeg c f p, v => if c = L then localize L p { v with neg := f } else .setNeg c f (localize L p v)
  | .setExp c f p, v => if c = L then localize L p { v with exp := f } else .setExp c f (localize L p v)
  | .setCoeff c f p, v => if c = L then localize L p { v with coeff := f } else .setCoeff c f (localize L p v)

/-- an address for a Go local that differs from the three pointer arguments -/
def freshCell (a b c : Cell) : Cell := a + b + c + 1

/-- the cell an operand pointer points to (`0` for a package constant or a Go local passed by value) -/
def Src.addr : Src → Cell
  | .cell c => c
  | .const _ => 0

/-- `local.Set(x)`: the four fields of `x` in the order of `Decimal.setSlow` -/
def snapP (x : Src) : Prog Dec := do
  let f ← rdForm x
  let n ← rdNeg x
  let e ← rdExp x
  let cf ← rdCoeff x
  pure { form := f, neg := n, exp := e, coeff := cf }

/-- `return 0, err` / `return flags, err` without the `goError` conversion -/
def retErr (fl : Cond) (e : ErrKind) : Prog Res := pure (fl, e, 0)

/-! ## `rootSpecials`, `Sqrt` -/

/-- `Context.rootSpecials(d, x, factor)`: `some` = the result has been set -/
def rootSpecialsP (c : Ctx) (d : Cell) (x : Src) (factor : Int) : Prog (Option (Cond × ErrKind)) := do
  let isn ← shouldSetAsNaNP x none
  if isn then do
    let r ← setAsNaNP c d x none
    pure (some r)
  else do
    let xf ← rdForm x
    if xf == .infinite then do
      let xn ← rdNeg x
      if xn && factor % 2 == 0 then do
        setDec d (.const decNaN)
        pure (some (cInvalidOp, goError c.traps cInvalidOp))
      else do
        setDec d x
        pure (some ({}, .none))
    else do
      let sg ← signP x
      if sg == -1 then
        if factor % 2 == 0 then do
          setDec d (.const decNaN)
          pure (some (cInvalidOp, goError c.traps cInvalidOp))
        else pure none
      else if sg == 0 then do
        setDec d x
        let de ← rdExp (.cell d)                         -- d.Exponent /= factor
        wrExp d (Int.tdiv de factor)
        let res ← roundP c d (.cell d) true
        pure (some (res, goError c.traps res))
      else pure none

/-- `Context.Sqrt` between `f.Set(x)` and `ed.Err()`: everything on the locals `f`, `approx`, `tmp`, `nc`, `ed`.
Arguments: the digit count read for `workp`, the copy `f` of `x`, the digit count and the exponent read for `e`.
Returns the `ErrDecimal`, `approx`, `e` and `f` (with the scaled exponent). -/
def sqrtNewton (c : Ctx) (ndw : Nat) (f0 : Dec) (nd : Nat) (xe : Int) : ED × Dec × Int × Dec :=
  let workp := c.prec + 1
  let workp := if workp < ndw then ndw else workp
  let workp := if workp < 7 then 7 else workp
  let e0 : Int := (nd : Int) + xe
  let nc : Ctx := { c with prec := workp, mode := .halfEven, emin := MinExponent, emax := MaxExponent }
  let ed : ED := { c := nc }
  let even := (Int.tmod e0 2 == 0)
  let f : Dec := { f0 with exp := if even then -(nd : Int) else -(nd : Int) - 1 }
  let e : Int := if even then e0 else e0 + 1
  let a0 : Dec := if even then { coeff := 819, exp := -3 } else { coeff := 259, exp := -2 }
  let k0 : Dec := if even then { coeff := 259, exp := -3 } else { coeff := 819, exp := -4 }
  let r1 := ed.step a0 (fun c => mulOp c a0 f)
  let r2 := r1.1.step r1.2 (fun c => addOp c r1.2 k0 false)
  let r := sqrtLoop 64 r2.1 f r2.2 3 (workp + 5)
  (r.1, r.2, e, f)

/-- the part of `sqrtSettle` that works on its locals `t`, `mid`, `sq`: `none` = return 0 before `d` is looked at,
`some t` = the candidate to compare with `d` -/
def sqrtSettleT (nc : Ctx) (approx x : Dec) : Option Dec :=
  let dn := ctxRound { nc with mode := .down } approx
  if !dn.2.inexact || dn.1.form != .finite || (ndigits dn.1.coeff != nc.prec && !dn.2.subnormal) then none else
  let t := dn.1
  let mid : Dec := { t with coeff := t.coeff * 10 + 5, exp := t.exp - 1 }
  let sq : Dec := { coeff := mid.coeff * mid.coeff, exp := 2 * mid.exp }
  let cmp := sq.cmp x
  some (
    if cmp < 0 || (cmp == 0 && t.coeff % 2 == 1) then
      let c1 := t.coeff + 1
      if ndigits c1 > nc.prec then { t with coeff := c1 / 10, exp := t.exp + 1 } else { t with coeff := c1 }
    else t)

/-- `sqrtSettle(nc, d, &approx, &f)`: `approx` and `f` are locals of `Sqrt` -/
def sqrtSettleP (nc : Ctx) (d : Cell) (approx x : Dec) : Prog Cond :=
  match sqrtSettleT nc approx x with
  | none => pure {}
  | some t => do
    let cm ← cmpP (.const t) (.cell d)                   -- t.Cmp(d)
    if cm == 0 then pure {} else roundP nc d (.const t) true

/-- `flag && d.Form == Finite` (Go's `&&` reads `d.Form` only when `flag` holds) -/
def andFiniteP (flag : Bool) (d : Cell) : Prog Bool :=
  if flag then do
    let df ← rdForm (.cell d)
    pure (df == .finite)
  else pure false

/-- `if res.Inexact() && d.Form == Finite { res |= sqrtSettle(nc, d, &approx, &f) }` -/
def sqrtSettleIfP (ncw : Ctx) (d : Cell) (approx fx : Dec) (res : Cond) : Prog Cond := do
  let settle ← andFiniteP res.inexact d
  if settle then do
    let s ← sqrtSettleP ncw d approx fx
    pure (res ||| s)
  else pure res

/-- the exactness re-check at the end of `Sqrt` and `return nc.goError(res)` -/
def sqrtExactP (nc2 : Ctx) (d : Cell) (fx : Dec) (res : Cond) : Prog Res := do
  let chk ← andFiniteP (!res.inexact) d                  -- if !res.Inexact() && d.Form == Finite
  if chk then do
    let c1 ← rdCoeff (.cell d)                           -- sq.Coeff.Mul(&d.Coeff, &d.Coeff)
    let c2 ← rdCoeff (.cell d)
    let de ← rdExp (.cell d)                             -- sq.Exponent = 2 * d.Exponent
    let sq : Dec := { coeff := c1 * c2, exp := 2 * de }
    if sq.cmp fx != 0 then retFlags nc2 (res ||| cInexact ||| cRounded)
    else retFlags nc2 res
  else retFlags nc2 res

/-- `Context.Sqrt` from `d.Set(&approx)` on: `approx`, `e` and `f` are the locals after the loop -/
def sqrtFinishP (c : Ctx) (d : Cell) (approx : Dec) (e : Int) (f : Dec) : Prog Res := do
  setDec d (.const approx)                               -- d.Set(&approx)
  let de ← rdExp (.cell d)                               -- d.Exponent += int32(e / 2)
  wrExp d (de + Int.tdiv e 2)
  let nc2 : Ctx := { c with prec := c.prec, mode := .halfEven }
  let ncw : Ctx := { nc2 with emax := MaxExponent }
  let approx ← snapP (.cell d)                           -- approx.Set(d)
  let fx : Dec := { f with exp := f.exp + e }            -- f.Exponent += int32(e)
  let res ← roundP ncw d (.cell d) true                  -- res := nc.round(d, d)
  let res ← sqrtSettleIfP ncw d approx fx res
  let r2 ← roundP nc2 d (.cell d) true                   -- nc.MaxExponent = c.MaxExponent; res |= nc.round(d, d)
  sqrtExactP nc2 d fx (res ||| r2)

/-- `Context.Sqrt` -/
def sqrtP (c : Ctx) (d : Cell) (x : Src) : Prog Res := do
  let sp ← rootSpecialsP c d x 2
  match sp with
  | some r => pure (r.1, r.2, 0)
  | none => do
    let ndw ← numDigitsP x                               -- workp: uint32(x.NumDigits())
    let f0 ← snapP x                                     -- f.Set(x)
    let nd ← numDigitsP x                                -- nd := x.NumDigits()
    let xe ← rdExp x                                     -- e := nd + int64(x.Exponent)
    let it := sqrtNewton c ndw f0 nd xe
    if it.1.failed then retErr {} it.1.errOf             -- if err := ed.Err(); err != nil { return 0, err }
    else sqrtFinishP c d it.2.1 it.2.2.1 it.2.2.2

/-! ## `ErrDecimal` calls that touch the heap -/

/-- `ed.Op(&cur, …)` where the call `p` reads heap cells: skipped when `ed.Err() != nil`, else `p` runs under
`ed.Ctx`, its flags are accumulated and its error recorded; `p` returns the result triple and the new value of the
destination local `cur` -/
def edStepP (e : ED) (cur : Dec) (p : Ctx → Prog (Res × Dec)) : Prog (ED × Dec) :=
  if e.failed then pure (e, cur) else do
    let r ← p e.c
    pure ({ e with fl := e.fl ||| r.1.1, err := r.1.2.1 }, r.2)

/-! ## `Cbrt` -/

/-- `Context.Cbrt` between `z.Set(&ax)` and the end of the Newton loop, on the locals `z`, `z0`, `ed`, `nc`, `exp8`,
`loop`: `none` = out of fuel, `inl err` = `return 0, err`, `inr (z, flags)` = the loop is done -/
def cbrtNewton (c : Ctx) (ax : Dec) : Option (Sum ErrKind (Dec × Cond)) :=
  let nc : Ctx := { baseCtx with prec := c.prec * 2 + 2 }
  let ed : ED := { c := nc }
  match scaleLoop (fun z => z.cmp decOneEighth < 0) decEight 400000 ed ax 0 with
  | none => none
  | some (.inl er) => some (.inl er)                       -- if err := ed.Err(); err != nil { return 0, err }
  | some (.inr (ed, z, down)) =>
  match scaleLoop (fun z => z.cmp decOne > 0) decOneEighth 400000 ed z 0 with
  | none => none
  | some (.inl er) => some (.inl er)                       -- if err := ed.Err(); err != nil { return 0, err }
  | some (.inr (ed, z, up)) =>
    let z0 := z
    let r1 := ed.step z (fun c => mulOp c z cbrtC1)
    let r2 := r1.1.step r1.2 (fun c => addOp c r1.2 cbrtC2 false)
    let r3 := r2.1.step r2.2 (fun c => mulOp c r2.2 z0)
    let r4 := r3.1.step r3.2 (fun c => addOp c r3.2 cbrtC3 false)
    let r5 := if down > up then mulN decHalf (down - up) r4.1 r4.2 else mulN decTwo (up - down) r4.1 r4.2
    let maxIter := 10 + (c.prec + 1)
    match cbrtIter nc ((c.prec : Int) + 1) maxIter ax (maxIter + 2) r5.1 r5.2 {} with
    | none => none
    | some (.inl er) => some (.inl er)
    | some (.inr z) => some (.inr (z, r5.1.fl))

/-- the exactness check at the end of `Cbrt`: `nc.Precision = c.Precision * 3; ed.Mul(&z, d, d); ed.Mul(&z, &z, d)`,
then the three returns.  `z0` is the copy of `x`, `z` the iterate, `fl` the flags of the `ErrDecimal`, `res`/`err`
what `c.goError(rc.round(d, &z))` returned. -/
def cbrtCheckP (c : Ctx) (d : Cell) (z0 z : Dec) (fl res : Cond) (err : ErrKind) : Prog Res := do
  let nc3 : Ctx := { baseCtx with prec := c.prec * 3 }   -- nc.Precision = c.Precision * 3
  let e : ED := { c := nc3, fl := fl, err := .none }
  let L := freshCell d d d                               -- the address of the local `z`
  let q1 ← edStepP e z (fun cc => localize L (mulP cc L (.cell d) (.cell d)) z)           -- ed.Mul(&z, d, d)
  let q2 ← edStepP q1.1 q1.2 (fun cc => localize L (mulP cc L (.cell L) (.cell d)) q1.2) -- ed.Mul(&z, &z, d)
  if q2.1.failed then retErr {} q2.1.errOf               -- if err := ed.Err(); err != nil { return 0, err }
  else if z0.cmp q2.2 == 0 then retErr {} .none          -- if z0.Cmp(&z) == 0 { return 0, nil }
  else retErr res err

/-- `Context.Cbrt` from `z0.Set(x)` on: `z` is the converged iterate, `fl` the flags of the `ErrDecimal`, `neg` the
sign read at the start -/
def cbrtFinishP (c : Ctx) (d : Cell) (x : Src) (neg : Bool) (z : Dec) (fl : Cond) : Prog Res := do
  let z0 ← snapP x                                       -- z0.Set(x)
  let rc : Ctx := { c with mode := .halfEven }           -- rc := c.WithPrecision(c.Precision); rc.Rounding = RoundHalfEven
  let res ← roundP rc d (.const z) true                  -- res := rc.round(d, &z)
  let err := goError c.traps res                         -- res, err := c.goError(res)
  wrNeg d neg                                            -- d.Negative = neg
  cbrtCheckP c d z0 z fl res err

/-- `Context.Cbrt`; `none` = the model ran out of fuel -/
def cbrtP (c : Ctx) (d : Cell) (x : Src) : Prog (Option Res) := do
  let sp ← rootSpecialsP c d x 3
  match sp with
  | some r => pure (some (r.1, r.2, 0))
  | none => do
    let ax0 ← snapP x                                    -- ax.Abs(x): ax.Set(x); ax.Negative = false
    let ax : Dec := { ax0 with neg := false }
    let neg ← rdNeg x                                    -- neg := x.Negative
    match cbrtNewton c ax with
    | none => pure none
    | some (.inl er) => do
      let r ← retErr {} er
      pure (some r)
    | some (.inr zf) => do
      let r ← cbrtFinishP c d x neg zf.1 zf.2
      pure (some r)

/-! ## `integerPower` -/

/-- `ed.Op(z, …)` where the destination `z` is a heap cell: skipped when `ed.Err() != nil`, else `p` runs under
`ed.Ctx`, its flags are accumulated and its error recorded -/
def edStepCellP (e : ED) (p : Ctx → Prog Res) : Prog ED :=
  if e.failed then pure e else do
    let r ← p e.c
    pure { e with fl := e.fl ||| r.1, err := r.2.1 }

/-- the square-and-multiply loop of `Context.integerPower`: `z` is the cell `d`, `n` and `b` are locals.
Returns the `ErrDecimal` (the model's `intPowLoop` also returns `z`, which here is `d`'s contents). -/
def intPowLoopP : Nat → ED → Nat → Cell → Dec → Prog ED
  | 0, e, _, _, _ => pure e
  | fuel+1, e, b, d, n =>
    if b == 0 then pure e else do
      let e1 ← (if b % 2 == 1 then edStepCellP e (fun cc => mulP cc d (.cell d) (.const n))   -- ed.Mul(z, z, &n)
                else pure e)
      let b' := b / 2                                      -- b.Rsh(&b, 1)
      let r2 := if b' > 0 then e1.step n (fun cc => mulOp cc n n) else (e1, n)            -- ed.Mul(&n, &n, &n)
      if r2.1.failed then pure r2.1 else intPowLoopP fuel r2.1 b' d r2.2

/-- `Context.integerPower(d, x, y)`: flags and error class (`d` and `x` must not be the same `Decimal`) -/
def integerPowerP (c : Ctx) (d : Cell) (x : Src) (y : Int) : Prog (Cond × ErrKind) := do
  let b := y.natAbs                                        -- b.Set(y); neg := b.Sign() < 0; b.Abs(&b)
  let neg := decide (y < 0)
  let n ← snapP x                                          -- n.Set(x)
  setDec d (.const decOne)                                 -- z := d; z.Set(decimalOne)
  let e ← intPowLoopP (Nat.log2 b + 2) { c := c } b d n
  if e.failed then
    pure ((if neg then e.fl.negateOverflowFlags else e.fl), e.errOf)
  else do
    let q ← (if neg then edStepCellP e (fun cc => quoP cc d (.const decOne) (.cell d))    -- ed.Quo(z, decimalOne, z)
             else pure e)
    pure (q.fl, q.errOf)

/-! ## `Exp` -/

/-- `Decimal.SetFinite(x, e)` = `setCoefficient(x); d.Exponent = e` -/
def setFiniteP (d : Cell) (v : Int) (e : Int) : Prog Unit := do
  wrNeg d (decide (v < 0))
  wrCoeff d v.natAbs                                       -- d.Coeff.SetInt64(x)
  let cf ← rdCoeff (.cell d)                               -- d.Coeff.Abs(&d.Coeff)
  wrCoeff d cf
  wrForm d .finite
  wrExp d e

/-- a result with the remaining tape -/
def retT (r : Res) (tape : Tape) : Prog (Option (Res × Tape)) := pure (some (r, tape))

/-- `Context.Exp` from stage 4's `integerPower` on: `sum`, `t` are locals, `res0 = Inexact | Rounded` -/
def expFinishP (c nc : Ctx) (d : Cell) (sum : Dec) (t : Nat) : Prog Res := do
  let ip ← integerPowerP nc d (.const sum) ((10 : Int) ^ t)   -- ires, err := nc.integerPower(d, &sum, ki)
  if ip.2 != .none then retErr {} ip.2                      -- return 0, fmt.Errorf("integer power: %w", err)
  else do
    let res := (cInexact ||| cRounded) ||| ip.1
    -- nc.Precision = c.Precision; nc.MinExponent = c.MinExponent; nc.MaxExponent = c.MaxExponent
    let rr ← roundP { c with mode := .halfEven } d (.cell d) true
    retFlags c (res ||| rr)

/-- the working precision of `Exp` after the correction for the float64 rounding of `|x|` (the text of `expT`) -/
def expCp (ax : Dec) (cp : Nat) : Nat :=
  if cp < 999 && ax.cmp { coeff := (cp + 1) * 23 } ≤ 0 && ax.cmp { coeff := cp * 23 } > 0 then cp + 1 else cp

/-- stages 3 and 4 of `Context.Exp`: `r` is the reduced argument, `nc` the working context, `t` the exponent of `k`;
the tape supplies the number of series terms -/
def expSeriesP (c nc : Ctx) (d : Cell) (r : Dec) (t : Nat) (tape : Tape) : Prog (Option (Res × Tape)) :=
  match tape with
  | .n n :: tape =>
    if n < 0 then retT ({}, .other, 0) tape                -- "too many iterations"
    else
      let s := expSeries r (n.toNat - 1) { c := nc } decOne
      if s.1.failed then retT ({}, s.1.errOf, 0) tape
      else do
        let r ← expFinishP c nc d s.2 t
        retT r tape
  | _ => pure none

/-- `Context.Exp` from the overflow test on: `ax` is `|x|` (the local `tmp1`), `cp` the working precision -/
def expMainP (c : Ctx) (d : Cell) (x : Src) (ax : Dec) (cp : Nat) (tape : Tape) : Prog (Option (Res × Tape)) :=
  let res0 := cInexact ||| cRounded
  if ax.cmp { coeff := cp * 23 } > 0 then do
    let res := res0 ||| cOverflow
    let sg ← signP x
    if sg < 0 then do
      let res := res.negateOverflowFlags ||| cClamped
      setFiniteP d 0 (c.emin - (c.prec : Int) + 1)         -- d.SetFinite(0, c.etiny())
      retT (res, goError c.traps res, 0) tape
    else do
      setDec d (.const decInf)
      retT (res, goError c.traps res, 0) tape
  else if ax.cmp { coeff := 9, exp := -(cp : Int) - 1 } ≤ 0 then do
    setDec d (.const decOne)
    retT (res0, goError c.traps res0, 0) tape
  else do
    let xe ← rdExp x                                       -- t := x.Exponent + int32(x.NumDigits())
    let nd ← numDigitsP x
    let t0 : Int := xe + (nd : Int)
    let t : Nat := if t0 < 0 then 0 else t0.toNat
    let k : Dec := { coeff := 1, exp := t }
    let p : Nat := cp + t + 2
    let nc : Ctx := { c with prec := p, mode := .halfEven, emin := MinExponent, emax := MaxExponent }
    let L := freshCell d x.addr 0                          -- the address of the local `r`
    let qr ← localize L (quoP nc L x (.const k)) {}        -- nc.Quo(&r, x, &k)
    if qr.1.2.1 != .none then retT ({}, qr.1.2.1, 0) tape  -- return 0, fmt.Errorf("Quo: %w", err)
    else expSeriesP c nc d qr.2 t tape

/-- `Context.Exp`; the tape supplies the working precision `cp` and the number of series terms `n` -/
def expP (c : Ctx) (d : Cell) (x : Src) (tape : Tape) : Prog (Option (Res × Tape)) := do
  let isn ← shouldSetAsNaNP x none
  if isn then do
    let r ← setAsNaNP c d x none
    retT (r.1, r.2, 0) tape
  else do
    let xf ← rdForm x
    if xf == .infinite then do
      let xn ← rdNeg x
      (if xn then setDec d (.const decZero) else setDec d (.const decInf))
      retT ({}, .none, 0) tape
    else do
      let xz ← isZeroP x
      if xz then do
        setDec d (.const decOne)
        retT ({}, .none, 0) tape
      else if c.prec == 0 then retT ({}, .zeroPrec, 0) tape
      else do
        let t1 ← snapP x                                   -- tmp1.Abs(x)
        let ax : Dec := { t1 with neg := false }
        match tape with
        | .cp cp :: tape => expMainP c d x ax (expCp ax cp) tape
        | _ => pure none

/-! ## `logSpecials`, `Ln`, `Log10` -/

/-- `Context.logSpecials(d, x)`: `some` = the result has been set -/
def logSpecialsP (c : Ctx) (d : Cell) (x : Src) : Prog (Option (Cond × ErrKind)) := do
  let isn ← shouldSetAsNaNP x none
  if isn then do
    let r ← setAsNaNP c d x none
    pure (some r)
  else do
    let sg ← signP x
    if sg < 0 then do
      setDec d (.const decNaN)
      pure (some (cInvalidOp, goError c.traps cInvalidOp))
    else do
      let xf ← rdForm x
      if xf == .infinite then do
        setDec d (.const decInf)
        pure (some ({}, .none))
      else do
        let c0 ← cmpP x (.const decZero)
        if c0 == 0 then do
          setDec d (.const decInf)
          wrNeg d true
          pure (some ({}, .none))
        else do
          let c1 ← cmpP x (.const decOne)
          if c1 == 0 then do
            setDec d (.const decZero)
            pure (some ({}, .none))
          else pure none

/-- `Context.Ln` after `z.Set(x)` up to the choice between the power series and Halley's iteration, on the locals:
`(ed, z, tmp1, resAdjust, usePowerSeries, tape)` (the text of `lnT`) -/
def lnPre (c : Ctx) (x : Dec) (tape : Tape) : Option (ED × Dec × Dec × Dec × Bool × Tape) :=
  let p := c.prec + 2
  let nc : Ctx := { c with prec := p, mode := .halfEven, emin := MinExponent, emax := MaxExponent }
  let ed : ED := { c := nc }
  let tenth : Dec := { coeff := 1, exp := -1 }
  let a1 := ed.step decZero (fun c => addOp c x decOne true)
  if a1.2.absD.cmp tenth ≤ 0 then some (a1.1, x, a1.2, decZero, true, tape)
  else
    let expDelta : Int := (ndigits x.coeff : Int) + x.exp
    let z : Dec := { x with exp := x.exp - expDelta }
    let ra0 : Dec := { neg := decide (expDelta < 0), coeff := expDelta.natAbs }
    let a2 := a1.1.step ra0 (fun c => mulOp c ra0 (ln10At p))
    let a3 := a2.1.step a1.2 (fun c => addOp c z decOne true)
    if a3.2.absD.cmp tenth ≤ 0 then some (a3.1, z, a3.2, a2.2, true, tape)
    else
      match tape with
      | .est d :: tape => some (a3.1, z, d, a2.2, false, tape)
      | _ => none

/-- the power series / Halley's iteration of `Context.Ln`, on the locals (the text of `lnT`) -/
def lnBody (c : Ctx) (ed : ED) (z tmp1 : Dec) (series : Bool) (tape : Tape) :
    Option (ED × Sum ErrKind Dec × Tape) :=
  let p := c.prec + 2
  let nc : Ctx := { c with prec := p, mode := .halfEven, emin := MinExponent, emax := MaxExponent }
  let tenth : Dec := { coeff := 1, exp := -1 }
  if series then
    let b1 := ed.step tenth (fun c => addOp c tmp1 decTwo false)
    let b2 := b1.1.step tmp1.absD (fun c => quoOp c tmp1 b1.2)
    let b3 := b2.1.step b1.2 (fun c => addOp c b2.2 b2.2 false)
    let eps : Dec := { coeff := 1, exp := -(p : Int) }
    match lnSeries eps b2.2 (p + 10) 1 b3.1 b3.2 b3.2 with
    | none => none
    | some (e, r) => some (e, r, tape)
  else
    let maxIter := 10 + (c.prec + 1)
    lnHalley nc ((c.prec : Int) + 1) maxIter z (maxIter + 2) ed tmp1 {} tape

/-- `Context.Ln` from `ed.Add(&tmp1, &tmp1, &resAdjust)` on -/
def lnFinishP (c : Ctx) (d : Cell) (ed : ED) (tmp1 resAdjust : Dec) : Prog Res :=
  let f := ed.step tmp1 (fun cc => addOp cc tmp1 resAdjust false)   -- ed.Add(&tmp1, &tmp1, &resAdjust)
  if f.1.failed then retErr {} f.1.errOf                    -- if err := ed.Err(); err != nil { return 0, err }
  else do
    let res ← roundP c d (.const f.2) true                  -- res := c.round(d, &tmp1)
    retFlags c (res ||| cInexact ||| cRounded)                           -- res |= Inexact; return c.goError(res)

/-- `Context.Ln`; the tape supplies the float64 starting estimate of Halley's iteration (and the decisions of the
`Exp` calls inside it) -/
def lnP (c : Ctx) (d : Cell) (x : Src) (tape : Tape) : Prog (Option (Res × Tape)) := do
  let sp ← logSpecialsP c d x
  match sp with
  | some r => retT (r.1, r.2, 0) tape
  | none => do
    let z ← snapP x                                         -- z.Set(x)
    match lnPre c z tape with
    | none => pure none
    | some (ed, z, tmp1, resAdjust, series, tape) => do
      -- nc.newLoop("ln", x, …) keeps a copy of its argument: new(Decimal).Set(arg)
      (if series then pure () else do let _ ← snapP x; pure ())
      match lnBody c ed z tmp1 series tape with
      | none => pure none
      | some (_, .inl er, tape) => retT ({}, er, 0) tape
      | some (ed, .inr tmp1, tape) => do
        let r ← lnFinishP c d ed tmp1 resAdjust
        retT r tape

/-- `Context.Log10` -/
def log10P (c : Ctx) (d : Cell) (x : Src) (tape : Tape) : Prog (Option (Res × Tape)) := do
  let sp ← logSpecialsP c d x
  match sp with
  | some r => retT (r.1, r.2, 0) tape
  | none => do
    let nc : Ctx := { baseCtx with prec := c.prec + 2, mode := .halfEven }
    let L := freshCell d x.addr 0                           -- the address of the local `z`
    let lr ← localize L (lnP nc L x tape) {}                -- _, err := nc.Ln(&z, x)
    match lr.1 with
    | none => pure none
    | some (l, tape) =>
      if l.2.1 != .none then retT ({}, l.2.1, 0) tape       -- return 0, fmt.Errorf("ln: %w", err)
      else do
        -- nc.Precision = c.Precision; qr, err := nc.Mul(d, &z, decimalInvLn10.get(c.Precision+2))
        let m ← mulP { nc with prec := c.prec } d (.const lr.2) (.const (invLn10At (c.prec + 2)))
        if m.2.1 != .none then retT ({}, m.2.1, 0) tape
        else do
          let rr ← roundP c d (.cell d) true                -- res |= c.round(d, d)
          let res := (cInexact ||| cRounded) ||| m.1 ||| rr
          retT (res, goError c.traps res, 0) tape

/-! ## `Pow` -/

/-- `y.Modf(&integ, &frac)` with both outputs Go locals: `(integ, frac)` -/
def modfLoc2 (d : Src) : Prog (Dec × Dec) := do
  let neg ← rdNeg d
  let e0 ← rdExp d
  if e0 > 0 then do
    let i ← snapP d                                         -- integ.Set(d)
    pure (i, { form := .finite, neg := neg, exp := 0, coeff := 0 })
  else do
    let nd ← numDigitsP d
    let dexp ← rdExp d
    let exp : Int := -dexp
    if exp > (nd : Int) then do
      let f ← snapP d                                       -- frac.Set(d)
      pure ({ form := .finite, neg := neg, exp := 0, coeff := 0 }, f)
    else do
      let e := 10 ^ exp.toNat
      let dc ← rdCoeff d                                    -- icoeff.QuoRem(&d.Coeff, e, &frac.Coeff)
      pure ({ form := .finite, neg := neg, exp := 0, coeff := dc / e },
            { form := .finite, neg := neg, exp := dexp, coeff := dc % e })

/-- the middle of `x**frac(y)` in `Context.Pow`, on the local `tmp`: `ed.Ln(&tmp, &tmp); ed.Mul(&tmp, &tmp, &frac);
ed.Exp(&tmp, &tmp)` (the text of `powT`); `none` = the tape does not fit -/
def powMid (nc : Ctx) (s1 : ED × Dec) (frac : Dec) (tape : Tape) : Option (ED × Dec × Tape) :=
  let s2 : Option (ED × Dec × Tape) :=
    if s1.1.failed then some (s1.1, s1.2, tape) else
    match lnT nc s1.2 tape with
    | none => none
    | some (o, tape) => some ({ s1.1 with fl := s1.1.fl ||| o.fl, err := o.err }, o.d, tape)
  match s2 with
  | none => none
  | some (e2, tmp, tape) =>
    let s3 := e2.step tmp (fun c => mulOp c tmp frac)
    if s3.1.failed then some (s3.1, s3.2, tape) else
    match expT nc s3.2 tape with
    | none => none
    | some (o, tape) => some ({ s3.1 with fl := s3.1.fl ||| o.fl, err := o.err }, o.d, tape)

/-- `Context.Pow` after the integer power when `y` is not an integer: `zs` points to `z` (the cell `d`, or the value
of the fresh local when `d == x`), `tmp0` is the local `tmp` (it holds `|y|`) -/
def powFracP (c nc : Ctx) (d : Cell) (x zs : Src) (frac tmp0 : Dec) (neg : Bool) (res : Cond) (tape : Tape) :
    Prog (Option (Res × Tape)) := do
  let L := freshCell d x.addr zs.addr                       -- the address of the local `tmp`
  let ed : ED := { c := nc }
  let s1 ← edStepP ed tmp0 (fun cc => localize L (absP cc L x) tmp0)          -- ed.Abs(&tmp, x)
  match powMid nc s1 frac tape with
  | none => pure none
  | some (e4, tmp, tape) => do
    let s5 ← edStepP e4 tmp (fun cc => localize L (mulP cc L zs (.cell L)) tmp)   -- ed.Mul(&tmp, z, &tmp)
    if s5.1.failed then do                                  -- if err := ed.Err(); err != nil {
      setDec d (.const decNaN)                              --   d.Set(decimalNaN)
      retT (s5.1.fl, s5.1.errOf, 0) tape                    --   return ed.Flags, err }
    else do
      let rr ← roundP c d (.const s5.2) true                -- res |= c.round(d, &tmp)
      wrNeg d neg                                           -- d.Negative = neg
      let res := res ||| rr ||| cInexact ||| cRounded
      retT (res, goError c.traps res, 0) tape

/-- `Context.Pow` after `nc.integerPower(z, x, …)`: `zs` points to `z`, `ip` is what `integerPower` returned, `qfl` the
flags of `c.quantize(&integ, &integ, 0)` -/
def powRestP (c nc : Ctx) (d : Cell) (x zs : Src) (ip : Cond × ErrKind) (qfl : Cond) (frac tmp0 : Dec)
    (yIsInt neg : Bool) (tape : Tape) : Prog (Option (Res × Tape)) :=
  let res := qfl ||| ip.1                                   -- res |= nres
  if ip.2 != .none then do
    setDec d (.const decNaN)                                -- d.Set(decimalNaN); return res, err
    retT (res, ip.2, 0) tape
  else if yIsInt then do
    let rr ← roundP c d zs true                             -- res |= c.round(d, z)
    let res := res ||| rr
    retT (res, goError c.traps res, 0) tape
  else powFracP c nc d x zs frac tmp0 neg res tape

/-- `Context.Pow` from `p := c.Precision` on (no special case applies) -/
def powMainP (c : Ctx) (d : Cell) (x : Src) (integ0 frac tmp0 : Dec) (yIsInt neg : Bool) (tape : Tape) :
    Prog (Option (Res × Tape)) := do
  let nd ← numDigitsP x                                     -- if nd := uint32(x.NumDigits()); p < nd { p = nd }
  let p := (if c.prec < nd then nd else c.prec) + 10
  let nc : Ctx := { baseCtx with prec := p }
  let qi := quantizeCore c integ0 0                         -- res := c.quantize(&integ, &integ, 0)
  let integ : Int := if qi.1.neg then -(qi.1.coeff : Int) else (qi.1.coeff : Int)
  -- z := d; if z == x { z = new(Decimal) };  nres, err := nc.integerPower(z, x, …)
  if x = .cell d then do
    let L := freshCell d x.addr 0                           -- the address of the fresh `z`
    let r ← localize L (integerPowerP nc L x integ) {}
    powRestP c nc d x (.const r.2) r.1 qi.2 frac tmp0 yIsInt neg tape
  else do
    let r ← integerPowerP nc d x integ
    powRestP c nc d x (.cell d) r qi.2 frac tmp0 yIsInt neg tape

/-- `Context.Pow` -/
def powP (c : Ctx) (d : Cell) (x y : Src) (tape : Tape) : Prog (Option (Res × Tape)) := do
  let isn ← shouldSetAsNaNP x (some y)
  if isn then do
    let r ← setAsNaNP c d x (some y)
    retT (r.1, r.2, 0) tape
  else do
    let m ← modfLoc2 y                                      -- y.Modf(&integ, &frac)
    let yIsInt := m.2.isZero
    -- neg := x.Negative && y.Form == Finite && yIsInt && integ.Coeff.Bit(0) == 1 && integ.Exponent == 0
    let xn ← rdNeg x
    let yfin ← (if xn then do let yf ← rdForm y; pure (yf == .finite) else pure false)
    let neg := xn && yfin && yIsInt && m.1.coeff % 2 == 1 && m.1.exp == 0
    let xf ← rdForm x
    if xf == .infinite then do
      let ys ← signP y
      let res ← (if ys == 0 then do
                   setDec d (.const decOne); pure ({} : Cond)
                 else do
                   let xn ← rdNeg x
                   let bad ← (if xn then do let yf ← rdForm y; pure (yf == .infinite || !yIsInt) else pure false)
                   if bad then do
                     setDec d (.const decNaN); pure cInvalidOp
                   else do
                     let yn ← rdNeg y
                     (if yn then setDec d (.const decZero) else setDec d (.const decInf))
                     pure {})
      wrNeg d neg
      retT (res, goError c.traps res, 0) tape
    else do
      let t0 ← snapP y                                      -- tmp.Abs(y)
      let tmp0 : Dec := { t0 with neg := false }
      let xs ← signP x
      let ys ← signP y
      if xs == 0 then do
        let res ← (if ys == 0 then do
                     setDec d (.const decNaN); pure cInvalidOp
                   else if ys == 1 then do
                     setDec d (.const decZero); pure ({} : Cond)
                   else do
                     setDec d (.const decInf); pure {})
        wrNeg d neg
        retT (res, goError c.traps res, 0) tape
      else if ys == 0 then do
        setDec d (.const decOne)
        retT ({}, .none, 0) tape
      else do
        let yf ← rdForm y
        if yf == .infinite then do
          let cmp ← cmpP x (.const decOne)
          let res ← (if xs < 0 then do
                       setDec d (.const decNaN); pure cInvalidOp
                     else if cmp == 0 then do
                       setDec d (.const decOne); pure ({} : Cond)
                     else do
                       let yn ← rdNeg y
                       if (decide (cmp > 0)) != yn then do
                         setDec d (.const decInf); pure {}
                       else do
                         setDec d (.const decZero); pure {})
          retT (res, goError c.traps res, 0) tape
        else if xs < 0 && !yIsInt then do
          setDec d (.const decNaN)
          retT (cInvalidOp, goError c.traps cInvalidOp, 0) tape
        else powMainP c d x m.1 m.2 tmp0 yIsInt neg tape

/-! ## the table of composite operations -/

/-- the store-level program of a composite `Context` method, by the op names of `runCtxOp` / `runCtxOpT`
(`Model/Dispatch.lean`); `d`, `x`, `y` are the pointer arguments (any of them may coincide); unary ops ignore `y`;
`tape` is the decision tape of the float64-steered functions (returned unchanged by `sqrt` and `cbrt`).  The program
returns `none` when the value-level model does (fuel, tape mismatch). -/
def runTransOp (op : String) (c : Ctx) (d x y : Cell) (tape : Tape) : Option (Prog (Option (Res × Tape))) :=
  if op = "sqrt" then some (do let r ← sqrtP c d (.cell x); pure (some (r, tape)))
  else if op = "cbrt" then some (do let r ← cbrtP c d (.cell x); pure (r.map (fun r => (r, tape))))
  else if op = "exp" then some (expP c d (.cell x) tape)
  else if op = "ln" then some (lnP c d (.cell x) tape)
  else if op = "log10" then some (log10P c d (.cell x) tape)
  else if op = "pow" then some (powP c d (.cell x) (.cell y) tape)
  else none

/-- run a composite operation on a heap; returns the result (triple and remaining tape) and the final heap -/
def execTransOp (op : String) (c : Ctx) (d x y : Cell) (tape : Tape) (h : Heap) :
    Option (Option (Res × Tape) × Heap) :=
  (runTransOp op c d x y tape).map (fun p => run p h)

end Apd.Imp
